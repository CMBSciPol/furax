/-
`reduce()` for every operator class, the two n-ary rules and the thirteen registered binary rules
(src/furax/_base/rules.py, core.py, blocks.py, indices.py, linear.py, axes.py, operators/*.py).
The binary rules are plugged into the generic `scan` of FuraxModel/Scan.lean, so the theorems proved
about `scan` apply to this very function.
-/
import FuraxModel.Scan
import FuraxModel.Arith
import FuraxModel.IndexRule
namespace Furax
open Op

/-- `IdentityRule.apply` -/
def identityRule (ops : List Op) : List Op := ops.filter (fun o => !o.isIdentity)

/-- `HomothetyRule.apply` -/
def homothetyRule (ops : List Op) : List Op :=
  match ops, ops.getLast? with
  | first :: _ :: _, some last =>
    let homs := ops.filter isHomothety
    let value : Rat := homs.foldl (fun acc o => acc * o.homValue) 1
    let newOps := ops.filter (fun o => !o.isHomothety)
    if homs.length == 0 then ops
    else
      let applyOnLeft := first.outSize ≤ last.inSize
      if homs.length == 1 && ((applyOnLeft && first.isHomothety) || (!applyOnLeft && last.isHomothety))
      then ops
      else if applyOnLeft then mkHomothety value (outS first) :: newOps
      else newOps ++ [mkHomothety value (inS last)]
  | _, _ => ops

abbrev BRule := Rule Op PyErr

/-- angles of a `QURotationOperator` -/
def anglesOf : Op → Tensor Rat
  | .leaf _ .qurot p => p.vals
  | _ => ⟨[], []⟩

def mkQURot (angles : Tensor Rat) (s : Struct) : Op :=
  .leaf 0 .qurot { inS := s, outS := s, vals := angles }

def tensorOp (f : Rat → Rat → Rat) (a b : Tensor Rat) : Except PyErr (Tensor Rat) :=
  match Tensor.zipBroadcast f a b with
  | some t => .ok t
  | none => .error .valueError

/-- `InverseBinaryRule` -/
def inverseBinaryRule : BRule where
  name := "InverseBinaryRule"
  fire l r :=
    if !(l.isLazyInverse || r.isLazyInverse) then .ok none
    else if l.isLazyInverse then
      match l.operator? with
      | some o => if same o r then .ok (some []) else .ok none
      | none => .ok none
    else
      match r.operator? with
      | some o => if same o l then .ok (some []) else .ok none
      | none => .ok none

/-- `MoveAxisInverseRule` -/
def moveAxisInverseRule : BRule where
  name := "MoveAxisInverseRule"
  fire l r :=
    match l, r with
    | .leaf _ .moveAxis pl, .leaf _ .moveAxis pr =>
      -- ints = [source, destination]
      if pl.ints.getD 0 [] != pr.ints.getD 1 [] || pl.ints.getD 1 [] != pr.ints.getD 0 [] then .ok none
      else .ok (some [])
    | _, _ => .ok none

/-- `ReshapeInverseRule` -/
def reshapeInverseRule : BRule where
  name := "ReshapeInverseRule"
  fire l r :=
    if !(l.isRavelOrReshape || l.isReshapeT) then .ok none
    else if !(r.isRavelOrReshape || r.isReshapeT) then .ok none
    else if l.isRavelOrReshape then
      if !r.isReshapeT then .ok none
      else match r.operator? with
        | some o => if same o l then .ok (some []) else .ok none
        | none => .ok none
    else
      if !r.isRavelOrReshape then .ok none
      else match l.operator? with
        | some o => if same o r then .ok (some []) else .ok none
        | none => .ok none

/-- `PackUnpackRule` -/
def packUnpackRule : BRule where
  name := "PackUnpackRule"
  fire l r :=
    if !l.isPack then .ok none
    else if !r.isTransposeOperator then .ok none
    else match r.operator? with
      | some o => if same o l then .ok (some []) else .ok none
      | none => .ok none

/-- the four block rules (`AbstractBlockDiagonalRule.apply`):
`[reduced_class(left._tree_map(lambda l, r: l @ r, right.blocks)).reduce()]`.
Containers of different pytree shape are not combined (NoReduction). -/
def blockRule (red : Op → Except PyErr Op) (name : String) (lk rk res : ContCls) : BRule where
  name := name
  fire l r :=
    match l, r with
    | .cont _ lk' ltd lops, .cont _ rk' rtd rops =>
      if lk' == lk && rk' == rk then
        if ltd != rtd || lops.length != rops.length then .ok none
        else do
          let prods ← (lops.zip rops).mapM fun (p : Op × Op) => pyMatmul p.1 p.2
          let c' ← red (.cont 0 res ltd prods)
          pure (some [c'])
      else .ok none
    | _, _ => .ok none

/-- `IndexTransposeRule` -/
def indexTransposeRule : BRule where
  name := "IndexTransposeRule"
  fire l r :=
    match l with
    | .leaf _ .index p =>
      if !r.isTransposeOperator then .ok none
      else match r.operator? with
        | some o => if !same o l then .ok none else if !p.flag then .ok none else .ok (some [])
        | none => .ok none
    | _ => .ok none

/-- `TransposeIndexRule` -/
def transposeIndexRule : BRule where
  name := "TransposeIndexRule"
  fire l r :=
    match r with
    | .leaf _ .index p =>
      if !l.isTransposeOperator then .ok none
      else match l.operator? with
        | none => .ok none
        | some o =>
          if !same o r then .ok none
          else
            let axes := indexedAxes p.idx
            if axes.length > 1 then .ok none
            else if p.flag then .ok none
            else if ((p.inS.leaves.map (·.dtype)).eraseDups).length > 1 then .ok none
            else
              let shapes := (p.inS.leaves.map (·.shape)).eraseDups
              if shapes.length > 1 then .ok none
              else match shapes.head?, axes.head? with
                | some shape, some axis =>
                  match pyGet? p.idx axis, pyGet? shape axis with
                  | some (.iarr _ vals), some sizeMax =>
                    let cov := ruleCoverage sizeMax vals
                    .ok (some [.leaf 0 .diagonal
                      { inS := p.inS, outS := p.inS,
                        vals := ⟨[sizeMax], cov.map (fun (c : Nat) => (c : Rat))⟩,
                        ints := [[axis]] }])
                  | some (.iarr _ _), none => .error .indexError
                  | _, _ => .error .assertion
                | _, _ => .error .indexError
    | _ => .ok none

/-- `QURotationRule` -/
def quRotationRule : BRule where
  name := "QURotationRule"
  fire l r :=
    if !(l.isQURot || l.isQURotT) then .ok none
    else if !(r.isQURot || r.isQURotT) then .ok none
    else
      let la := match l with | .wrap _ _ o => anglesOf o | _ => anglesOf l
      let ra := match r with | .wrap _ _ o => anglesOf o | _ => anglesOf r
      let angles : Except PyErr (Tensor Rat) :=
        if l.isQURot then
          (if r.isQURot then tensorOp (· + ·) la ra else tensorOp (· - ·) la ra)
        else
          (if r.isQURot then tensorOp (· - ·) ra la else tensorOp (· - ·) (la.map (- ·)) ra)
      match angles with
      | .error e => .error e
      | .ok a => .ok (some [mkQURot a (inS r)])

/-- `QURotationHWPRule` -/
def quRotationHWPRule : BRule where
  name := "QURotationHWPRule"
  fire l r :=
    if !(l.isQURot || l.isQURotT) then .ok none
    else if !r.isHWP then .ok none
    else match l with
      | .wrap _ _ o => .ok (some [r, o])
      | _ => .ok (some [r, .wrap 0 .qurotT l])

/-- `LinearPolarizerHWPRule` -/
def linearPolarizerHWPRule : BRule where
  name := "LinearPolarizerHWPRule"
  fire l r := if l.isPolarizer && r.isHWP then .ok (some [l]) else .ok none

/-- `BINARY_RULE_REGISTRY`, in registration order (the order is pinned against the source by the
translator, see FuraxProofs/Props/C01.lean) -/
def binaryRules (red : Op → Except PyErr Op) : List BRule :=
  [ inverseBinaryRule, moveAxisInverseRule, reshapeInverseRule, packUnpackRule,
    blockRule red "BlockRowBlockDiagonalRule" .blockRow .blockDiag .blockRow,
    blockRule red "BlockDiagonalBlockColumnRule" .blockDiag .blockCol .blockCol,
    blockRule red "BlockDiagonalBlockDiagonalRule" .blockDiag .blockDiag .blockDiag,
    blockRule red "BlockRowBlockColumnRule" .blockRow .blockCol .add,
    indexTransposeRule, transposeIndexRule, quRotationRule, quRotationHWPRule,
    linearPolarizerHWPRule ]

/-- `new_ops = identity_rule.apply(new_ops)` right after a rule fired -/
def dropIdentities (ru : BRule) : BRule where
  name := ru.name
  fire l r :=
    match ru.fire l r with
    | .ok (some new) => .ok (some (identityRule new))
    | other => other

def reductionCfg (red : Op → Except PyErr Op) : Cfg Op PyErr where
  rules := (binaryRules red).map dropIdentities
  isHom := isHomothety
  homRule := homothetyRule

/-- enough for every chain: each step either advances or fires a rule, see `scanFuel_enough`
(FuraxProofs/Lemmas/ReduceMeasure.lean) -/
def scanFuel (n : Nat) : Nat := 8 * (n + 2) * (n + 2) + 32

/-- `AlgebraicReductionRule.apply` -/
def algebraicReduction (red : Op → Except PyErr Op) (ops : List Op) : Except PyErr (List Op) :=
  if ops.length < 2 then .ok ops
  else
    let inStruct := inSLast ops
    let ops2 := homothetyRule (identityRule ops)
    match scan (reductionCfg red) (scanFuel ops2.length) ops2 0 with
    | .error e => .error e
    | .ok none => .error .fuel
    | .ok (some res) => if res.isEmpty then .ok [mkIdentity inStruct] else .ok res

/-- `op.reduce()` -/
def reduce : Nat → Op → Except PyErr Op
  | 0, _ => .error .fuel
  | fuel+1, o =>
    match o with
    | .leaf _ .index p =>
      if (indexedAxes p.idx).length == 0 then .ok (mkIdentity p.inS) else .ok o
    | .leaf _ .ravel p => if p.outS == p.inS then .ok (mkIdentity p.inS) else .ok o
    | .leaf _ .reshape p => if p.outS == p.inS then .ok (mkIdentity p.inS) else .ok o
    | .leaf .. => .ok o
    | .wrap .. => .ok o
    | .comp _ ops => do
      let ops' ← ops.mapM (reduce fuel)
      let res ← algebraicReduction (reduce fuel) ops'
      match res with
      | [] => pure (mkIdentity (inS o))
      | [x] => pure x
      | _ => pure (mkComp res)
    | .cont _ .add td ops => do
      let ops' ← ops.mapM (reduce fuel)
      match ops' with
      | [x] => pure x
      | _ => pure (.cont 0 .add td ops')
    | .cont _ k td ops => do
      let ops' ← ops.mapM (reduce fuel)
      if k == .blockDiag && ops'.all isIdentity then pure (mkIdentity (inS o))
      else pure (.cont 0 k td ops')

/-- fuel for `reduce`: nesting depth of the expression plus slack -/
def Op.depth : Op → Nat
  | .leaf .. => 1
  | .wrap _ _ o => 1 + o.depth
  | .comp _ ops => 1 + depthList ops
  | .cont _ _ _ ops => 1 + depthList ops
where depthList : List Op → Nat
  | [] => 0
  | o :: os => max o.depth (depthList os)

def reduceTop (o : Op) : Except PyErr Op := reduce (2 * o.depth + 8) o

end Furax
