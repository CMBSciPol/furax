import FuraxProofs.Lemmas.Scan
import FuraxProofs.Lemmas.OpEq
import FuraxProofs.Lemmas.Nary
import FuraxProofs.Lemmas.ScanOn
import FuraxProofs.Lemmas.ReduceEval
import FuraxProofs.Lemmas.RuleSound
import FuraxProofs.Lemmas.ReduceSound
import FuraxProofs.Lemmas.RuleLawsModel
import FuraxProofs.Sem.ListModel
import FuraxProofs.Sem.AdjointList
import FuraxProofs.Sem.LinearList
import FuraxProofs.Sem.InverseList
import FuraxProofs.Props.C04Closed
import FuraxProofs.Sem.BlockMatrixList
import FuraxProofs.Props.C10Closed
import FuraxProofs.Props.C01
import FuraxProofs.Props.C07
import FuraxProofs.Lemmas.ScalarSide
import FuraxProofs.Props.C07Side
import FuraxProofs.Lemmas.ArithSound
import FuraxProofs.Lemmas.ScalarModel
import FuraxProofs.Lemmas.Tables
import FuraxProofs.Lemmas.ArithNegSub
import FuraxProofs.Props.C02
import FuraxProofs.Props.C15
import FuraxProofs.Lemmas.ToeplitzSums
import FuraxProofs.Lemmas.ToeplitzDense
import FuraxProofs.Props.C09
import FuraxProofs.Sem.ToeplitzLeaf
import FuraxProofs.Sem.ToeplitzList
import FuraxProofs.Props.C09Closed
import FuraxProofs.Lemmas.AxesBasic
import FuraxProofs.Props.C13
import FuraxProofs.Props.C19
import FuraxProofs.Lemmas.MoveAxisPerm
import FuraxProofs.Lemmas.Pixel
import FuraxProofs.Props.C17
import FuraxProofs.Lemmas.GatherScatter
import FuraxProofs.Props.C12
import FuraxProofs.Lemmas.EinsumAdjoint
import FuraxProofs.Props.C14
import FuraxProofs.Props.C20
import FuraxProofs.Props.C08
import FuraxProofs.Sem.TagsList
import FuraxProofs.Props.C08Closed
import FuraxProofs.Props.C18
import FuraxProofs.Lemmas.DiagonalSpec
import FuraxProofs.Props.C11
import FuraxProofs.Lemmas.BlockLaws
import FuraxProofs.Props.C10
import FuraxProofs.Props.C06
import FuraxProofs.Props.C05
import FuraxProofs.Props.C04
import FuraxProofs.Lemmas.TransposeAdjoint
import FuraxProofs.Props.C03
import FuraxProofs.Props.C16
import FuraxProofs.Sem.AcquisitionList
import FuraxProofs.Props.C16Closed
import FuraxProofs.Lemmas.BasicIndexNodup
import FuraxProofs.Lemmas.MaskIndexNodup
import FuraxProofs.Props.C12Basic
import FuraxProofs.Lemmas.EinsumEvalSpec
import FuraxProofs.Lemmas.EinsumEvalEllipsis
import FuraxProofs.Props.C14Eval
import FuraxProofs.Lemmas.SplitOnReadBack
import FuraxProofs.Sem.DenseLeaf
import FuraxProofs.Props.C14Closed
import FuraxProofs.Sem.DotList
import FuraxProofs.Sem.AddList
import FuraxProofs.Sem.DenseMatrix
import FuraxProofs.Sem.ValidDecide
import FuraxProofs.Props.ValidClosed
import FuraxProofs.Lemmas.ComplexDot
import FuraxProofs.Props.C20Complex
import FuraxProofs.Sem.AxesClosed
import FuraxProofs.Sem.DiagonalClosed
import FuraxProofs.Props.C11Closed
import FuraxProofs.Props.C13Closed
import FuraxProofs.Props.C15Closed
import FuraxProofs.Lemmas.ScanTerminates
import FuraxProofs.Lemmas.ReduceMeasure
import FuraxProofs.Props.C01Terminates
import FuraxProofs.Lemmas.ReduceFuel
import FuraxProofs.Props.C01Fuel
