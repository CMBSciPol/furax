/-
Negation and subtraction of operators, complete (property C02).

`-a` on an `AdditionOperator` negates every summand (`ops.mapM (pyRmul (-1))`) and builds a new sum over the same
container; on any other operator it is `(-1) * a`.  `a - b` is `a + (-b)`.  The file ends with the two statements in
the list denotation (`ListSem.neg_den_closed`, `ListSem.sub_den_closed`, which is why it imports
FuraxProofs/Sem/ListModel.lean) and a subtraction the model evaluates (`ListSem.Examples`).
-/
import FuraxProofs.Lemmas.ArithSound
import FuraxProofs.Sem.ListModel
namespace Furax
open Op

theorem mapM_ok_forall₂ {α β ε : Type} (f : α → Except ε β) :
    ∀ (l : List α) (l' : List β), l.mapM f = .ok l' → List.Forall₂ (fun a b => f a = .ok b) l l'
  | [], _, h => except_mapM_nil_ok h ▸ .nil
  | _ :: l, _, h =>
    let ⟨_, bs, hb, hbs, e⟩ := except_mapM_cons_ok h
    e ▸ .cons hb (mapM_ok_forall₂ f l bs hbs)

/-- `-a` on a sum negates the summands one by one and keeps the container -/
theorem Op.pyNeg_add_ok {u : Nat} {td : TreeDef} {ops : List Op} {r : Op} (h : pyNeg (.cont u .add td ops) = .ok r) :
    ∃ ops', ops.mapM (pyRmul (-1)) = .ok ops' ∧ r = .cont 0 .add td ops' := by
  obtain ⟨ops', hm, h⟩ := except_bind_eq_ok h
  exact ⟨ops', hm, (Except.ok.inj h).symm⟩

namespace ArithSem
variable {V : Type} (A : ArithSem V)

theorem neg_summands (ops ops' : List Op)
    (hs : ∀ o ∈ ops, StructOK o) (hi : ∀ o ∈ ops, A.LazyInvertible o)
    (h : List.Forall₂ (fun o o' => pyRmul (-1) o = .ok o') ops ops') :
    inSHead ops' = inSHead ops ∧ outSHead ops' = outSHead ops ∧
    ∀ x, (∀ o ∈ ops, A.mem (Op.inS o) x) →
      ops'.map (fun o => A.den o x) = (ops.map (fun o => A.den o x)).map (A.smul (-1)) := by
  induction h with
  | nil => exact ⟨rfl, rfl, fun _ _ => rfl⟩
  | @cons o o' os os' hr _ ih =>
    obtain ⟨hso, hs'⟩ := List.forall_mem_cons.mp hs
    obtain ⟨hio, hi'⟩ := List.forall_mem_cons.mp hi
    obtain ⟨hI, hO, hD⟩ := A.pyRmul_den (-1) o o' (WFtop_of_StructOK o hso) hso hio hr
    refine ⟨hI, hO, fun x hx => ?_⟩
    obtain ⟨hxo, hx'⟩ := List.forall_mem_cons.mp hx
    rw [List.map_cons, List.map_cons, List.map_cons, hD x hxo, (ih hs' hi').2.2 x hx']

/-- **`-a` for a sum `a`**: every summand is negated, the container is kept; the result has the structures of `a`
and denotes minus the map.  `StructOK a` gives that the summands are structurally well formed, share both
structures and are at least one; `hi`: the lazy inverses among the summands wrap invertible operands. -/
theorem pyNeg_den_add (u : Nat) (td : TreeDef) (ops : List Op) (r : Op)
    (has : StructOK (.cont u .add td ops)) (hi : ∀ o ∈ ops, A.LazyInvertible o)
    (h : pyNeg (.cont u .add td ops) = .ok r) :
    (∃ ops', ops.mapM (pyRmul (-1)) = .ok ops' ∧ ops'.length = ops.length ∧ r = .cont 0 .add td ops') ∧
    Op.inS r = Op.inS (.cont u .add td ops) ∧ Op.outS r = Op.outS (.cont u .add td ops) ∧
    ∀ x, A.mem (Op.inS (.cont u .add td ops)) x →
      A.den r x = A.smul (-1) (A.den (.cont u .add td ops) x) := by
  obtain ⟨_, hs, _, hshare⟩ := (StructOK_cont_iff _ _ _ _).mp has
  obtain ⟨ops', hm, rfl⟩ := pyNeg_add_ok h
  have hf := mapM_ok_forall₂ _ _ _ hm
  obtain ⟨hI, hO, hD⟩ := A.neg_summands ops ops' hs hi hf
  refine ⟨⟨ops', hm, hf.length_eq.symm, rfl⟩, hI, hO, fun x hx => ?_⟩
  rw [A.add_law, A.add_law, hD x (fun o ho => (hshare o ho).1 ▸ hx), A.smul_sum]

/-- **what `-a` needs of its operand**: `a` is structurally well formed (`StructOK`: what the constructors
guarantee; for a sum, the summands are structurally well formed, share both structures and are at least one) and
every lazy inverse among its summands — `a` itself when it is not a sum — wraps an invertible operand. -/
def NegOK (a : Op) : Prop := StructOK a ∧ ∀ o ∈ summands a, A.LazyInvertible o

theorem NegOK.of_add {u : Nat} {td : TreeDef} {ops : List Op} (has : StructOK (.cont u .add td ops))
    (hi : ∀ o ∈ ops, A.LazyInvertible o) : A.NegOK (.cont u .add td ops) :=
  ⟨has, hi⟩

theorem NegOK.of_not_add {a : Op} (has : StructOK a) (hai : A.LazyInvertible a) (hns : a.isAdd = false) :
    A.NegOK a :=
  ⟨has, by rw [summands_not_add a hns]; intro o ho; rw [List.mem_singleton.mp ho]; exact hai⟩

/-- **`-a` denotes minus the map, for every operand** (sum or not), and has the structures of `a`. -/
theorem pyNeg_den_full (a r : Op) (ha : A.NegOK a) (h : pyNeg a = .ok r) :
    Op.inS r = Op.inS a ∧ Op.outS r = Op.outS a ∧
    ∀ x, A.mem (Op.inS a) x → A.den r x = A.smul (-1) (A.den a x) := by
  rcases isAdd_cases a with ⟨u, td, ops, rfl⟩ | hns
  · exact (A.pyNeg_den_add u td ops r ha.1 ha.2 h).2
  · have hai : A.LazyInvertible a :=
      ha.2 a (by rw [summands_not_add a hns]; exact List.mem_singleton_self a)
    exact A.pyNeg_den a r (WFtop_of_StructOK a ha.1) ha.1 hai hns h

/-- **`k * a` is a scalar operator, an identity or a non-empty composition**: whatever `a` is, the result satisfies
`WFtop` (no hypothesis on `a`). -/
theorem pyRmul_WFtop (k : Rat) (a r : Op) (h : pyRmul k a = .ok r) : WFtop r := by
  rcases pyMatmul_ok h with ⟨_, rfl⟩ | ⟨_, ⟨hi, _⟩ | ⟨_, _, rfl⟩ | ⟨_, rfl⟩ | rfl⟩
  · exact WFtop_leaf _ _ _
  · cases hi
  · exact WFtop_leaf _ _ _
  · exact WFtop_leaf _ _ _
  · exact WFtop_mkComp _ (List.cons_ne_nil _ _)

/-- **`-b` satisfies `WFtop`**: a sum with as many summands as `b` when `b` is a (non-empty) sum, `(-1) * b`
otherwise.  Only the top-level condition on `b` is used. -/
theorem pyNeg_WFtop (b r : Op) (hb : WFtop b) (h : pyNeg b = .ok r) : WFtop r := by
  rcases isAdd_cases b with ⟨u, td, ops, rfl⟩ | hns
  · obtain ⟨ops', hm, rfl⟩ := pyNeg_add_ok h
    rw [WFtop_add_iff] at hb ⊢
    intro hnil
    subst hnil
    exact hb (List.length_eq_zero_iff.mp (mapM_ok_forall₂ _ _ _ hm).length_eq)
  · exact pyRmul_WFtop (-1) b r (pyNeg_of_not_add b hns ▸ h)

/-- **`a - b` denotes the difference of the maps**: it is `a + (-b)`, a new sum over the summands of `a` followed
by those of `-b`; the structures agree as for `+`. -/
theorem pySub_den (a b r : Op) (ha : WFtop a) (hb : A.NegOK b) (h : pySub a b = .ok r) :
    Op.inS a = Op.inS b ∧ Op.outS a = Op.outS b ∧ Op.inS r = Op.inS a ∧ Op.outS r = Op.outS a ∧
    (∃ nb, pyNeg b = .ok nb ∧ WFtop nb ∧ pyAdd a nb = .ok r ∧
      ∃ u td, r = .cont u .add td (summands a ++ summands nb)) ∧
    ∀ x, A.mem (Op.inS a) x → A.den r x = A.add (A.den a x) (A.smul (-1) (A.den b x)) := by
  obtain ⟨_, _, h⟩ := except_bind_eq_ok h
  obtain ⟨nb, hn, h⟩ := except_bind_eq_ok h
  obtain ⟨nI, nO, nD⟩ := A.pyNeg_den_full b nb hb hn
  have hnb : WFtop nb := pyNeg_WFtop b nb (WFtop_of_StructOK b hb.1) hn
  obtain ⟨h1, h2, h3, h4, h5, h6⟩ := A.pyAdd_den a nb r ha h
  refine ⟨h1.trans nI, h2.trans nO, h3, h4, ⟨nb, hn, hnb, h, h5⟩, fun x hx => ?_⟩
  rw [h6 x, nD x (by rw [← nI, ← h1]; exact hx)]

end ArithSem

namespace ListSem

/-- `-A` negates every entry of the result, for every operand (sum or not) -/
theorem neg_den_closed (E : Env) (a r : Op) (ha : (listArithSem E).NegOK a) (h : pyNeg a = .ok r) :
    Op.inS r = Op.inS a ∧ Op.outS r = Op.outS a ∧
    ∀ x : List ℝ, x.length = (Op.inS a).size → den E r x = vsmul (-1) (den E a x) :=
  (listArithSem E).pyNeg_den_full a r ha h

/-- `A - B` computes the entry-wise difference of the two results -/
theorem sub_den_closed (E : Env) (a b r : Op) (ha : ArithSem.WFtop a) (hb : (listArithSem E).NegOK b)
    (h : pySub a b = .ok r) :
    Op.inS a = Op.inS b ∧ Op.outS a = Op.outS b ∧ Op.inS r = Op.inS a ∧ Op.outS r = Op.outS a ∧
    ∀ x : List ℝ, x.length = (Op.inS a).size →
      den E r x = vadd (den E a x) (vsmul (-1) (den E b x)) :=
  let ⟨h1, h2, h3, h4, _, h6⟩ := (listArithSem E).pySub_den a b r ha hb h
  ⟨h1, h2, h3, h4, h6⟩

/-! ### non-vacuity: a subtraction of a sum that the model really evaluates -/

namespace Examples

def sumBB : Op := .cont 3 .add td2 [opB, opB]

theorem sub_ex_red : pySub opB sumBB = .ok (.cont 0 .add (listTd 3)
    [opB, mkComp [mkHomothety (-1) s2, opB], mkComp [mkHomothety (-1) s2, opB]]) := by
  with_unfolding_all rfl

theorem sumBB_negOK (E : Env) : (listArithSem E).NegOK sumBB := by
  have hmem : ∀ o ∈ [opB, opB], o = opB := by simp
  refine ArithSem.NegOK.of_add _ ((StructOK_cont_iff _ _ _ _).mpr ⟨by simp, fun o ho => ?_, rfl, fun o ho => ?_⟩)
    fun o ho => ?_
  · rw [hmem o ho]; exact StructOK_leaf _ _ _
  · rw [hmem o ho]; exact ⟨rfl, rfl⟩
  · rw [hmem o ho]; exact ArithSem.lazyInvertible_leaf _ _ _ _

/-- `B - (B + B)` computes `B x - (B x + B x)` entry by entry -/
theorem sub_ex_den (E : Env) (x : List ℝ) (hx : x.length = 3) :
    den E (.cont 0 .add (listTd 3)
      [opB, mkComp [mkHomothety (-1) s2, opB], mkComp [mkHomothety (-1) s2, opB]]) x
      = vadd (den E opB x) (vsmul (-1) (den E sumBB x)) :=
  (sub_den_closed E opB sumBB _ (ArithSem.WFtop_of_StructOK _ (StructOK_leaf _ _ _)) (sumBB_negOK E)
    sub_ex_red).2.2.2.2 x hx

end Examples

end ListSem


end Furax
