/-
Soundness of the arithmetic dunders modelled in FuraxModel/Arith.lean, for any semantics satisfying the
composite laws collected in `ArithSem` (a composition denotes the composite, a sum the pointwise sum, a lazy
inverse of an invertible operand its inverse).

What `a @ b` returns is stated once, without semantics: `Op.pyMatmul_eq` (closed form) and `Op.pyMatmul_ok` (the
successful outcomes), in terms of the flat factor lists `Op.factors`; everything about `@`, `k * a` and `a / k`
is derived from these.
-/
import FuraxModel.Arith
import FuraxProofs.Lemmas.Nary
namespace Furax
open Op

theorem eq_of_not_bne {s t : Struct} (h : ¬(s != t) = true) : s = t :=
  Decidable.of_not_not (mt bne_iff_ne.mpr h)

namespace Op

/-- the factors `a @ b` is built from: the operands of a composition (`CompositionOperator.__matmul__` and
`__rmatmul__` flatten compositions on either side), the operator itself otherwise -/
def factors : Op → List Op
  | .comp _ ops => ops
  | o => [o]

theorem inSLast_factors (o : Op) : inSLast (factors o) = inS o := by cases o <;> rfl

theorem outSHead_factors (o : Op) : outSHead (factors o) = outS o := by cases o <;> rfl

theorem lazyInverseOf_cases (b a : Op) (h : lazyInverseOf b a = true) :
    ∃ u k, b = .wrap u k a ∧ (k = .inverse ∨ k = .qurotT ∨ k = .diagInv) := by
  cases b with
  | wrap u k o =>
    simp only [lazyInverseOf, Bool.and_eq_true, Bool.or_eq_true, beq_iff_eq] at h
    obtain rfl := Op.same_eq _ _ h.2
    exact ⟨u, k, rfl, or_assoc.mp h.1⟩
  | _ => cases h

/-- every leaf class but `IdentityOperator` and `HomothetyOperator` inherits `__matmul__` from the base class -/
theorem matmulOf_leaf (u : Nat) (c : LeafCls) (p : Params) (b : Op) (hi : c ≠ .identity) (hh : c ≠ .homothety) :
    matmulOf (.leaf u c p) b = baseMatmul (.leaf u c p) b := by
  cases c <;> first | rfl | exact absurd rfl hi | exact absurd rfl hh

theorem pyMatmul_of_error {a b : Op} {e : PyErr} (h : matmulOf a b = .error e) : pyMatmul a b = .error e := by
  unfold pyMatmul; rw [h]

theorem pyMatmul_of_some {a b r : Op} (h : matmulOf a b = .ok (some r)) : pyMatmul a b = .ok r := by
  unfold pyMatmul; rw [h]

/-- `a @ b` when `type(a).__matmul__` is the base method, the reflected `CompositionOperator.__rmatmul__`
included (it repeats the structure check that `__matmul__` has already made) -/
theorem pyMatmul_of_base (a b : Op) (hm : matmulOf a b = baseMatmul a b) :
    pyMatmul a b = if inS a != outS b then .error .valueError
      else if lazyInverseOf b a then .ok (mkIdentity (inS a)) else .ok (mkComp (a :: factors b)) := by
  split
  · next hs => exact pyMatmul_of_error (hm.trans (if_pos hs))
  · next hs =>
    cases b with
    | comp u ops =>
      have hn : matmulOf a (.comp u ops) = .ok none := hm.trans ((if_neg hs).trans (if_pos rfl))
      unfold pyMatmul
      rw [hn]
      exact if_neg (by rw [bne_comm]; exact hs)
    | _ =>
      have hb := hm.trans ((if_neg hs).trans (if_neg Bool.false_ne_true))
      split
      · next hl => exact pyMatmul_of_some (hb.trans (if_pos hl))
      · next hl => exact pyMatmul_of_some (hb.trans (if_neg hl))

theorem pyMatmul_comp (u : Nat) (ops : List Op) (b : Op) : pyMatmul (.comp u ops) b =
    if inS (.comp u ops) != outS b then .error .valueError else .ok (mkComp (ops ++ factors b)) := by
  split
  · next hs => exact pyMatmul_of_error (if_pos hs)
  · next hs => exact pyMatmul_of_some ((if_neg hs).trans (by cases b <;> rfl))

theorem pyMatmul_identity (u : Nat) (p : Params) (b : Op) : pyMatmul (.leaf u .identity p) b =
    if inS (.leaf u .identity p) != outS b then .error .valueError else .ok b := by
  split
  · next hs => exact pyMatmul_of_error (if_pos hs)
  · next hs => exact pyMatmul_of_some (if_neg hs)

theorem pyMatmul_homothety (u : Nat) (p : Params) (b : Op) (hb : b.isHomothety = true) :
    pyMatmul (.leaf u .homothety p) b =
      if inS (.leaf u .homothety p) != outS b then .error .valueError
      else .ok (mkHomothety ((Op.leaf u .homothety p).homValue * b.homValue) p.inS) := by
  split
  · next hs => exact pyMatmul_of_error ((if_pos hb).trans (if_pos hs))
  · next hs => exact pyMatmul_of_some ((if_pos hb).trans (if_neg hs))

/-- **what `a @ b` returns**, every construction-time shortcut in the order Python tries them: `A.I @ A` (no
structure check), the structure check, identity absorption, merging of two scalar factors, `A @ A.I`, and
otherwise the composition of the factors of both sides.  The conditions that do not depend on `b` are decided by
the constructor of `a`, which is how each case is matched with the corresponding arm of `matmulOf`. -/
theorem pyMatmul_eq (a b : Op) : pyMatmul a b =
    if lazyInverseOf a b then .ok (mkIdentity (inS a))
    else if inS a != outS b then .error .valueError
    else if a.isIdentity then .ok b
    else if a.isHomothety && b.isHomothety then .ok (mkHomothety (a.homValue * b.homValue) (inS a))
    else if !a.isComp && lazyInverseOf b a then .ok (mkIdentity (inS a))
    else .ok (mkComp (factors a ++ factors b)) := by
  cases a with
  | comp u ops => exact pyMatmul_comp u ops b
  | cont u k td os => exact pyMatmul_of_base _ b rfl
  | wrap u k o =>
    by_cases hl : lazyInverseOf (.wrap u k o) b = true
    · rw [if_pos hl]; exact pyMatmul_of_some (if_pos hl)
    · rw [if_neg hl]; exact pyMatmul_of_base _ b (if_neg hl)
  | leaf u c p =>
    by_cases hi : c = .identity
    · subst hi; exact pyMatmul_identity u p b
    by_cases hh : c = .homothety
    · subst hh
      by_cases hb : b.isHomothety = true
      · rw [hb]; exact pyMatmul_homothety u p b hb
      · rw [Bool.eq_false_iff.mpr hb]; exact pyMatmul_of_base _ b (if_neg hb)
    · have h1 : (Op.leaf u c p).isIdentity = false := beq_false_of_ne (Ne.symm hi)
      have h2 : (Op.leaf u c p).isHomothety = false := beq_false_of_ne (Ne.symm hh)
      rw [h1, h2]; exact pyMatmul_of_base _ b (matmulOf_leaf u c p b hi hh)

theorem pyMatmul_ok {a b r : Op} (h : pyMatmul a b = .ok r) :
    (lazyInverseOf a b = true ∧ r = mkIdentity (inS a)) ∨
    inS a = outS b ∧
      ((a.isIdentity = true ∧ r = b) ∨
       (a.isHomothety = true ∧ b.isHomothety = true ∧ r = mkHomothety (a.homValue * b.homValue) (inS a)) ∨
       (lazyInverseOf b a = true ∧ r = mkIdentity (inS a)) ∨
       r = mkComp (factors a ++ factors b)) := by
  rw [pyMatmul_eq] at h
  by_cases hl : lazyInverseOf a b = true
  · rw [if_pos hl] at h
    exact .inl ⟨hl, (Except.ok.inj h).symm⟩
  rw [if_neg hl] at h
  by_cases hs : (inS a != outS b) = true
  · rw [if_pos hs] at h
    cases h
  rw [if_neg hs] at h
  refine .inr ⟨eq_of_not_bne hs, ?_⟩
  by_cases hi : a.isIdentity = true
  · rw [if_pos hi] at h
    exact .inl ⟨hi, (Except.ok.inj h).symm⟩
  rw [if_neg hi] at h
  by_cases hh : (a.isHomothety && b.isHomothety) = true
  · rw [if_pos hh] at h
    obtain ⟨ha, hb⟩ := Bool.and_eq_true_iff.mp hh
    exact .inr (.inl ⟨ha, hb, (Except.ok.inj h).symm⟩)
  rw [if_neg hh] at h
  by_cases hl' : (!a.isComp && lazyInverseOf b a) = true
  · rw [if_pos hl'] at h
    exact .inr (.inr (.inl ⟨(Bool.and_eq_true_iff.mp hl').2, (Except.ok.inj h).symm⟩))
  · rw [if_neg hl'] at h
    exact .inr (.inr (.inr (Except.ok.inj h).symm))

/-- structurally incompatible operands of `@` are rejected (unless `a` is the lazy inverse of `b` itself,
in which case the structures are compatible by construction) -/
theorem pyMatmul_rejects (a b : Op) (hs : Op.inS a ≠ Op.outS b) (hl : lazyInverseOf a b = false) :
    pyMatmul a b = .error .valueError := by
  rw [pyMatmul_eq, if_neg (Bool.eq_false_iff.mp hl), if_pos (bne_iff_ne.mpr hs)]

theorem summands_add (u : Nat) (td : TreeDef) (ops : List Op) : summands (.cont u .add td ops) = ops := rfl

theorem summands_not_add (a : Op) (h : a.isAdd = false) : summands a = [a] :=
  if_neg (Bool.eq_false_iff.mp h)

theorem isAdd_cases (a : Op) : (∃ u td ops, a = .cont u .add td ops) ∨ a.isAdd = false := by
  cases a with
  | cont u k td ops =>
    cases k
    · exact .inl ⟨u, td, ops, rfl⟩
    all_goals exact .inr rfl
  | _ => exact .inr rfl

theorem pyNeg_of_not_add (a : Op) (h : a.isAdd = false) : pyNeg a = pyRmul (-1) a := by
  cases a with
  | cont u k td ops => cases k <;> first | rfl | cases h
  | _ => rfl

theorem addCheck_ok {a b : Op} (h : addCheck a b = .ok ()) : inS a = inS b ∧ outS a = outS b := by
  unfold addCheck at h
  split at h
  · cases h
  next h1 =>
  split at h
  · cases h
  next h2 => exact ⟨eq_of_not_bne h1, eq_of_not_bne h2⟩

end Op

/-- `OpSem` plus an additive structure on values and the laws of the composite operators. -/
structure ArithSem (V : Type) extends OpSem V where
  add : V → V → V
  zero : V
  add_assoc : ∀ x y z, add (add x y) z = add x (add y z)
  zero_add : ∀ x, add zero x = x
  /-- `CompositionOperator.mv` applies the operands from the last to the first -/
  comp_law : ∀ u ops x, den (.comp u ops) x = toOpSem.toSem.app ops x
  /-- `AdditionOperator.mv` adds the results of its operand leaves -/
  add_law : ∀ u td ops x, den (.cont u .add td ops) x = (ops.map (fun o => den o x)).foldr add zero
  add_zero : ∀ x, add x zero = x
  /-- scalar multiplication distributes over the fold of a sum -/
  smul_sum : ∀ a (l : List V), smul a (l.foldr add zero) = (l.map (smul a)).foldr add zero
  /-- which operands are invertible (a diagonal operator with a zero entry is not: finding F13) -/
  invertible : Op → Prop
  /-- a lazy inverse of an INVERTIBLE operand undoes it, both ways.  `QURotationTransposeOperator` is a lazy
  inverse of rotations only (its denotation is the TRANSPOSE of its operand, which inverts an orthogonal operand
  but not, say, `2·I`): the law is asked of `.qurotT` wrappers around a `QURotationOperator` only, which is what
  the constructor guarantees (`WrapOK`). -/
  inv_left : ∀ u k o, invertible o → (k = .inverse ∨ k = .qurotT ∨ k = .diagInv) →
    (k = .qurotT → o.isQURot = true) →
    ∀ x, mem (Op.inS o) x → den (.wrap u k o) (den o x) = x
  inv_right : ∀ u k o, invertible o → (k = .inverse ∨ k = .qurotT ∨ k = .diagInv) →
    (k = .qurotT → o.isQURot = true) →
    ∀ x, mem (Op.inS (.wrap u k o)) x → den o (den (.wrap u k o) x) = x

namespace ArithSem
variable {V : Type} (A : ArithSem V)

abbrev L := A.toOpSem

theorem mkIdentity_den (s : Struct) (x : V) (hx : A.mem s x) : A.den (mkIdentity s) x = x :=
  A.identity_law (mkIdentity s) rfl x hx

theorem mkHomothety_den (v : Rat) (s : Struct) (x : V) (hx : A.mem s x) :
    A.den (mkHomothety v s) x = A.smul v x :=
  A.homothety_law (mkHomothety v s) rfl x hx

/-- an operand wrapped by a lazy inverse is square (the constructors guarantee it: `InverseOperator`
refuses non-square operands, rotations and diagonal operators are square) -/
def LazySquare (o : Op) : Prop :=
  ∀ u k o', o = .wrap u k o' → (k = .inverse ∨ k = .qurotT ∨ k = .diagInv) → Op.inS o' = Op.outS o'

/-- a `QURotationTransposeOperator` wraps a `QURotationOperator` (guaranteed by its constructor; part of `WrapOK`) -/
def LazyRot (o : Op) : Prop :=
  ∀ u k o', o = .wrap u k o' → k = .qurotT → o'.isQURot = true

/-- the operand of a lazy inverse is invertible (this is the hypothesis finding F13 violates: the
pseudo-inverse of a singular diagonal operator is a lazy-inverse object too), and the lazy inverse
`QURotationTransposeOperator` wraps a rotation (`LazyRot`; the hypothesis under which `ArithSem.inv_left` /
`inv_right` speak about `.qurotT` wrappers) -/
def LazyInvertible (A : ArithSem V) (o : Op) : Prop :=
  ∀ u k o', o = .wrap u k o' → (k = .inverse ∨ k = .qurotT ∨ k = .diagInv) →
    A.invertible o' ∧ (k = .qurotT → o'.isQURot = true)

theorem LazyInvertible.lazyRot {A : ArithSem V} {o : Op} (h : A.LazyInvertible o) : LazyRot o :=
  fun u k o' he hk => (h u k o' he (.inr (.inl hk))).2 hk

theorem LazyInvertible.mk' {A : ArithSem V} {o : Op}
    (hinv : ∀ u k o', o = .wrap u k o' → (k = .inverse ∨ k = .qurotT ∨ k = .diagInv) → A.invertible o')
    (hrot : LazyRot o) : A.LazyInvertible o :=
  fun u k o' he hk => ⟨hinv u k o' he hk, hrot u k o' he⟩

theorem lazyInvertible_leaf (u : Nat) (c : LeafCls) (p : Params) : A.LazyInvertible (.leaf u c p) := nofun

/-- top-level well-formedness the constructors guarantee: compositions and sums are non-empty, the operand
of a lazy inverse is square -/
def WFtop (o : Op) : Prop :=
  LazySquare o ∧ (∀ u ops, o = .comp u ops → ops ≠ []) ∧ (∀ u td ops, o = .cont u .add td ops → ops ≠ [])

theorem WFtop_leaf (u : Nat) (c : LeafCls) (p : Params) : WFtop (.leaf u c p) := ⟨nofun, nofun, nofun⟩

theorem WFtop_comp_iff (u : Nat) (ops : List Op) : WFtop (.comp u ops) ↔ ops ≠ [] :=
  ⟨fun h => h.2.1 u ops rfl, fun h => ⟨nofun, fun _ _ he => by cases he; exact h, nofun⟩⟩

theorem WFtop_add_iff (u : Nat) (td : TreeDef) (ops : List Op) : WFtop (.cont u .add td ops) ↔ ops ≠ [] :=
  ⟨fun h => h.2.2 u td ops rfl, fun h => ⟨nofun, nofun, fun _ _ _ he => by cases he; exact h⟩⟩

theorem WFtop_mkComp (ops : List Op) (hne : ops ≠ []) : WFtop (mkComp ops) := (WFtop_comp_iff 0 ops).mpr hne

theorem WFtop_of_StructOK (o : Op) (h : StructOK o) : WFtop o := by
  refine ⟨?_, ?_, ?_⟩
  · intro u k o' he hk; subst he
    exact (((StructOK_wrap_iff _ _ _).mp h).2.1 hk).1
  · intro u ops he; subst he
    exact ((StructOK_comp_iff _ _).mp h).1
  · intro u td ops he; subst he
    exact ((StructOK_cont_iff _ _ _ _).mp h).1

theorem inSLast_singleton_append (xs : List Op) (b : Op) : inSLast (xs ++ [b]) = Op.inS b :=
  inSLast_append xs [b] (List.cons_ne_nil _ _)

theorem factors_ne_nil (o : Op) (ho : WFtop o) : factors o ≠ [] := by
  cases o with
  | comp u ops => exact ho.2.1 u ops rfl
  | _ => exact List.cons_ne_nil _ _

theorem factors_WTExpr {inv : Op → Prop} {leafOK : LeafCls → Params → Prop} (o : Op) (h : WTExpr inv leafOK o) :
    factors o ≠ [] ∧ (∀ f ∈ factors o, WTExpr inv leafOK f) ∧ Chain (factors o) := by
  cases o with
  | comp u ops =>
    rw [WTExpr, WTList_iff] at h
    exact h
  | _ => exact ⟨List.cons_ne_nil _ _, fun f hf => List.mem_singleton.mp hf ▸ h, trivial⟩

theorem factors_den (o : Op) (x : V) : A.toSem.app (factors o) x = A.den o x := by
  cases o with
  | comp u ops => exact (A.comp_law u ops x).symm
  | _ => rfl

/-- `a @ b`: the result has the structures of the product (no semantic hypothesis on the operands), and denotes
the product of the maps as soon as the right operand `b` is honest (maps its input space into its output space;
`OpSem.honest` gives this for a structurally well-formed `b`, see `pyMatmul_den`). -/
theorem pyMatmul_den_core (a b r : Op) (ha : WFtop a) (hb : WFtop b)
    (hai : A.LazyInvertible a) (hbi : A.LazyInvertible b) (h : pyMatmul a b = .ok r) :
    Op.inS a = Op.outS b ∧ Op.inS r = Op.inS b ∧ Op.outS r = Op.outS a ∧
    ((∀ x, A.mem (Op.inS b) x → A.mem (Op.outS b) (A.den b x)) →
      ∀ x, A.mem (Op.inS b) x → A.den r x = A.den a (A.den b x)) := by
  rcases pyMatmul_ok h with ⟨hl, rfl⟩ | ⟨hs, ⟨hid, rfl⟩ | ⟨hah, hbh, rfl⟩ | ⟨hl, rfl⟩ | rfl⟩
  · -- `A.I @ A`
    obtain ⟨u, k, rfl, hk⟩ := lazyInverseOf_cases a b hl
    have hsq : Op.inS b = Op.outS b := ha.1 u k b rfl hk
    have hin : Op.inS (.wrap u k b) = Op.inS b := inS_wrap_of_square hsq u k
    obtain ⟨hinv, hrot⟩ := hai u k b rfl hk
    refine ⟨hin.trans hsq, hin, hin.trans (outS_wrap u k b).symm, fun _ x hx => ?_⟩
    rw [A.inv_left u k b hinv hk hrot x hx]
    exact A.mkIdentity_den _ x (hin ▸ hx)
  · -- `I @ b`
    refine ⟨hs, rfl, hs.symm.trans (OpSem.identity_square a hid), fun hhon x hx => ?_⟩
    exact (A.identity_law a hid _ (hs ▸ hhon x hx)).symm
  · -- two scalar operators
    have hsb := OpSem.homothety_square b hbh
    have hx' : ∀ x, A.mem (Op.inS b) x → A.mem (Op.inS a) x := fun x hx => by rw [hs, ← hsb]; exact hx
    refine ⟨hs, hs.trans hsb.symm, OpSem.homothety_square a hah, fun hhon x hx => ?_⟩
    rw [A.mkHomothety_den _ _ x (hx' x hx), A.homothety_law b hbh x hx,
      A.homothety_law a hah _ (A.mem_smul _ _ _ (hx' x hx)), A.smul_smul]
  · -- `A @ A.I`
    obtain ⟨u, k, rfl, hk⟩ := lazyInverseOf_cases b a hl
    have hsq : Op.inS a = Op.outS a := hb.1 u k a rfl hk
    have hin : Op.inS (.wrap u k a) = Op.inS a := inS_wrap_of_square hsq u k
    obtain ⟨hinv, hrot⟩ := hbi u k a rfl hk
    refine ⟨hs, hin.symm, hsq, fun _ x hx => ?_⟩
    rw [A.inv_right u k a hinv hk hrot x hx]
    exact A.mkIdentity_den _ x (hin ▸ hx)
  · -- the composition of the factors of both: their ends are those of `b` and `a`, and it denotes the composite
    refine ⟨hs, (inSLast_append _ _ (factors_ne_nil b hb)).trans (inSLast_factors b),
      (outSHead_append _ _ (factors_ne_nil a ha)).trans (outSHead_factors a), fun _ x _ => ?_⟩
    rw [mkComp, A.comp_law, Sem.app_append, A.factors_den, A.factors_den]

/-- **`a @ b` denotes the product of the maps**, with every construction-time shortcut (flattening of
compositions on either side, identity absorption, merging of scalar factors, `A.I @ A` and `A @ A.I`
collapsing to the identity), and the result has the structures of the product.  The right operand is
structurally well formed (`StructOK`: this is where its honesty, `OpSem.honest`, comes from). -/
theorem pyMatmul_den (a b r : Op) (ha : WFtop a) (hb : WFtop b) (hbs : StructOK b)
    (hai : A.LazyInvertible a) (hbi : A.LazyInvertible b) (h : pyMatmul a b = .ok r) :
    Op.inS a = Op.outS b ∧ Op.inS r = Op.inS b ∧ Op.outS r = Op.outS a ∧
    ∀ x, A.mem (Op.inS b) x → A.den r x = A.den a (A.den b x) :=
  let ⟨h1, h2, h3, h4⟩ := A.pyMatmul_den_core a b r ha hb hai hbi h
  ⟨h1, h2, h3, h4 (fun x hx => A.honest b x hbs hx)⟩

theorem pyMatmul_structs (a b r : Op) (ha : WFtop a) (hb : WFtop b)
    (hai : A.LazyInvertible a) (hbi : A.LazyInvertible b) (h : pyMatmul a b = .ok r) :
    Op.inS a = Op.outS b ∧ Op.inS r = Op.inS b ∧ Op.outS r = Op.outS a :=
  let ⟨h1, h2, h3, _⟩ := A.pyMatmul_den_core a b r ha hb hai hbi h
  ⟨h1, h2, h3⟩

/-- **`k * a` denotes `k` times the map** (also `a * k`, which Python evaluates as `k * a`). -/
theorem pyRmul_den (k : Rat) (a r : Op) (ha : WFtop a) (has : StructOK a) (hai : A.LazyInvertible a)
    (h : pyRmul k a = .ok r) :
    Op.inS r = Op.inS a ∧ Op.outS r = Op.outS a ∧
    ∀ x, A.mem (Op.inS a) x → A.den r x = A.smul k (A.den a x) :=
  let ⟨_, h2, h3, h4⟩ := A.pyMatmul_den _ a r (WFtop_leaf _ _ _) ha has (A.lazyInvertible_leaf _ _ _) hai h
  ⟨h2, h3, fun x hx => (h4 x hx).trans (A.mkHomothety_den k _ _ (A.honest a x has hx))⟩

/-- **`a / k`** (`k ≠ 0`) denotes the map divided by `k`. -/
theorem pyTruediv_den (k : Rat) (a r : Op) (ha : WFtop a) (has : StructOK a) (hai : A.LazyInvertible a)
    (h : pyTruediv a k = .ok r) :
    k ≠ 0 ∧ Op.inS r = Op.inS a ∧ Op.outS r = Op.outS a ∧
    ∀ x, A.mem (Op.inS a) x → A.den r x = A.smul (1 / k) (A.den a x) := by
  unfold pyTruediv at h
  split at h
  · cases h
  · next hk => exact ⟨hk, A.pyRmul_den (1 / k) a r ha has hai h⟩

/-- **`-a`** for an operator that is not a sum denotes minus the map -/
theorem pyNeg_den (a r : Op) (ha : WFtop a) (has : StructOK a) (hai : A.LazyInvertible a)
    (hns : a.isAdd = false) (h : pyNeg a = .ok r) :
    Op.inS r = Op.inS a ∧ Op.outS r = Op.outS a ∧
    ∀ x, A.mem (Op.inS a) x → A.den r x = A.smul (-1) (A.den a x) :=
  A.pyRmul_den (-1) a r ha has hai (pyNeg_of_not_add a hns ▸ h)

theorem foldr_add_append (l1 l2 : List V) :
    (l1 ++ l2).foldr A.add A.zero = A.add (l1.foldr A.add A.zero) (l2.foldr A.add A.zero) := by
  induction l1 with
  | nil => exact (A.zero_add _).symm
  | cons x xs ih => rw [List.cons_append, List.foldr_cons, ih, List.foldr_cons, A.add_assoc]

theorem summands_den (o : Op) (x : V) :
    ((summands o).map (fun s => A.den s x)).foldr A.add A.zero = A.den o x := by
  rcases isAdd_cases o with ⟨u, td, ops, rfl⟩ | h
  · exact (A.add_law u td ops x).symm
  · rw [summands_not_add o h]; exact A.add_zero _

theorem summands_head (o : Op) (ho : WFtop o) (l : List Op) :
    inSHead (summands o ++ l) = Op.inS o ∧ outSHead (summands o ++ l) = Op.outS o := by
  rcases isAdd_cases o with ⟨u, td, ops, rfl⟩ | h
  · cases ops with
    | nil => exact absurd rfl ((WFtop_add_iff u td []).mp ho)
    | cons s ss => exact ⟨rfl, rfl⟩
  · rw [summands_not_add o h]; exact ⟨rfl, rfl⟩

/-- **`a + b` denotes the sum of the maps**, flattening sums on either side; when it succeeds the input and output
structures of the operands agree (the rejection of differing structures is `pyAdd_rejects`). -/
theorem pyAdd_den (a b r : Op) (ha : WFtop a) (h : pyAdd a b = .ok r) :
    Op.inS a = Op.inS b ∧ Op.outS a = Op.outS b ∧ Op.inS r = Op.inS a ∧ Op.outS r = Op.outS a ∧
    (∃ u td, r = .cont u .add td (summands a ++ summands b)) ∧
    ∀ x, A.den r x = A.add (A.den a x) (A.den b x) := by
  obtain ⟨_, hc, h⟩ := except_bind_eq_ok h
  obtain rfl := Except.ok.inj h
  obtain ⟨h1, h2⟩ := addCheck_ok hc
  obtain ⟨hI, hO⟩ := summands_head a ha (summands b)
  refine ⟨h1, h2, hI, hO, ⟨_, _, rfl⟩, fun x => ?_⟩
  rw [A.add_law, List.map_append, A.foldr_add_append, A.summands_den, A.summands_den]

/-- structurally incompatible operands of `+` and `-` are rejected -/
theorem pyAdd_rejects (a b : Op) (hs : Op.inS a ≠ Op.inS b ∨ Op.outS a ≠ Op.outS b) :
    pyAdd a b = .error .valueError ∧ pySub a b = .error .valueError := by
  have hc : addCheck a b = .error .valueError := by
    unfold addCheck
    split
    · rfl
    · next h1 => exact if_pos (bne_iff_ne.mpr (hs.resolve_left (fun h => h (eq_of_not_bne h1))))
  constructor
  · unfold pyAdd; rw [hc]; rfl
  · unfold pySub; rw [hc]; rfl

end ArithSem
end Furax
