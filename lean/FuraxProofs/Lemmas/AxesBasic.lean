/-
General facts the leaf-level developments share: `Except` / `Option` computations over lists, lists read with
`getD`, `eraseDups`, and the shape arithmetic of FuraxModel/Tensor.lean (`prodNat`, `ravelIdx`, `unravel`).
-/
import FuraxModel.Axes
import FuraxProofs.Lemmas.WellFormed
import Mathlib.Data.List.Perm.Basic
import Mathlib.Data.List.Nodup
import Mathlib.Data.List.GetD
import Mathlib.Data.List.Forall2
namespace Furax
open Axes

/-! ### `Except`, `Option` and `List.mapM` -/

/-- the only error a computation raises is `ValueError` -/
def OnlyValueError {β : Type} (x : Except PyErr β) : Prop := ∀ e, x = .error e → e = .valueError

namespace OnlyValueError
variable {β γ : Type}

theorem ok (b : β) : OnlyValueError (.ok b) := fun _ h => nomatch h

theorem valueError : OnlyValueError (.error .valueError : Except PyErr β) := fun _ h => (Except.error.inj h).symm

theorem bind {x : Except PyErr β} {f : β → Except PyErr γ} (hx : OnlyValueError x)
    (hf : ∀ b, OnlyValueError (f b)) : OnlyValueError (x >>= f) := by
  cases x with
  | error e => exact fun e' h => hx e' (congrArg _ (Except.error.inj h))
  | ok b => exact hf b

theorem ite {c : Prop} [Decidable c] {x y : Except PyErr β} (hx : OnlyValueError x) (hy : OnlyValueError y) :
    OnlyValueError (if c then x else y) := by
  split <;> assumption

theorem mapM {f : β → Except PyErr γ} (hf : ∀ b, OnlyValueError (f b)) (l : List β) :
    OnlyValueError (l.mapM f) := by
  induction l with
  | nil => exact ok _
  | cons a as ih =>
    rw [List.mapM_cons]
    exact (hf a).bind fun _ => ih.bind fun _ => ok _

end OnlyValueError

/-- a successful `mapM` pairs every element with its result -/
theorem except_mapM_ok_inv {ε β γ : Type} (f : β → Except ε γ) (l : List β) (r : List γ)
    (h : l.mapM f = .ok r) : List.Forall₂ (fun b c => f b = .ok c) l r := by
  induction l generalizing r with
  | nil => rw [except_mapM_nil_ok h]; exact .nil
  | cons b bs ih =>
    obtain ⟨c, cs, hc, hcs, rfl⟩ := except_mapM_cons_ok h
    exact .cons hc (ih cs hcs)

theorem option_mapM_eq_some {β γ} (f : β → Option γ) (g : β → γ) (l : List β) (h : ∀ b ∈ l, f b = some (g b)) :
    l.mapM f = some (l.map g) := by
  induction l with
  | nil => rfl
  | cons b bs ih =>
    rw [List.mapM_cons, h b List.mem_cons_self, ih fun c hc => h c (List.mem_cons_of_mem _ hc)]
    rfl

theorem option_mapM_none {β γ} (f : β → Option γ) (l : List β) (b : β) (hb : b ∈ l) (h : f b = none) :
    l.mapM f = none := by
  induction l with
  | nil => exact nomatch hb
  | cons a as ih =>
    rw [List.mapM_cons]
    rcases List.mem_cons.mp hb with rfl | hb
    · rw [h]; rfl
    · rw [ih hb]
      cases f a <;> rfl

theorem option_mapM_length {β γ} (f : β → Option γ) (l : List β) (l' : List γ) (h : l.mapM f = some l') :
    l'.length = l.length := by
  induction l generalizing l' with
  | nil => cases h; rfl
  | cons b bs ih =>
    rw [List.mapM_cons] at h
    cases hb : f b with
    | none => rw [hb] at h; cases h
    | some c =>
      cases hbs : bs.mapM f with
      | none => rw [hb, hbs] at h; cases h
      | some cs =>
        rw [hb, hbs] at h
        cases h
        rw [List.length_cons, List.length_cons, ih cs hbs]

/-! ### lists read with `getD` -/

theorem forall2_lt_iff (idx shape : List Nat) :
    List.Forall₂ (· < ·) idx shape ↔
      idx.length = shape.length ∧ ∀ j, j < shape.length → idx.getD j 0 < shape.getD j 0 := by
  rw [List.forall₂_iff_get]
  refine and_congr_right fun hl => ⟨fun h j hj => ?_, fun h j h1 h2 => ?_⟩
  · rw [List.getD_eq_getElem _ _ (hl ▸ hj), List.getD_eq_getElem _ _ hj]
    exact h j (hl ▸ hj) hj
  · have := h j h2
    rwa [List.getD_eq_getElem _ _ h1, List.getD_eq_getElem _ _ h2] at this

theorem ext_getD {l l' : List Nat} (hl : l.length = l'.length)
    (h : ∀ j, j < l.length → l.getD j 0 = l'.getD j 0) : l = l' :=
  List.ext_getElem hl fun j h1 h2 => by
    rw [← List.getD_eq_getElem l 0 h1, ← List.getD_eq_getElem l' 0 h2]
    exact h j h1

namespace Axes

theorem ma_map_getD_range {α} {d : α} (l : List α) : (List.range l.length).map (fun i => l.getD i d) = l := by
  apply List.ext_getElem
  · rw [List.length_map, List.length_range]
  · intro i h1 h2
    rw [List.getElem_map, List.getElem_range]
    exact List.getD_eq_getElem _ _ h2

theorem ma_getD_map_range {α} {d : α} (m : Nat) (F : Nat → α) (r : Nat) (hr : r < m) :
    ((List.range m).map F).getD r d = F r := by
  rw [List.getD_eq_getElem _ _ (by rwa [List.length_map, List.length_range]), List.getElem_map, List.getElem_range]

end Axes

/-- pigeonhole: a list without repetition of numbers below `N` has at most `N` entries -/
theorem nodup_length_le (N : Nat) (l : List Nat) (hn : l.Nodup) (h : ∀ a ∈ l, a < N) : l.length ≤ N := by
  have := (List.subperm_of_subset hn fun a ha => List.mem_range.mpr (h a ha)).length_le
  rwa [List.length_range] at this

/-! ### `eraseDups` -/

theorem eraseDups_length_le {α : Type} [BEq α] : ∀ l : List α, l.eraseDups.length ≤ l.length
  | [] => Nat.le_refl _
  | a :: as => by
    have h1 := List.length_filter_le (fun b => !b == a) as
    have h2 := eraseDups_length_le (as.filter fun b => !b == a)
    rw [List.eraseDups_cons, List.length_cons, List.length_cons]
    omega
termination_by l => l.length
decreasing_by
  rw [List.length_cons]
  exact Nat.lt_succ_of_le (List.length_filter_le _ _)

/-- `eraseDups` removes nothing exactly from the lists without repetition -/
theorem eraseDups_length_eq_iff {α : Type} [BEq α] [LawfulBEq α] (l : List α) :
    l.eraseDups.length = l.length ↔ l.Nodup := by
  induction l with
  | nil => simp
  | cons a as ih =>
    have hle := eraseDups_length_le (as.filter fun b => !b == a)
    rw [List.eraseDups_cons, List.length_cons, List.length_cons, List.nodup_cons]
    by_cases ha : a ∈ as
    · have : (as.filter fun b => !b == a).length < as.length :=
        List.length_filter_lt_length_iff_exists.mpr ⟨a, ha, by simp⟩
      exact ⟨fun h => by omega, fun h => absurd ha h.1⟩
    · have : as.filter (fun b => !b == a) = as :=
        List.filter_eq_self.mpr fun b hb => by simpa using fun e : b = a => ha (e ▸ hb)
      rw [this, Nat.add_right_cancel_iff, ih]
      exact ⟨fun h => ⟨ha, h⟩, fun h => h.2⟩

theorem nodup_eraseDups {α : Type} [BEq α] [LawfulBEq α] : (l : List α) → l.eraseDups.Nodup
  | [] => List.nodup_nil
  | a :: as => by
    rw [List.eraseDups_cons, List.nodup_cons, List.mem_eraseDups]
    exact ⟨by simp, nodup_eraseDups _⟩
termination_by l => l.length
decreasing_by exact Nat.lt_succ_of_le (List.length_filter_le _ _)

/-- `eraseDups` commutes with an injective relabelling -/
theorem eraseDups_map {α β : Type} [DecidableEq α] [DecidableEq β] (f : α → β) (hf : Function.Injective f) :
    (l : List α) → (l.map f).eraseDups = l.eraseDups.map f
  | [] => rfl
  | a :: as => by
    have : (as.map f).filter (fun b => !b == f a) = (as.filter fun b => !b == a).map f := by
      rw [List.filter_map]
      refine congrArg _ (List.filter_congr fun b _ => congrArg (!·) ?_)
      rw [Bool.eq_iff_iff, beq_iff_eq, beq_iff_eq]
      exact hf.eq_iff
    rw [List.map_cons, List.eraseDups_cons, List.eraseDups_cons, List.map_cons, this, eraseDups_map f hf]
termination_by l => l.length
decreasing_by exact Nat.lt_succ_of_le (List.length_filter_le _ _)

/-! ### `prodNat` -/

theorem foldl_mul_init (l : List Nat) (a : Nat) : l.foldl (· * ·) a = a * l.foldl (· * ·) 1 := by
  induction l generalizing a with
  | nil => simp
  | cons x xs ih => simp only [List.foldl_cons, Nat.one_mul]; rw [ih (a * x), ih x, Nat.mul_assoc]

theorem prodNat_nil : prodNat [] = 1 := rfl

theorem prodNat_cons (x : Nat) (xs : List Nat) : prodNat (x :: xs) = x * prodNat xs := by
  unfold prodNat; simp only [List.foldl_cons, Nat.one_mul]; exact foldl_mul_init xs x

theorem prodNat_append (a b : List Nat) : prodNat (a ++ b) = prodNat a * prodNat b := by
  induction a with
  | nil => simp [prodNat]
  | cons x xs ih => simp only [List.cons_append, prodNat_cons, ih, Nat.mul_assoc]

theorem prodNat_singleton (m : Nat) : prodNat [m] = m := by simp [prodNat]

theorem prodNat_perm {l l' : List Nat} (h : l.Perm l') : prodNat l = prodNat l' := by
  induction h with
  | nil => rfl
  | cons a _ ih => rw [prodNat_cons, prodNat_cons, ih]
  | swap a b l => simp only [prodNat_cons, Nat.mul_left_comm]
  | trans _ _ ih1 ih2 => exact ih1.trans ih2

/-- the inferred dimension makes the sizes match -/
theorem inferDim_size (total : Nat) (others : List Nat) (m : Nat) (h : inferDim total others = .ok m) :
    prodNat others * m = total := by
  unfold inferDim at h
  by_cases hp : prodNat others = 0
  · rw [if_pos hp] at h; cases h
  rw [if_neg hp] at h
  by_cases hmod : (total % prodNat others != 0) = true
  · rw [if_pos hmod] at h; cases h
  rw [if_neg hmod] at h
  cases h
  exact Nat.mul_div_cancel' (Nat.dvd_of_mod_eq_zero (by simpa using hmod))

/-! ### `ravelIdx` and `unravel` are inverse to each other on valid multi-indices -/

namespace Axes

theorem ma_unravel_snd (shape : List Nat) (i : Nat) :
    (shape.foldr (fun d (acc : List Nat × Nat) => ((acc.2 % d) :: acc.1, acc.2 / d)) ([], i)).2
      = i / prodNat shape := by
  induction shape with
  | nil => exact (Nat.div_one i).symm
  | cons d ds ih => rw [List.foldr_cons, ih, prodNat_cons, Nat.div_div_eq_div_mul, Nat.mul_comm]

theorem ma_unravel_nil (i : Nat) : unravel [] i = [] := rfl

theorem ma_unravel_cons (d : Nat) (ds : List Nat) (i : Nat) :
    unravel (d :: ds) i = (i / prodNat ds % d) :: unravel ds i := by
  unfold unravel
  rw [List.foldr_cons, ma_unravel_snd]

theorem ma_unravel_length (shape : List Nat) (i : Nat) : (unravel shape i).length = shape.length := by
  induction shape with
  | nil => rfl
  | cons d ds ih => rw [ma_unravel_cons, List.length_cons, ih, List.length_cons]

theorem ma_unravel_mod (shape : List Nat) (i : Nat) : unravel shape (i % prodNat shape) = unravel shape i := by
  induction shape generalizing i with
  | nil => rfl
  | cons d ds ih =>
    rw [ma_unravel_cons, ma_unravel_cons, prodNat_cons]
    congr 1
    · rw [Nat.mul_comm d, Nat.mod_mul_right_div_self, Nat.mod_mod]
    · rw [← ih (i % (d * prodNat ds)), ← ih i, Nat.mod_mul_left_mod]

theorem ma_ravel_foldl (ps : List (Nat × Nat)) (acc : Nat) :
    ps.foldl (fun acc (p : Nat × Nat) => acc * p.1 + p.2) acc
      = acc * prodNat (ps.map Prod.fst) + ps.foldl (fun acc (p : Nat × Nat) => acc * p.1 + p.2) 0 := by
  induction ps generalizing acc with
  | nil => exact (Nat.mul_one acc).symm
  | cons p rest ih =>
    simp only [List.foldl_cons, List.map_cons, prodNat_cons]
    rw [ih (acc * p.1 + p.2), ih (0 * p.1 + p.2), Nat.zero_mul, Nat.zero_add, Nat.add_mul, Nat.mul_assoc,
      Nat.add_assoc]

theorem ma_ravelIdx_cons (d : Nat) (ds : List Nat) (x : Nat) (xs : List Nat) (h : xs.length = ds.length) :
    ravelIdx (d :: ds) (x :: xs) = x * prodNat ds + ravelIdx ds xs := by
  unfold ravelIdx
  rw [List.zip_cons_cons, List.foldl_cons, ma_ravel_foldl, List.map_fst_zip (Nat.le_of_eq h.symm), Nat.zero_mul,
    Nat.zero_add]

theorem ma_ravelIdx_nil : ravelIdx [] [] = 0 := rfl

/-- a valid multi-index ravels to a valid flat position, and `unravel` recovers it -/
theorem ma_ravel_valid (shape idx : List Nat) (h : List.Forall₂ (· < ·) idx shape) :
    ravelIdx shape idx < prodNat shape ∧ unravel shape (ravelIdx shape idx) = idx := by
  induction h with
  | nil => exact ⟨Nat.one_pos, rfl⟩
  | @cons x d xs ds hxd hrest ih =>
    obtain ⟨ih1, ih2⟩ := ih
    rw [ma_ravelIdx_cons d ds x xs hrest.length_eq, prodNat_cons]
    constructor
    · calc x * prodNat ds + ravelIdx ds xs < x * prodNat ds + prodNat ds := by omega
        _ = (x + 1) * prodNat ds := by rw [Nat.add_mul, Nat.one_mul]
        _ ≤ d * prodNat ds := Nat.mul_le_mul_right _ hxd
    · rw [ma_unravel_cons]
      have hP : 0 < prodNat ds := by omega
      congr 1
      · rw [Nat.add_comm, Nat.add_mul_div_right _ _ hP, Nat.div_eq_of_lt ih1, Nat.zero_add,
          Nat.mod_eq_of_lt hxd]
      · rw [← ma_unravel_mod, Nat.add_comm, Nat.add_mul_mod_self_right, Nat.mod_eq_of_lt ih1, ih2]

/-- a valid flat position unravels to a valid multi-index, and `ravelIdx` recovers it -/
theorem ma_unravel_valid (shape : List Nat) (k : Nat) (h : k < prodNat shape) :
    List.Forall₂ (· < ·) (unravel shape k) shape ∧ ravelIdx shape (unravel shape k) = k := by
  induction shape generalizing k with
  | nil => exact ⟨.nil, (Nat.lt_one_iff.mp h).symm⟩
  | cons d ds ih =>
    rw [prodNat_cons] at h
    have hP : 0 < prodNat ds := Nat.pos_of_ne_zero fun h0 => by rw [h0] at h; exact absurd h (Nat.not_lt_zero _)
    have hd : 0 < d := Nat.pos_of_ne_zero fun h0 => by rw [h0, Nat.zero_mul] at h; exact absurd h (Nat.not_lt_zero _)
    obtain ⟨ih1, ih2⟩ := ih (k % prodNat ds) (Nat.mod_lt _ hP)
    rw [ma_unravel_mod] at ih1 ih2
    rw [ma_unravel_cons]
    refine ⟨.cons (Nat.mod_lt _ hd) ih1, ?_⟩
    rw [ma_ravelIdx_cons _ _ _ _ (ma_unravel_length ds k), ih2,
      Nat.mod_eq_of_lt ((Nat.div_lt_iff_lt_mul hP).mpr h)]
    exact Nat.div_add_mod' k (prodNat ds)

end Axes

end Furax
