/-
Ingredients of property C12 ("indexing without integer arrays never selects an element twice") that do not depend
on the kind of index tuple: slices and single integers, the selectors of NumPy's basic indexing (the tuples
themselves, with or without masks, are in FuraxProofs/Lemmas/MaskIndexNodup.lean).

`sliceIndices` (the model of `range(*slice(start, stop, step).indices(len))`) is exactly CPython's
`range(*slice.indices(len))` (`pySliceIndices`, `sliceIndices_eq`; the fuel `len + 1` of the model is enough), hence
strictly monotone, duplicate-free and in `[0, len)` for all signs of start/stop/step and `None` defaults; `step = 0`
is the only error.  `positions_of_injective` is the argument shared by every duplicate-freeness proof of a position
map.
-/
import FuraxProofs.Sem.IndexMultLaw
namespace Furax.Index
open Furax Furax.Axes Furax.ListSem

theorem pyRange_pos (fuel : Nat) (start stop step : Int) (hs : 0 < step) (h0 : 0 ≤ start) :
    (pyRange start stop step fuel).Pairwise (· < ·) ∧
      ∀ x ∈ pyRange start stop step fuel, start ≤ (x : Int) ∧ (x : Int) < stop := by
  induction fuel generalizing start with
  | zero => exact ⟨List.Pairwise.nil, fun x hx => nomatch hx⟩
  | succ fuel ih =>
    rw [pyRange, if_pos hs]
    split
    · rename_i hlt
      obtain ⟨ih1, ih2⟩ := ih (start + step) (by omega)
      refine ⟨List.pairwise_cons.mpr ⟨fun x hx => ?_, ih1⟩, fun x hx => ?_⟩
      · have := ih2 x hx; omega
      · rcases List.mem_cons.mp hx with rfl | hx
        · omega
        · have := ih2 x hx; omega
    · exact ⟨List.Pairwise.nil, fun x hx => nomatch hx⟩

theorem pyRange_neg (fuel : Nat) (start stop step : Int) (hs : step < 0) (h0 : -1 ≤ stop) :
    (pyRange start stop step fuel).Pairwise (· > ·) ∧
      ∀ x ∈ pyRange start stop step fuel, stop < (x : Int) ∧ (x : Int) ≤ start := by
  induction fuel generalizing start with
  | zero => exact ⟨List.Pairwise.nil, fun x hx => nomatch hx⟩
  | succ fuel ih =>
    rw [pyRange, if_neg (by omega), if_pos hs]
    split
    · rename_i hlt
      obtain ⟨ih1, ih2⟩ := ih (start + step)
      refine ⟨List.pairwise_cons.mpr ⟨fun x hx => ?_, ih1⟩, fun x hx => ?_⟩
      · have := ih2 x hx; omega
      · rcases List.mem_cons.mp hx with rfl | hx
        · omega
        · have := ih2 x hx; omega
    · exact ⟨List.Pairwise.nil, fun x hx => nomatch hx⟩

/-- `start + k·step`, `k = 0, 1, …`, is `start` or `(start + step) + k·step` -/
theorem exists_step_iff (x start step : Int) :
    (∃ k : Nat, x = start + k * step) ↔ x = start ∨ ∃ k : Nat, x = start + step + k * step := by
  constructor
  · rintro ⟨k, h⟩
    cases k with
    | zero => exact .inl (by rw [h, Int.natCast_zero, Int.zero_mul, Int.add_zero])
    | succ k => exact .inr ⟨k, by rw [h, Int.natCast_succ, Int.add_mul, Int.one_mul]; omega⟩
  · rintro (h | ⟨k, h⟩)
    · exact ⟨0, by rw [h, Int.natCast_zero, Int.zero_mul, Int.add_zero]⟩
    · exact ⟨k + 1, by rw [h, Int.natCast_succ, Int.add_mul, Int.one_mul]; omega⟩

theorem step_not_before (x start stop step : Int) (hs : 0 < step) (hle : stop ≤ start) :
    ¬ ((∃ k : Nat, x = start + k * step) ∧ x < stop) := by
  rintro ⟨⟨k, h1⟩, h2⟩
  have := Int.mul_nonneg (Int.natCast_nonneg k) (Int.le_of_lt hs)
  omega

theorem step_not_after (x start stop step : Int) (hs : step < 0) (hle : start ≤ stop) :
    ¬ ((∃ k : Nat, x = start + k * step) ∧ stop < x) := by
  rintro ⟨⟨k, h1⟩, h2⟩
  have := Int.mul_nonpos_of_nonneg_of_nonpos (Int.natCast_nonneg k) (Int.le_of_lt hs)
  omega

theorem pyRange_pos_mem (fuel : Nat) (start stop step : Int) (hs : 0 < step) (h0 : 0 ≤ start)
    (hf : stop - start < fuel) (x : Nat) :
    x ∈ pyRange start stop step fuel ↔ (∃ k : Nat, (x : Int) = start + k * step) ∧ (x : Int) < stop := by
  induction fuel generalizing start with
  | zero => exact iff_of_false List.not_mem_nil (step_not_before _ _ _ _ hs (by omega))
  | succ fuel ih =>
    rw [pyRange, if_pos hs]
    split
    · rw [List.mem_cons, ih (start + step) (by omega) (by omega), exists_step_iff (x : Int) start step]
      constructor
      · rintro (h | ⟨h1, h2⟩)
        · exact ⟨.inl (by omega), by omega⟩
        · exact ⟨.inr h1, h2⟩
      · rintro ⟨h | h, h2⟩
        · exact .inl (by omega)
        · exact .inr ⟨h, h2⟩
    · exact iff_of_false List.not_mem_nil (step_not_before _ _ _ _ hs (by omega))

theorem pyRange_neg_mem (fuel : Nat) (start stop step : Int) (hs : step < 0) (h0 : -1 ≤ stop)
    (hf : start - stop < fuel) (x : Nat) :
    x ∈ pyRange start stop step fuel ↔ (∃ k : Nat, (x : Int) = start + k * step) ∧ stop < (x : Int) := by
  induction fuel generalizing start with
  | zero => exact iff_of_false List.not_mem_nil (step_not_after _ _ _ _ hs (by omega))
  | succ fuel ih =>
    rw [pyRange, if_neg (by omega), if_pos hs]
    split
    · rw [List.mem_cons, ih (start + step) (by omega), exists_step_iff (x : Int) start step]
      constructor
      · rintro (h | ⟨h1, h2⟩)
        · exact ⟨.inl (by omega), by omega⟩
        · exact ⟨.inr h1, h2⟩
      · rintro ⟨h | h, h2⟩
        · exact .inl (by omega)
        · exact .inr ⟨h, h2⟩
    · exact iff_of_false List.not_mem_nil (step_not_after _ _ _ _ hs (by omega))

/-- CPython `PySlice_AdjustIndices` for one bound `v` (`start` or `stop`), length `n`, `neg` = (`step < 0`) -/
def pyAdjust (v n : Int) (neg : Bool) : Int :=
  if v < 0 then
    (if v + n < 0 then (if neg then -1 else 0) else v + n)
  else if v ≥ n then (if neg then n - 1 else n)
  else v

/-- CPython `slice(start, stop, step).indices(len)` for `step ≠ 0`: `None` defaults (`PySlice_Unpack`, where the
defaults are `±PY_SSIZE_T_MAX` and are then clamped) followed by `PySlice_AdjustIndices` -/
def pySliceIndices (start stop step : Option Int) (len : Nat) : Int × Int × Int :=
  let n : Int := len
  let st := step.getD 1
  let neg := decide (st < 0)
  let a := match start with
    | none => if neg then n - 1 else 0
    | some v => pyAdjust v n neg
  let b := match stop with
    | none => if neg then -1 else n
    | some v => pyAdjust v n neg
  (a, b, st)

/-- two conditionals agree if the first test implies the second and the branches agree where only the second
holds -/
theorem ite_eq_ite {c d : Prop} [Decidable c] [Decidable d] {a b : Int} (h1 : c → d) (h2 : d → ¬ c → a = b) :
    (if c then a else b) = if d then a else b := by
  by_cases hc : c
  · rw [if_pos hc, if_pos (h1 hc)]
  · rw [if_neg hc]
    by_cases hd : d
    · rw [if_pos hd, h2 hd hc]
    · rw [if_neg hd]

/-! The three ways the model clamps a bound are `pyAdjust`.  In each, once the sign of `v` is known one test is
dead, and the remaining tests differ only at a value where both branches agree. -/

theorem pyAdjust_pos (v : Int) (len : Nat) :
    (if (if v < 0 then v + (len : Int) else v) < 0 then (0 : Int)
      else if (if v < 0 then v + (len : Int) else v) > len then (len : Int)
      else (if v < 0 then v + (len : Int) else v)) = pyAdjust v len false := by
  unfold pyAdjust
  simp only [Bool.false_eq_true, if_false]
  by_cases hv : v < 0
  · rw [if_pos hv, if_pos hv, if_neg (by omega : ¬ v + (len : Int) > len)]
  · rw [if_neg hv, if_neg hv, if_neg hv]
    exact ite_eq_ite (by omega) (by omega)

theorem pyAdjust_neg (v : Int) (len : Nat) :
    (if (if v < 0 then v + (len : Int) else v) < -1 then (-1 : Int)
      else if (if v < 0 then v + (len : Int) else v) > (len : Int) - 1 then (len : Int) - 1
      else (if v < 0 then v + (len : Int) else v)) = pyAdjust v len true := by
  unfold pyAdjust
  simp only [if_true]
  by_cases hv : v < 0
  · rw [if_pos hv, if_pos hv, if_neg (by omega : ¬ v + (len : Int) > len - 1)]
    exact ite_eq_ite (by omega) (by omega)
  · rw [if_neg hv, if_neg hv, if_neg (by omega : ¬ v < -1)]
    exact ite_eq_ite (by omega) (by omega)

theorem pyAdjust_neg' (v : Int) (len : Nat) :
    (if v < 0 then (if v + (len : Int) < -1 then (-1 : Int) else v + len)
      else (if v > (len : Int) - 1 then (len : Int) - 1 else v)) = pyAdjust v len true := by
  unfold pyAdjust
  simp only [if_true]
  by_cases hv : v < 0
  · rw [if_pos hv, if_pos hv]
    exact ite_eq_ite (by omega) (by omega)
  · rw [if_neg hv, if_neg hv]
    exact ite_eq_ite (by omega) (by omega)

/-- the model's `sliceIndices` is `range(*slice(start, stop, step).indices(len))` cut after `len + 1` terms -/
theorem sliceIndices_eq (start stop step : Option Int) (len : Nat) (hne : step.getD 1 ≠ 0) :
    sliceIndices start stop step len = .ok (pyRange (pySliceIndices start stop step len).1
      (pySliceIndices start stop step len).2.1 (pySliceIndices start stop step len).2.2 (len + 1)) := by
  unfold sliceIndices pySliceIndices
  simp only
  rw [if_neg hne]
  by_cases hpos : step.getD 1 > 0
  · rw [if_pos hpos, decide_eq_false (by omega)]
    congr 2
    · cases start
      · rfl
      · exact pyAdjust_pos _ _
    · cases stop
      · rfl
      · exact pyAdjust_pos _ _
  · rw [if_neg hpos, decide_eq_true (by omega)]
    congr 2
    · cases start
      · rfl
      · exact pyAdjust_neg _ _
    · cases stop
      · rfl
      · exact pyAdjust_neg' _ _

theorem clamp_bounds (lo hi w : Int) (h : lo ≤ hi) :
    lo ≤ (if w < lo then lo else if w > hi then hi else w) ∧
      (if w < lo then lo else if w > hi then hi else w) ≤ hi := by
  split_ifs <;> omega

theorem pyAdjust_false_bounds (v : Int) (len : Nat) :
    0 ≤ pyAdjust v len false ∧ pyAdjust v len false ≤ len := by
  rw [← pyAdjust_pos]
  exact clamp_bounds 0 len _ (Int.natCast_nonneg len)

theorem pyAdjust_true_bounds (v : Int) (len : Nat) :
    -1 ≤ pyAdjust v len true ∧ pyAdjust v len true ≤ (len : Int) - 1 := by
  rw [← pyAdjust_neg]
  exact clamp_bounds (-1) _ _ (by omega)

theorem pySliceIndices_bounds_pos (start stop step : Option Int) (len : Nat) (hpos : 0 < step.getD 1) :
    (0 ≤ (pySliceIndices start stop step len).1 ∧ (pySliceIndices start stop step len).1 ≤ len) ∧
      0 ≤ (pySliceIndices start stop step len).2.1 ∧ (pySliceIndices start stop step len).2.1 ≤ len := by
  unfold pySliceIndices
  simp only [decide_eq_false (Int.not_lt.mpr (Int.le_of_lt hpos))]
  constructor
  · cases start
    · exact ⟨Int.le_refl 0, Int.natCast_nonneg len⟩
    · exact pyAdjust_false_bounds _ _
  · cases stop
    · exact ⟨Int.natCast_nonneg len, Int.le_refl _⟩
    · exact pyAdjust_false_bounds _ _

theorem pySliceIndices_bounds_neg (start stop step : Option Int) (len : Nat) (hneg : step.getD 1 < 0) :
    (-1 ≤ (pySliceIndices start stop step len).1 ∧ (pySliceIndices start stop step len).1 ≤ (len : Int) - 1) ∧
      -1 ≤ (pySliceIndices start stop step len).2.1 ∧
        (pySliceIndices start stop step len).2.1 ≤ (len : Int) - 1 := by
  unfold pySliceIndices
  simp only [decide_eq_true hneg]
  constructor
  · cases start
    · exact ⟨by simp only [if_true]; omega, Int.le_refl _⟩
    · exact pyAdjust_true_bounds _ _
  · cases stop
    · exact ⟨Int.le_refl _, by simp only [if_true]; omega⟩
    · exact pyAdjust_true_bounds _ _

theorem sliceIndices_step_zero (start stop step : Option Int) (len : Nat) (h0 : step.getD 1 = 0) :
    sliceIndices start stop step len = .error .valueError := by
  unfold sliceIndices
  exact if_pos h0

theorem sliceIndices_ok (start stop step : Option Int) (len : Nat) (l : List Nat)
    (h : sliceIndices start stop step len = .ok l) :
    (0 < step.getD 1 ∨ step.getD 1 < 0) ∧
      l = pyRange (pySliceIndices start stop step len).1 (pySliceIndices start stop step len).2.1
        (step.getD 1) (len + 1) := by
  have hne : step.getD 1 ≠ 0 := by
    intro h0
    rw [sliceIndices_step_zero start stop step len h0] at h
    cases h
  rw [sliceIndices_eq start stop step len hne] at h
  injection h with h
  exact ⟨by omega, h.symm⟩

theorem sliceIndices_sorted (start stop step : Option Int) (len : Nat) (l : List Nat)
    (h : sliceIndices start stop step len = .ok l) :
    (∀ x ∈ l, x < len) ∧
      ((0 < step.getD 1 ∧ l.Pairwise (· < ·)) ∨ (step.getD 1 < 0 ∧ l.Pairwise (· > ·))) := by
  obtain ⟨hs, rfl⟩ := sliceIndices_ok start stop step len l h
  rcases hs with hpos | hneg
  · obtain ⟨ha, hb⟩ := pySliceIndices_bounds_pos start stop step len hpos
    obtain ⟨h1, h2⟩ := pyRange_pos (len + 1) _ (pySliceIndices start stop step len).2.1 _ hpos ha.1
    exact ⟨fun x hx => by have := h2 x hx; omega, .inl ⟨hpos, h1⟩⟩
  · obtain ⟨ha, hb⟩ := pySliceIndices_bounds_neg start stop step len hneg
    obtain ⟨h1, h2⟩ := pyRange_neg (len + 1) (pySliceIndices start stop step len).1 _ _ hneg hb.1
    exact ⟨fun x hx => by have := h2 x hx; omega, .inr ⟨hneg, h1⟩⟩

theorem sliceIndices_nodup (start stop step : Option Int) (len : Nat) (l : List Nat)
    (h : sliceIndices start stop step len = .ok l) : l.Nodup ∧ ∀ x ∈ l, x < len := by
  obtain ⟨h1, h2⟩ := sliceIndices_sorted start stop step len l h
  refine ⟨?_, h1⟩
  rcases h2 with ⟨_, h2⟩ | ⟨_, h2⟩
  · exact h2.imp (fun h => Nat.ne_of_lt h)
  · exact h2.imp (fun h => Nat.ne_of_gt h)

/-- Why a position list has no duplicates.  Output element `k` reads the input at a multi-index `i` related by `R`
to `unravel osh k`.  If `R` sends valid multi-indices to valid ones and is injective coordinate by coordinate, the flat
positions are pairwise distinct and in bounds, because `ravelIdx` and `unravel` are inverse to each other on valid
multi-indices. -/
theorem positions_of_injective (shape osh pos : List Nat) (R : List Nat → List Nat → Prop)
    (hpos : List.Forall₂ (fun k p => ∃ i, R (unravel osh k) i ∧ p = ravelIdx shape i)
      (List.range (prodNat osh)) pos)
    (hval : ∀ oi i, List.Forall₂ (· < ·) oi osh → R oi i → List.Forall₂ (· < ·) i shape)
    (hinj : ∀ oi oi' i, List.Forall₂ (· < ·) oi osh → List.Forall₂ (· < ·) oi' osh → R oi i → R oi' i →
      ∀ j, j < osh.length → oi.getD j 0 = oi'.getD j 0) :
    pos.Nodup ∧ (∀ p ∈ pos, p < prodNat shape) ∧ pos.length = prodNat osh := by
  rw [List.forall₂_iff_get] at hpos
  obtain ⟨hl, hpos⟩ := hpos
  rw [List.length_range] at hl
  have hpt : ∀ k (hk : k < pos.length), ∃ i, R (unravel osh k) i ∧ pos[k] = ravelIdx shape i ∧
      List.Forall₂ (· < ·) (unravel osh k) osh ∧ List.Forall₂ (· < ·) i shape := by
    intro k hk
    obtain ⟨i, hR, hp⟩ := hpos k (by rw [List.length_range]; omega) hk
    rw [List.get_eq_getElem, List.getElem_range] at hR
    have hv := (ma_unravel_valid osh k (by omega)).1
    exact ⟨i, hR, hp, hv, hval _ _ hv hR⟩
  refine ⟨?_, ?_, hl.symm⟩
  · rw [List.Nodup, List.pairwise_iff_getElem]
    intro k1 k2 hk1 hk2 hlt heq
    obtain ⟨i1, r1, e1, v1, w1⟩ := hpt k1 hk1
    obtain ⟨i2, r2, e2, v2, w2⟩ := hpt k2 hk2
    have hi : i1 = i2 := by
      rw [← (ma_ravel_valid shape i1 w1).2, ← (ma_ravel_valid shape i2 w2).2, ← e1, ← e2, heq]
    subst hi
    have hoi : unravel osh k1 = unravel osh k2 :=
      ext_getD (by rw [ma_unravel_length, ma_unravel_length]) fun j hj =>
        hinj _ _ _ v1 v2 r1 r2 j (by rwa [ma_unravel_length] at hj)
    have hk := (ma_unravel_valid osh k1 (by omega)).2
    rw [hoi, (ma_unravel_valid osh k2 (by omega)).2] at hk
    omega
  · intro p hp
    obtain ⟨k, hk, rfl⟩ := List.getElem_of_mem hp
    obtain ⟨i, _, e, _, w⟩ := hpt k hk
    rw [e]
    exact (ma_ravel_valid shape i w).1

theorem sliceDescsOf_mem (sels : List Sel) (p : Nat × Nat) :
    p ∈ sliceDescsOf sels ↔
      p.1 < sels.length ∧ ∃ l, sels.getD p.1 (.int 0) = .slice l ∧ p.2 = l.length := by
  unfold sliceDescsOf
  rw [List.mem_filterMap]
  constructor
  · rintro ⟨k, hk, hm⟩
    split at hm
    · rename_i l hl
      injection hm with hm; subst hm
      exact ⟨List.mem_range.mp hk, l, hl, rfl⟩
    · cases hm
  · rintro ⟨h1, l, h2, h3⟩
    refine ⟨p.1, List.mem_range.mpr h1, ?_⟩
    rw [h2]
    simp only [← h3]

theorem sliceDescsOf_pairwise (sels : List Sel) :
    (sliceDescsOf sels).Pairwise (fun a b => a.1 < b.1) := by
  unfold sliceDescsOf
  refine List.Pairwise.filterMap _ ?_ List.pairwise_lt_range
  intro a a' haa b hb b' hb'
  split at hb
  · split at hb'
    · injection hb with hb; injection hb' with hb'; subst hb; subst hb'; exact haa
    · cases hb'
  · cases hb

theorem normE_lt (i : Int) (d v : Nat) (h : normE i d = .ok v) : v < d := by
  unfold normE at h
  simp only at h
  by_cases hc : (if i < 0 then i + (d : Int) else i) < 0 ∨ (if i < 0 then i + (d : Int) else i) ≥ d
  · rw [if_pos hc] at h; cases h
  · rw [if_neg hc] at h
    injection h with h; omega

theorem normE_nonneg (i : Int) (d v : Nat) (h : normE i d = .ok v) (hi : 0 ≤ i) : v = i.toNat := by
  unfold normE at h
  simp only at h
  by_cases hc : (if i < 0 then i + (d : Int) else i) < 0 ∨ (if i < 0 then i + (d : Int) else i) ≥ d
  · rw [if_pos hc] at h; cases h
  · rw [if_neg hc] at h
    injection h with h
    rw [← h, if_neg (by omega)]

end Furax.Index
