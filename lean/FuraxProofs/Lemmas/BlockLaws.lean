/-
Algebra of block operators (Level B, `FuraxModel/BlockSem.lean`).

Adjacent block operators with the same layout simplify to block-wise products (`diag_diag`, `diag_col`, `row_diag`,
`row_col`), and the adjoint of a block row / column / diagonal is the block column / row / diagonal of the adjoint
blocks (leaves are scalars of a commutative semiring).  Both rest on `parts`: a block diagonal or block row applies
block `i` to the `i`-th slice of its input, and a block-structured input is sliced at the block boundaries
(`parts_denDiag`, `parts_denCol`).
-/
import FuraxModel.BlockSem
import Mathlib.Data.List.Forall2
import Mathlib.Algebra.Ring.Defs
import Mathlib.Algebra.BigOperators.Group.List.Basic
import Mathlib.Tactic.Ring
namespace Furax
namespace BlockSem
variable {W : Type}

/-- every block maps `cin` leaves to `cout` leaves -/
def AllHonest (bs : List (Block W)) : Prop := ∀ b ∈ bs, b.Honest

/-- same number of blocks, and `ls[i].cin = rs[i].cout` slot by slot -/
def Composable (ls rs : List (Block W)) : Prop :=
  List.Forall₂ (fun l r => l.cin = r.cout) ls rs

theorem composable_iff {ls rs : List (Block W)} :
    Composable ls rs ↔
      ls.length = rs.length ∧
        ∀ (i : Nat) (h₁ : i < ls.length) (h₂ : i < rs.length), ls[i].cin = rs[i].cout :=
  List.forall₂_iff_get

theorem Composable.length_eq {ls rs : List (Block W)} (h : Composable ls rs) :
    ls.length = rs.length := List.Forall₂.length_eq h

/-- total number of input leaves of a block diagonal / block row -/
abbrev cinSum (bs : List (Block W)) : Nat := (bs.map (·.cin)).sum

/-- total number of output leaves of a block diagonal / block column -/
abbrev coutSum (bs : List (Block W)) : Nat := (bs.map (·.cout)).sum

/-- the list of block outputs `[bs[0].f x₀, bs[1].f x₁, …]` where `xᵢ` is the `i`-th slice of `x` -/
def parts (bs : List (Block W)) (x : List W) : List (List W) :=
  List.zipWith (fun (b : Block W) xi => b.f xi) bs (splitBy (bs.map (·.cin)) x)

/-- leaf-wise sum of a list of pytrees, starting from the first one (the shape used by `denRow`) -/
def sumLeaves [Add W] : List (List W) → List W
  | [] => []
  | y :: ys => ys.foldl addLeaves y

theorem sumLeaves_eq_match [Add W] (L : List (List W)) :
    sumLeaves L = match L with
      | [] => []
      | y :: ys => ys.foldl addLeaves y := by
  cases L <;> rfl

theorem denDiag_eq_parts (bs : List (Block W)) (x : List W) :
    denDiag bs x = (parts bs x).flatten := rfl

theorem denRow_eq_parts [Add W] (bs : List (Block W)) (x : List W) :
    denRow bs x = sumLeaves (parts bs x) := by
  unfold denRow
  rw [sumLeaves_eq_match]
  rfl

@[simp] theorem splitBy_nil (x : List W) : splitBy [] x = [] := rfl

@[simp] theorem splitBy_cons (n : Nat) (ns : List Nat) (x : List W) :
    splitBy (n :: ns) x = x.take n :: splitBy ns (x.drop n) := rfl

theorem length_splitBy (ns : List Nat) (x : List W) : (splitBy ns x).length = ns.length := by
  induction ns generalizing x with
  | nil => rfl
  | cons n ns ih => simp [ih]

theorem splitBy_flatten (ys : List (List W)) (ns : List Nat) (h : ys.map List.length = ns) :
    splitBy ns ys.flatten = ys := by
  subst h
  induction ys with
  | nil => rfl
  | cons y ys ih => simp [ih]

theorem flatten_splitBy (ns : List Nat) (x : List W) :
    (splitBy ns x).flatten = x.take ns.sum := by
  induction ns generalizing x with
  | nil => simp
  | cons n ns ih => simp [ih, List.take_add]

theorem flatten_splitBy_of_length (ns : List Nat) (x : List W) (h : x.length = ns.sum) :
    (splitBy ns x).flatten = x := by
  rw [flatten_splitBy, ← h, List.take_length]

theorem map_length_splitBy (ns : List Nat) (x : List W) (h : ns.sum ≤ x.length) :
    (splitBy ns x).map List.length = ns := by
  induction ns generalizing x with
  | nil => rfl
  | cons n ns ih =>
    simp only [List.sum_cons] at h
    have : ns.sum ≤ (x.drop n).length := by rw [List.length_drop]; omega
    rw [splitBy_cons, List.map_cons, ih _ this, List.length_take_of_le (by omega)]

@[simp] theorem parts_nil (x : List W) : parts [] x = [] := rfl

theorem parts_cons (b : Block W) (bs : List (Block W)) (x : List W) :
    parts (b :: bs) x = b.f (x.take b.cin) :: parts bs (x.drop b.cin) := rfl

theorem parts_cons_append (b : Block W) (bs : List (Block W)) (a x : List W)
    (h : a.length = b.cin) : parts (b :: bs) (a ++ x) = b.f a :: parts bs x := by
  rw [parts_cons, List.take_left' h, List.drop_left' h]

theorem length_parts (bs : List (Block W)) (x : List W) : (parts bs x).length = bs.length := by
  simp [parts, length_splitBy]

@[simp] theorem denCol_nil (x : List W) : denCol [] x = [] := rfl

theorem denCol_cons (b : Block W) (bs : List (Block W)) (x : List W) :
    denCol (b :: bs) x = b.f x ++ denCol bs x := rfl

@[simp] theorem denDiag_nil (x : List W) : denDiag [] x = [] := rfl

theorem denDiag_cons (b : Block W) (bs : List (Block W)) (x : List W) :
    denDiag (b :: bs) x = b.f (x.take b.cin) ++ denDiag bs (x.drop b.cin) := rfl

theorem denDiag_cons_append (b : Block W) (bs : List (Block W)) (a x : List W)
    (h : a.length = b.cin) : denDiag (b :: bs) (a ++ x) = b.f a ++ denDiag bs x := by
  rw [denDiag_cons, List.take_left' h, List.drop_left' h]

theorem AllHonest.head {b : Block W} {bs : List (Block W)} (h : AllHonest (b :: bs)) :
    b.Honest := h b (by simp)

theorem AllHonest.tail {b : Block W} {bs : List (Block W)} (h : AllHonest (b :: bs)) :
    AllHonest bs := fun c hc => h c (by simp [hc])

theorem map_length_parts (bs : List (Block W)) (hb : AllHonest bs) (x : List W)
    (hx : cinSum bs ≤ x.length) : (parts bs x).map List.length = bs.map (·.cout) := by
  induction bs generalizing x with
  | nil => rfl
  | cons b bs ih =>
    simp only [cinSum, List.map_cons, List.sum_cons] at hx
    have h1 : (x.take b.cin).length = b.cin := List.length_take_of_le (by omega)
    have h2 : cinSum bs ≤ (x.drop b.cin).length := by rw [List.length_drop]; exact Nat.le_sub_of_add_le' hx
    rw [parts_cons, List.map_cons, List.map_cons, ih hb.tail _ h2, hb.head _ h1]

theorem length_denDiag (bs : List (Block W)) (hb : AllHonest bs) (x : List W)
    (hx : x.length = (bs.map (·.cin)).sum) :
    (denDiag bs x).length = (bs.map (·.cout)).sum := by
  rw [denDiag_eq_parts, List.length_flatten, map_length_parts bs hb x (Nat.le_of_eq hx.symm)]

theorem length_denCol (bs : List (Block W)) (hb : AllHonest bs) (x : List W)
    (hx : ∀ b ∈ bs, b.cin = x.length) :
    (denCol bs x).length = (bs.map (·.cout)).sum := by
  induction bs with
  | nil => rfl
  | cons b bs ih =>
    rw [denCol_cons, List.length_append, ih hb.tail (fun c hc => hx c (by simp [hc])),
      hb.head x (hx b (by simp)).symm]
    simp

/-- the block-diagonal operator as a block -/
def diagBlock (bs : List (Block W)) : Block W := ⟨denDiag bs, cinSum bs, coutSum bs⟩

/-- the block-column operator on `n` input leaves as a block -/
def colBlock (n : Nat) (bs : List (Block W)) : Block W := ⟨denCol bs, n, coutSum bs⟩

theorem diagBlock_honest (bs : List (Block W)) (hb : AllHonest bs) : (diagBlock bs).Honest :=
  fun x hx => length_denDiag bs hb x hx

theorem colBlock_honest (n : Nat) (bs : List (Block W)) (hb : AllHonest bs)
    (hn : ∀ b ∈ bs, b.cin = n) : (colBlock n bs).Honest :=
  fun x hx => length_denCol bs hb x (fun b h => (hn b h).trans hx.symm)

theorem comp_honest {l r : Block W} (hl : l.Honest) (hr : r.Honest) (h : l.cin = r.cout) :
    (l.comp r).Honest := fun x hx => hl _ ((hr x hx).trans h.symm)

theorem allHonest_zipWith_comp {ls rs : List (Block W)} (h : Composable ls rs)
    (hl : AllHonest ls) (hr : AllHonest rs) : AllHonest (List.zipWith Block.comp ls rs) := by
  induction h with
  | nil => intro b hb; simp at hb
  | cons hlr _ ih =>
    intro b hb
    rw [List.zipWith_cons_cons, List.mem_cons] at hb
    rcases hb with rfl | hb
    · exact comp_honest hl.head hr.head hlr
    · exact ih hl.tail hr.tail b hb

/-- feeding a block-diagonal output to the left blocks, slice by slice, is applying the block-wise
products to the slices of the input -/
theorem parts_denDiag {ls rs : List (Block W)} (h : Composable ls rs) (hr : AllHonest rs)
    (x : List W) (hx : cinSum rs ≤ x.length) :
    parts ls (denDiag rs x) = parts (List.zipWith Block.comp ls rs) x := by
  induction h generalizing x with
  | nil => rfl
  | @cons l r ls rs hlr _ ih =>
    simp only [cinSum, List.map_cons, List.sum_cons] at hx
    have h1 : (x.take r.cin).length = r.cin := List.length_take_of_le (by omega)
    have h2 : cinSum rs ≤ (x.drop r.cin).length := by rw [List.length_drop]; exact Nat.le_sub_of_add_le' hx
    have h3 : (r.f (x.take r.cin)).length = l.cin := (hr.head _ h1).trans hlr.symm
    rw [denDiag_cons, parts_cons_append _ _ _ _ h3, ih hr.tail _ h2, List.zipWith_cons_cons,
      parts_cons]
    rfl

/-- feeding a block-column output to the left blocks, slice by slice, is applying every block-wise
product to the whole input -/
theorem parts_denCol {ls rs : List (Block W)} (h : Composable ls rs) (hr : AllHonest rs)
    (x : List W) (hx : ∀ r ∈ rs, r.cin = x.length) :
    parts ls (denCol rs x) = (List.zipWith Block.comp ls rs).map (fun b => b.f x) := by
  induction h with
  | nil => rfl
  | @cons l r ls rs hlr _ ih =>
    have h3 : (r.f x).length = l.cin := (hr.head x (hx r (by simp)).symm).trans hlr.symm
    rw [denCol_cons, parts_cons_append _ _ _ _ h3, ih hr.tail (fun c hc => hx c (by simp [hc])),
      List.zipWith_cons_cons, List.map_cons]
    rfl

/-- BlockDiagonal(A_i) @ BlockDiagonal(B_i) = BlockDiagonal(A_i @ B_i) -/
theorem diag_diag {ls rs : List (Block W)} (h : Composable ls rs) (hr : AllHonest rs)
    (x : List W) (hx : x.length = (rs.map (·.cin)).sum) :
    denDiag ls (denDiag rs x) = denDiag (List.zipWith Block.comp ls rs) x := by
  rw [denDiag_eq_parts ls, parts_denDiag h hr x (Nat.le_of_eq hx.symm), ← denDiag_eq_parts]

/-- BlockDiagonal(A_i) @ BlockColumn(B_i) = BlockColumn(A_i @ B_i) -/
theorem diag_col {ls rs : List (Block W)} (h : Composable ls rs) (hr : AllHonest rs)
    (x : List W) (hx : ∀ r ∈ rs, r.cin = x.length) :
    denDiag ls (denCol rs x) = denCol (List.zipWith Block.comp ls rs) x := by
  rw [denDiag_eq_parts ls, parts_denCol h hr x hx]
  rfl

/-- BlockRow(A_i) @ BlockDiagonal(B_i) = BlockRow(A_i @ B_i) -/
theorem row_diag [Add W] {ls rs : List (Block W)} (h : Composable ls rs) (hr : AllHonest rs)
    (x : List W) (hx : x.length = (rs.map (·.cin)).sum) :
    denRow ls (denDiag rs x) = denRow (List.zipWith Block.comp ls rs) x := by
  rw [denRow_eq_parts ls, parts_denDiag h hr x (Nat.le_of_eq hx.symm), ← denRow_eq_parts]

/-- BlockRow(A_i) @ BlockColumn(B_i) = Σ_i A_i @ B_i (leaf-wise sum, starting from the first term) -/
theorem row_col [Add W] {ls rs : List (Block W)} (h : Composable ls rs) (hr : AllHonest rs)
    (x : List W) (hx : ∀ r ∈ rs, r.cin = x.length) :
    denRow ls (denCol rs x) =
      match (List.zipWith Block.comp ls rs).map (fun b => b.f x) with
      | [] => []
      | y :: ys => ys.foldl addLeaves y := by
  rw [denRow_eq_parts ls, parts_denCol h hr x hx, sumLeaves_eq_match]

/-- `row_col` with the sum written `sumLeaves` and the products written out -/
theorem row_col_sumLeaves [Add W] {ls rs : List (Block W)} (h : Composable ls rs)
    (hr : AllHonest rs) (x : List W) (hx : ∀ r ∈ rs, r.cin = x.length) :
    denRow ls (denCol rs x) = sumLeaves (List.zipWith (fun l r => l.f (r.f x)) ls rs) := by
  rw [denRow_eq_parts ls, parts_denCol h hr x hx, List.map_zipWith]
  rfl

theorem denDiag_single (b : Block W) (x : List W) : denDiag [b] x = b.f (x.take b.cin) := by
  simp [denDiag_cons]

theorem denRow_single [Add W] (b : Block W) (x : List W) : denRow [b] x = b.f (x.take b.cin) := by
  rw [denRow_eq_parts, parts_cons]
  rfl

theorem denCol_single (b : Block W) (x : List W) : denCol [b] x = b.f x := by
  simp [denCol_cons]

theorem denDiag_single_of_length (b : Block W) (x : List W) (hx : x.length = b.cin) :
    denDiag [b] x = b.f x := by
  rw [denDiag_single, ← hx, List.take_length]

theorem denRow_single_of_length [Add W] (b : Block W) (x : List W) (hx : x.length = b.cin) :
    denRow [b] x = b.f x := by
  rw [denRow_single, ← hx, List.take_length]

private theorem exists_split (x : List W) (n m : Nat) (h : x.length = n + m) :
    ∃ a b, x = a ++ b ∧ a.length = n ∧ b.length = m :=
  ⟨x.take n, x.drop n, (List.take_append_drop n x).symm, List.length_take_of_le (by omega),
    by rw [List.length_drop]; omega⟩

section Adjoint
variable [CommSemiring W]

/-- dot product of two flat leaf lists -/
def dotL (a b : List W) : W := ((a.zip b).map fun p => p.1 * p.2).sum

@[simp] theorem dotL_nil_left (b : List W) : dotL [] b = 0 := by simp [dotL]

@[simp] theorem dotL_nil_right (a : List W) : dotL a [] = 0 := by simp [dotL]

@[simp] theorem dotL_cons_cons (a b : W) (as bs : List W) :
    dotL (a :: as) (b :: bs) = a * b + dotL as bs := by simp [dotL]

theorem dotL_comm (a b : List W) : dotL a b = dotL b a := by
  induction a generalizing b with
  | nil => simp
  | cons a as ih => cases b with
    | nil => simp
    | cons b bs => simp [ih bs, mul_comm]

theorem dotL_append (a b c d : List W) (h : a.length = c.length) :
    dotL (a ++ b) (c ++ d) = dotL a c + dotL b d := by
  simp [dotL, List.zip_append h]

theorem length_addLeaves (a b : List W) : (addLeaves a b).length = min a.length b.length := by
  simp [addLeaves]

theorem dotL_addLeaves (a b y : List W) (h : a.length = b.length) :
    dotL (addLeaves a b) y = dotL a y + dotL b y := by
  induction a generalizing b y with
  | nil =>
    cases b with
    | nil => simp [addLeaves]
    | cons _ _ => simp at h
  | cons a as ih =>
    cases b with
    | nil => simp at h
    | cons b bs =>
      cases y with
      | nil => simp
      | cons y ys =>
        have := ih bs ys (by simpa using h)
        simp only [addLeaves, List.zipWith_cons_cons, dotL_cons_cons] at this ⊢
        rw [this]; ring

theorem dotL_foldl_addLeaves (n : Nat) (ys : List (List W)) (a y : List W) (ha : a.length = n)
    (hys : ∀ z ∈ ys, z.length = n) :
    dotL (ys.foldl addLeaves a) y = dotL a y + (ys.map (fun z => dotL z y)).sum := by
  induction ys generalizing a with
  | nil => simp
  | cons z ys ih =>
    have hz : z.length = n := hys z (by simp)
    rw [List.foldl_cons, ih (addLeaves a z) (by rw [length_addLeaves, ha, hz, Nat.min_self])
      (fun w hw => hys w (by simp [hw])), dotL_addLeaves a z y (ha.trans hz.symm)]
    simp [add_assoc]

theorem dotL_sumLeaves (n : Nat) (L : List (List W)) (y : List W) (hL : ∀ z ∈ L, z.length = n) :
    dotL (sumLeaves L) y = (L.map (fun z => dotL z y)).sum := by
  cases L with
  | nil => simp [sumLeaves]
  | cons a ys =>
    simpa [sumLeaves] using
      dotL_foldl_addLeaves n ys a y (hL a (by simp)) (fun w hw => hL w (by simp [hw]))

/-- `t` is the adjoint of `l`: swapped leaf counts and `⟨l x, y⟩ = ⟨x, t y⟩` on inputs of the right
lengths -/
structure AdjointPair (l t : Block W) : Prop where
  cin_eq : t.cin = l.cout
  cout_eq : t.cout = l.cin
  adj : ∀ x y, x.length = l.cin → y.length = l.cout → dotL (l.f x) y = dotL x (t.f y)

theorem AdjointPair.symm {l t : Block W} (h : AdjointPair l t) : AdjointPair t l where
  cin_eq := h.cout_eq.symm
  cout_eq := h.cin_eq.symm
  adj := fun y x hy hx => by
    rw [dotL_comm, dotL_comm y, h.adj x y (hx.trans h.cout_eq) (hy.trans h.cin_eq)]

/-- slot by slot, `ts[i]` is the adjoint of `ls[i]` -/
def Adjoints (ls ts : List (Block W)) : Prop := List.Forall₂ AdjointPair ls ts

theorem Adjoints.symm {ls ts : List (Block W)} (h : Adjoints ls ts) : Adjoints ts ls :=
  List.Forall₂.flip (List.Forall₂.imp (fun _ _ h => AdjointPair.symm h) h)

theorem adjoints_iff {ls ts : List (Block W)} :
    Adjoints ls ts ↔
      ls.length = ts.length ∧
        ∀ (i : Nat) (h₁ : i < ls.length) (h₂ : i < ts.length), AdjointPair ls[i] ts[i] :=
  List.forall₂_iff_get

theorem Adjoints.cinSum_eq {ls ts : List (Block W)} (h : Adjoints ls ts) :
    cinSum ts = coutSum ls := by
  induction h with
  | nil => rfl
  | cons hlt _ ih => simp only [cinSum, coutSum, List.map_cons, List.sum_cons] at ih ⊢; rw [ih, hlt.cin_eq]

theorem Adjoints.coutSum_eq {ls ts : List (Block W)} (h : Adjoints ls ts) :
    coutSum ts = cinSum ls := by
  induction h with
  | nil => rfl
  | cons hlt _ ih => simp only [cinSum, coutSum, List.map_cons, List.sum_cons] at ih ⊢; rw [ih, hlt.cout_eq]

theorem Adjoints.cout_eq_of_cin_eq {ls ts : List (Block W)} (h : Adjoints ls ts) {n : Nat}
    (hn : ∀ l ∈ ls, l.cin = n) : ∀ t ∈ ts, t.cout = n := by
  intro t ht
  obtain ⟨i, hi, rfl⟩ := List.getElem_of_mem ht
  obtain ⟨hlen, hget⟩ := adjoints_iff.mp h
  exact (hget i (hlen ▸ hi) hi).cout_eq.trans (hn _ (List.getElem_mem _))

/-- BlockDiagonal(A_i)ᵀ = BlockDiagonal(A_iᵀ) -/
theorem denDiag_adjoint {ls ts : List (Block W)} (h : Adjoints ls ts) (hl : AllHonest ls)
    (ht : AllHonest ts) (x y : List W) (hx : x.length = (ls.map (·.cin)).sum)
    (hy : y.length = (ls.map (·.cout)).sum) :
    dotL (denDiag ls x) y = dotL x (denDiag ts y) := by
  induction h generalizing x y with
  | nil => simp
  | @cons l t ls ts hlt _ ih =>
    simp only [List.map_cons, List.sum_cons] at hx hy
    obtain ⟨x₁, x₂, rfl, hx₁, hx₂⟩ := exists_split x _ _ hx
    obtain ⟨y₁, y₂, rfl, hy₁, hy₂⟩ := exists_split y _ _ hy
    rw [denDiag_cons_append _ _ _ _ hx₁, denDiag_cons_append _ _ _ _ (hy₁.trans hlt.cin_eq.symm),
      dotL_append _ _ _ _ ((hl.head _ hx₁).trans hy₁.symm),
      dotL_append _ _ _ _
        (hx₁.trans ((ht.head _ (hy₁.trans hlt.cin_eq.symm)).trans hlt.cout_eq).symm),
      hlt.adj x₁ y₁ hx₁ hy₁, ih hl.tail ht.tail x₂ y₂ hx₂ hy₂]

/-- the sum over the blocks of `⟨A_i x_i, y⟩` is `⟨x, BlockColumn(A_iᵀ) y⟩` -/
theorem sum_dotL_parts {ls ts : List (Block W)} (h : Adjoints ls ts) (ht : AllHonest ts)
    (x y : List W) (hx : x.length = (ls.map (·.cin)).sum) (hy : ∀ l ∈ ls, l.cout = y.length) :
    ((parts ls x).map (fun z => dotL z y)).sum = dotL x (denCol ts y) := by
  induction h generalizing x with
  | nil => simp
  | @cons l t ls ts hlt _ ih =>
    simp only [List.map_cons, List.sum_cons] at hx
    obtain ⟨x₁, x₂, rfl, hx₁, hx₂⟩ := exists_split x _ _ hx
    have hyl : y.length = l.cout := (hy l (by simp)).symm
    rw [parts_cons_append _ _ _ _ hx₁, denCol_cons, List.map_cons, List.sum_cons,
      dotL_append _ _ _ _
        (hx₁.trans ((ht.head _ (hyl.trans hlt.cin_eq.symm)).trans hlt.cout_eq).symm),
      hlt.adj x₁ y hx₁ hyl, ih ht.tail x₂ hx₂ (fun c hc => hy c (by simp [hc]))]

/-- BlockRow(A_i)ᵀ = BlockColumn(A_iᵀ) -/
theorem denRow_adjoint {ls ts : List (Block W)} (h : Adjoints ls ts) (hl : AllHonest ls)
    (ht : AllHonest ts) (x y : List W) (hx : x.length = (ls.map (·.cin)).sum)
    (hy : ∀ l ∈ ls, l.cout = y.length) :
    dotL (denRow ls x) y = dotL x (denCol ts y) := by
  have hlen : ∀ z ∈ parts ls x, z.length = y.length := by
    intro z hz
    obtain ⟨b, hb, hbz⟩ := List.mem_map.1
      (map_length_parts ls hl x (Nat.le_of_eq hx.symm) ▸ List.mem_map_of_mem (f := List.length) hz)
    exact hbz ▸ hy b hb
  rw [denRow_eq_parts, dotL_sumLeaves _ _ _ hlen, sum_dotL_parts h ht x y hx hy]

/-- BlockColumn(A_i)ᵀ = BlockRow(A_iᵀ) -/
theorem denCol_adjoint {ls ts : List (Block W)} (h : Adjoints ls ts) (hl : AllHonest ls)
    (ht : AllHonest ts) (x y : List W) (hx : ∀ l ∈ ls, l.cin = x.length)
    (hy : y.length = (ls.map (·.cout)).sum) :
    dotL (denCol ls x) y = dotL x (denRow ts y) := by
  have hts : ∀ t ∈ ts, t.cout = x.length := h.cout_eq_of_cin_eq hx
  rw [dotL_comm, dotL_comm x,
    denRow_adjoint h.symm ht hl y x (hy.trans h.cinSum_eq.symm) hts]

end Adjoint

end BlockSem
end Furax
