/-
Lemmas for the Hermitian dot product of pytrees over complex leaves (FuraxModel/ComplexDot.lean, property C20).

`GRat` (Gaussian rationals) is a commutative ring, `conj` an involutive ring morphism, `ofRat` a ring morphism.
`zsum f x y = Σ_i f x_i y_i` over the common prefix: `vdot`, `treeDot`, `rinner`, `StokesArith.dot` and both branches
of `vdotBad` are instances, so symmetry, additivity, homogeneity and the embedding of real data are proved once for
`zsum` and read off for a leaf and, from the leaf, for a pytree.  The statements about pytrees (the property) are in
FuraxProofs/Props/C20Complex.lean.
-/
import FuraxModel.ComplexDot
import FuraxModel.StokesArith
import Mathlib.Algebra.Ring.Rat
import Mathlib.Algebra.Order.Ring.Rat
import Mathlib.Tactic.Ring
import Mathlib.Tactic.Linarith
namespace Furax
namespace ComplexDot

namespace GRat

@[ext] theorem ext {a b : GRat} (hr : a.re = b.re) (hi : a.im = b.im) : a = b := by
  cases a; cases b; simp only [mk.injEq]; exact ⟨hr, hi⟩

@[simp] theorem zero_re : (0 : GRat).re = 0 := rfl
@[simp] theorem zero_im : (0 : GRat).im = 0 := rfl
@[simp] theorem add_re (a b : GRat) : (a + b).re = a.re + b.re := rfl
@[simp] theorem add_im (a b : GRat) : (a + b).im = a.im + b.im := rfl
@[simp] theorem neg_re (a : GRat) : (-a).re = -a.re := rfl
@[simp] theorem neg_im (a : GRat) : (-a).im = -a.im := rfl
@[simp] theorem mul_re (a b : GRat) : (a * b).re = a.re * b.re - a.im * b.im := rfl
@[simp] theorem mul_im (a b : GRat) : (a * b).im = a.re * b.im + a.im * b.re := rfl
@[simp] theorem conj_re (a : GRat) : (conj a).re = a.re := rfl
@[simp] theorem conj_im (a : GRat) : (conj a).im = -a.im := rfl
@[simp] theorem ofRat_re (q : Rat) : (ofRat q).re = q := rfl
@[simp] theorem ofRat_im (q : Rat) : (ofRat q).im = 0 := rfl

instance : One GRat := ⟨ofRat 1⟩
@[simp] theorem one_re : (1 : GRat).re = 1 := rfl
@[simp] theorem one_im : (1 : GRat).im = 0 := rfl

/-- the model's `add`, `mul`, `neg`, `0` (and `1 = ofRat 1`) make `GRat` a commutative ring -/
instance : CommRing GRat where
  add_assoc a b c := GRat.ext (add_assoc ..) (add_assoc ..)
  zero_add a := GRat.ext (zero_add _) (zero_add _)
  add_zero a := GRat.ext (add_zero _) (add_zero _)
  add_comm a b := GRat.ext (add_comm ..) (add_comm ..)
  neg_add_cancel a := GRat.ext (neg_add_cancel _) (neg_add_cancel _)
  left_distrib a b c := by ext <;> simp only [add_re, add_im, mul_re, mul_im] <;> ring
  right_distrib a b c := by ext <;> simp only [add_re, add_im, mul_re, mul_im] <;> ring
  zero_mul a := by ext <;> simp only [mul_re, mul_im, zero_re, zero_im] <;> ring
  mul_zero a := by ext <;> simp only [mul_re, mul_im, zero_re, zero_im] <;> ring
  mul_assoc a b c := by ext <;> simp only [mul_re, mul_im] <;> ring
  one_mul a := by ext <;> simp only [mul_re, mul_im, one_re, one_im] <;> ring
  mul_one a := by ext <;> simp only [mul_re, mul_im, one_re, one_im] <;> ring
  mul_comm a b := by ext <;> simp only [mul_re, mul_im] <;> ring
  nsmul := nsmulRec
  zsmul := zsmulRec

theorem conj_zero : conj 0 = 0 := GRat.ext rfl neg_zero
theorem conj_add (a b : GRat) : conj (a + b) = conj a + conj b := GRat.ext rfl (neg_add _ _)
theorem conj_mul (a b : GRat) : conj (a * b) = conj a * conj b := by ext <;> simp; ring
theorem conj_neg (a : GRat) : conj (-a) = -conj a := rfl
theorem conj_conj (a : GRat) : conj (conj a) = a := GRat.ext rfl (neg_neg _)
theorem conj_ofRat (q : Rat) : conj (ofRat q) = ofRat q := GRat.ext rfl neg_zero
theorem conj_injective {a b : GRat} (h : conj a = conj b) : a = b := by
  rw [← conj_conj a, h, conj_conj]
theorem conj_eq_self_of_im {a : GRat} (h : a.im = 0) : conj a = a :=
  GRat.ext rfl (by rw [conj_im, h, neg_zero])

theorem ofRat_zero : ofRat 0 = 0 := rfl
theorem ofRat_add (p q : Rat) : ofRat (p + q) = ofRat p + ofRat q := GRat.ext rfl (add_zero 0).symm
theorem ofRat_mul (p q : Rat) : ofRat (p * q) = ofRat p * ofRat q := by ext <;> simp
theorem ofRat_injective {p q : Rat} (h : ofRat p = ofRat q) : p = q := congrArg GRat.re h

theorem eq_ofRat_of_im_eq_zero {a : GRat} (h : a.im = 0) : a = ofRat a.re := GRat.ext rfl h

theorem isReal_iff (a : GRat) : isReal a = true ↔ a.im = 0 := by simp [isReal]

/-- the squared modulus `re² + im²` -/
def normSq (a : GRat) : Rat := a.re * a.re + a.im * a.im

theorem normSq_nonneg (a : GRat) : 0 ≤ normSq a := add_nonneg (mul_self_nonneg _) (mul_self_nonneg _)

theorem normSq_eq_zero {a : GRat} : normSq a = 0 ↔ a = 0 := by
  rw [normSq, mul_self_add_mul_self_eq_zero, GRat.ext_iff]; rfl

/-- `conj a · a = |a|²`, a real number -/
theorem conj_mul_self (a : GRat) : conj a * a = ofRat (normSq a) := by
  ext <;> simp [normSq]; ring

end GRat

open GRat

theorem foldl_add_start {α} [AddCommMonoid α] (a : α) (l : List α) :
    l.foldl (· + ·) a = a + l.foldl (· + ·) 0 := by
  induction l generalizing a with
  | nil => simp
  | cons b l ih => rw [List.foldl_cons, ih, List.foldl_cons, ih (0 + b), zero_add, add_assoc]

/-- `Σ_i f x_i y_i`, truncated to the shorter list -/
def zsum {α β γ} [Zero γ] [Add γ] (f : α → β → γ) (x : List α) (y : List β) : γ :=
  (List.zipWith f x y).foldl (· + ·) 0

section zsum
variable {α β γ δ : Type*} [AddCommMonoid γ] [AddCommMonoid δ]

@[simp] theorem zsum_nil_left (f : α → β → γ) (y : List β) : zsum f [] y = 0 := rfl
@[simp] theorem zsum_nil_right (f : α → β → γ) (x : List α) : zsum f x [] = 0 := by cases x <;> rfl
theorem zsum_cons (f : α → β → γ) (a : α) (b : β) (x : List α) (y : List β) :
    zsum f (a :: x) (b :: y) = f a b + zsum f x y := by
  rw [zsum, List.zipWith_cons_cons, List.foldl_cons, foldl_add_start, zero_add]; rfl

theorem zsum_congr {f g : α → β → γ} {x : List α} {y : List β} (h : ∀ a ∈ x, ∀ b ∈ y, f a b = g a b) :
    zsum f x y = zsum g x y := by
  induction x generalizing y with
  | nil => rfl
  | cons a x ih =>
    cases y with
    | nil => rfl
    | cons b y =>
      rw [zsum_cons, zsum_cons, h a List.mem_cons_self b List.mem_cons_self,
        ih fun a ha b hb => h a (List.mem_cons_of_mem _ ha) b (List.mem_cons_of_mem _ hb)]

theorem zsum_hom (φ : γ → δ) (h0 : φ 0 = 0) (hadd : ∀ u v, φ (u + v) = φ u + φ v) (f : α → β → γ)
    (x : List α) (y : List β) : zsum (fun a b => φ (f a b)) x y = φ (zsum f x y) := by
  induction x generalizing y with
  | nil => exact h0.symm
  | cons a x ih =>
    cases y with
    | nil => exact h0.symm
    | cons b y => rw [zsum_cons, zsum_cons, hadd, ih]

theorem zsum_flip (f : α → β → γ) (x : List α) (y : List β) : zsum f x y = zsum (fun b a => f a b) y x := by
  rw [zsum, List.zipWith_comm]; rfl

/-- symmetry up to an additive map `φ` (the identity for a real product, `conj` for a Hermitian one) -/
theorem zsum_symm (φ : γ → δ) (h0 : φ 0 = 0) (hadd : ∀ u v, φ (u + v) = φ u + φ v) {f : α → β → γ} {g : β → α → δ}
    (h : ∀ a b, g b a = φ (f a b)) (x : List α) (y : List β) : zsum g y x = φ (zsum f x y) := by
  rw [zsum_flip, funext₂ h]; exact zsum_hom φ h0 hadd f x y

/-- both arguments are images: `h` says what the summand does on images -/
theorem zsum_map {α' β'} (φ : γ → δ) (h0 : φ 0 = 0) (hadd : ∀ u v, φ (u + v) = φ u + φ v) {f : α → β → δ}
    {g : α' → β' → γ} {p : α' → α} {q : β' → β} (h : ∀ a b, f (p a) (q b) = φ (g a b)) (x : List α') (y : List β') :
    zsum f (x.map p) (y.map q) = φ (zsum g x y) := by
  rw [zsum, List.zipWith_map, funext₂ h]; exact zsum_hom φ h0 hadd g x y

theorem zsum_map_right {β'} (φ : γ → γ) (h0 : φ 0 = 0) (hadd : ∀ u v, φ (u + v) = φ u + φ v) {f : α → β → γ}
    {q : β' → β} {g : α → β' → γ} (h : ∀ a b, f a (q b) = φ (g a b)) (x : List α) (y : List β') :
    zsum f x (y.map q) = φ (zsum g x y) := by
  rw [zsum, List.zipWith_map_right, funext₂ h]; exact zsum_hom φ h0 hadd g x y

/-- additivity in the second argument, for summands that are additive on `R`-related entries -/
theorem zsum_add_right {R : β → β → Prop} {f : α → β → γ} {op : β → β → β}
    (hf : ∀ a b b', R b b' → f a (op b b') = f a b + f a b') {y y' : List β} (h : List.Forall₂ R y y') (x : List α) :
    zsum f x (List.zipWith op y y') = zsum f x y + zsum f x y' := by
  induction h generalizing x with
  | nil => simp
  | cons hb _ ih =>
    cases x with
    | nil => simp
    | cons a x => rw [List.zipWith_cons_cons, zsum_cons, zsum_cons, zsum_cons, ih, hf a _ _ hb, add_add_add_comm]

/-- on the diagonal: `h` says what a summand `f a a` is -/
theorem zsum_diag (φ : γ → δ) (h0 : φ 0 = 0) (hadd : ∀ u v, φ (u + v) = φ u + φ v) {f : α → α → δ} {g : α → γ}
    (h : ∀ a, f a a = φ (g a)) (x : List α) : zsum f x x = φ (x.map g).sum := by
  induction x with
  | nil => exact h0.symm
  | cons a x ih => rw [zsum_cons, ih, h, ← hadd]; rfl

end zsum

theorem forall₂_true_of_length_eq {β} : ∀ {y y' : List β}, y.length = y'.length → List.Forall₂ (fun _ _ => True) y y'
  | [], [], _ => .nil
  | _ :: _, _ :: _, h => .cons trivial (forall₂_true_of_length_eq (Nat.succ.inj h))

theorem eq_map_map_of_section {α β} {p : β → α} {q : α → β} {l : List α} (h : ∀ a ∈ l, a = p (q a)) :
    l = (l.map q).map p := by
  rw [List.map_map]
  exact (List.map_id l).symm.trans (List.map_congr_left h)

/-- the real inner product of `StokesArith.dot`, named -/
def rinner (a b : List Rat) : Rat := (List.zipWith (· * ·) a b).foldl (· + ·) 0

theorem dot_eq (x y : List (List Rat)) :
    StokesArith.dot x y = (List.zipWith rinner x y).foldl (· + ·) 0 := rfl

/-- no hypothesis on the lengths: both sides truncate to the same common prefix -/
theorem vdot_conj_symm (x y : List GRat) : vdot y x = conj (vdot x y) :=
  zsum_symm conj conj_zero conj_add (fun a b => by rw [conj_mul, conj_conj, mul_comm]) x y

theorem vdot_add_right (x : List GRat) {y y' : List GRat} (h : y.length = y'.length) :
    vdot x (leafAdd y y') = vdot x y + vdot x y' :=
  zsum_add_right (fun _ _ _ _ => mul_add _ _ _) (forall₂_true_of_length_eq h) x

theorem vdot_smul_right (c : GRat) (x y : List GRat) : vdot x (leafSmul c y) = c * vdot x y :=
  zsum_map_right (c * ·) (mul_zero c) (mul_add c) (fun _ _ => mul_left_comm _ _ _) x y

theorem vdot_add_left {x x' : List GRat} (y : List GRat) (h : x.length = x'.length) :
    vdot (leafAdd x x') y = vdot x y + vdot x' y := by
  rw [vdot_conj_symm y, vdot_add_right y h, conj_add, ← vdot_conj_symm, ← vdot_conj_symm]

theorem vdot_smul_left (c : GRat) (x y : List GRat) : vdot (leafSmul c x) y = conj c * vdot x y := by
  rw [vdot_conj_symm y, vdot_smul_right, conj_mul, ← vdot_conj_symm]

/-- two pytrees with the same number of leaves and pairwise equally long leaves -/
def SameShape (x y : List (List GRat)) : Prop := List.Forall₂ (fun a b => a.length = b.length) x y

instance (x y : List (List GRat)) : Decidable (SameShape x y) := by unfold SameShape; infer_instance

theorem SameShape.refl (x : List (List GRat)) : SameShape x x := by
  unfold SameShape; induction x with
  | nil => exact .nil
  | cons a x ih => exact .cons rfl ih

theorem SameShape.smul_left (c : GRat) {x x' : List (List GRat)} (h : SameShape x x') :
    SameShape (treeSmul c x) x' := by
  induction h with
  | nil => exact .nil
  | cons hb _ ih => exact .cons ((List.length_map _).trans hb) ih

/-- the sum of the squared moduli of the entries of a leaf -/
def leafNormSq (x : List GRat) : Rat := (x.map normSq).sum
/-- … of all the entries of a pytree -/
def treeNormSq (x : List (List GRat)) : Rat := (x.map leafNormSq).sum

theorem vdot_self (x : List GRat) : vdot x x = ofRat (leafNormSq x) :=
  zsum_diag ofRat ofRat_zero ofRat_add conj_mul_self x

theorem sum_map_nonneg {α} {f : α → Rat} (hf : ∀ a, 0 ≤ f a) (l : List α) : 0 ≤ (l.map f).sum := by
  induction l with
  | nil => exact le_rfl
  | cons a l ih => exact add_nonneg (hf a) ih

theorem sum_map_eq_zero_iff {α} {f : α → Rat} (hf : ∀ a, 0 ≤ f a) (l : List α) :
    (l.map f).sum = 0 ↔ ∀ a ∈ l, f a = 0 := by
  induction l with
  | nil => simp
  | cons a l ih =>
    rw [List.map_cons, List.sum_cons, List.forall_mem_cons, ← ih,
      add_eq_zero_iff_of_nonneg (hf a) (sum_map_nonneg hf l)]

theorem leafNormSq_nonneg (x : List GRat) : 0 ≤ leafNormSq x := sum_map_nonneg normSq_nonneg x

theorem leafNormSq_eq_zero {x : List GRat} : leafNormSq x = 0 ↔ ∀ a ∈ x, a = 0 := by
  simp only [leafNormSq, sum_map_eq_zero_iff normSq_nonneg, normSq_eq_zero]

theorem treeNormSq_nonneg (x : List (List GRat)) : 0 ≤ treeNormSq x := sum_map_nonneg leafNormSq_nonneg x

theorem treeNormSq_eq_zero {x : List (List GRat)} : treeNormSq x = 0 ↔ ∀ l ∈ x, ∀ a ∈ l, a = 0 := by
  simp only [treeNormSq, sum_map_eq_zero_iff leafNormSq_nonneg, leafNormSq_eq_zero]

theorem vdot_ofRat (x y : List Rat) : vdot (x.map ofRat) (y.map ofRat) = ofRat (rinner x y) :=
  zsum_map ofRat ofRat_zero ofRat_add (fun a b => by rw [conj_ofRat, ofRat_mul]) x y

/-- a pytree all of whose entries have zero imaginary part -/
def IsRealTree (x : List (List GRat)) : Prop := ∀ l ∈ x, ∀ a ∈ l, a.im = 0

instance (x : List (List GRat)) : Decidable (IsRealTree x) := by unfold IsRealTree; infer_instance

theorem tree_eq_map_ofRat {x : List (List GRat)} (h : IsRealTree x) :
    x = (x.map (·.map GRat.re)).map (·.map ofRat) :=
  eq_map_map_of_section fun l hl => eq_map_map_of_section fun a ha => eq_ofRat_of_im_eq_zero (h l hl a ha)

theorem vdotBad_of_second_not_real {x y : List GRat} (h : y.all GRat.isReal = false) : vdotBad x y = vdot x y := by
  rw [vdotBad, h]; rfl

theorem vdotBad_of_first_real {x : List GRat} (y : List GRat) (h : ∀ a ∈ x, a.im = 0) : vdotBad x y = vdot x y := by
  unfold vdotBad
  split
  · exact zsum_congr fun a ha b _ => by rw [conj_eq_self_of_im (h a ha)]
  · rfl

/-- against a real second operand the defective product is the complex CONJUGATE of the right value -/
theorem vdotBad_of_second_real (x : List GRat) {y : List GRat} (h : ∀ b ∈ y, b.im = 0) :
    vdotBad x y = conj (vdot x y) := by
  have hall : y.all GRat.isReal = true := List.all_eq_true.2 fun b hb => (isReal_iff b).2 (h b hb)
  rw [vdotBad, if_pos hall]
  refine .trans (zsum_congr fun a _ b hb => ?_) (zsum_hom conj conj_zero conj_add _ x y)
  rw [conj_mul, conj_conj, conj_eq_self_of_im (h b hb)]

end ComplexDot
end Furax
