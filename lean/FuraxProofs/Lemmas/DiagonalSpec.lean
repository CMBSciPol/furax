/-
Specification of the diagonal operator model (FuraxModel/Diagonal.lean): `BroadcastDiagonalOperator`,
`DiagonalOperator` (`strict = true`), `DiagonalInverseOperator` (`pinvValues`).  The tensor theorems hold for any
element type with `[Inhabited α] [Mul α]`: no algebraic law is needed.

`apply_eq` is `apply` in one piece and `apply_of_nodup` what it computes on pairwise distinct axes: `moveaxis` takes
the values to their destination axes (`DiagSetup`), and the reshaped diagonal only depends on the coordinates along
those axes (`DiagSetup.data_getD`).  From there `apply_general` (axes also outside the leaf's rank, NumPy-compatible
dimensions in both directions, strict or not) and its converse `apply_rejects_incompatible`; the statements for
in-range axes are instances of it.
-/
import FuraxModel.Diagonal
import FuraxProofs.Lemmas.MoveAxisPerm
import Mathlib.Algebra.Field.Rat
namespace Furax.Diagonal
open Furax.Axes

theorem normalizeSpec_nonneg (r : Nat) (a : Int) (h : 0 ≤ a) :
    normalizeSpec r (.scalar a) = (List.range r).map (fun (k : Nat) => a + Int.ofNat k) :=
  if_pos h

theorem normalizeSpec_neg (r : Nat) (a : Int) (h : a < 0) :
    normalizeSpec r (.scalar a)
      = (List.range r).map (fun (k : Nat) => a - Int.ofNat r + 1 + Int.ofNat k) :=
  if_neg (Int.not_le.mpr h)

theorem normalizeSpec_seq (r : Nat) (l : List Int) : normalizeSpec r (.seq l) = l := rfl

theorem pinv_scalar (d : Rat) :
    d * (if d != 0 then 1 / d else 0) * d = d ∧
    (if d != 0 then 1 / d else 0) * d * (if d != 0 then 1 / d else 0) = (if d != 0 then 1 / d else 0) := by
  by_cases h : d = 0
  · subst h; simp
  · rw [if_pos (bne_iff_ne.mpr h), mul_one_div_cancel h, one_div_mul_cancel h, one_mul, one_mul]
    exact ⟨rfl, rfl⟩

theorem pinvValues_length (l : List Rat) : (pinvValues l).length = l.length := List.length_map _

theorem pinv_laws (l : List Rat) : ∀ k (h : k < l.length),
    l[k] * (pinvValues l)[k]'(by simpa [pinvValues] using h) * l[k] = l[k] ∧
    (pinvValues l)[k]'(by simpa [pinvValues] using h) * l[k] * (pinvValues l)[k]'(by simpa [pinvValues] using h)
      = (pinvValues l)[k]'(by simpa [pinvValues] using h) := by
  intro k h
  simp only [pinvValues, List.getElem_map]
  exact pinv_scalar l[k]

theorem pinv_zero : pinvValues [0] = [0] := by decide

/-- the list of axes after `_normalize_axes`, before the duplicate check -/
def normalizedAxes (axes : List Int) (ndim : Nat) : List Int :=
  axes.map fun a => if a ≥ 0 then a else (ndim : Int) + a

theorem normalizedAxes_length (axes : List Int) (n : Nat) : (normalizedAxes axes n).length = axes.length :=
  List.length_map _

theorem normalizedAxes_nonneg (axes : List Int) (n : Nat) (h : ∀ a ∈ axes, 0 ≤ a) :
    normalizedAxes axes n = axes := by
  unfold normalizedAxes
  conv => rhs; rw [← List.map_id axes]
  exact List.map_congr_left fun a ha => if_pos (h a ha)

theorem normalizeAxes_eq (axes : List Int) (ndim : Nat) :
    normalizeAxes axes ndim =
      if (normalizedAxes axes ndim).Nodup then .ok (normalizedAxes axes ndim) else .error .valueError := by
  have : normalizeAxes axes ndim =
      if (normalizedAxes axes ndim).eraseDups.length != (normalizedAxes axes ndim).length
      then .error .valueError else .ok (normalizedAxes axes ndim) := rfl
  have hiff := eraseDups_length_eq_iff (normalizedAxes axes ndim)
  rw [this]
  by_cases hn : (normalizedAxes axes ndim).Nodup
  · rw [if_pos hn, if_neg (by simpa using hiff.mpr hn)]
  · rw [if_neg hn, if_pos (by simpa using mt hiff.mp hn)]

/-- a fold of an operation that is below both arguments (`min` for `≤`, `max` for `≥`) is below the
initial value and every element of the list -/
theorem foldl_below {R : Int → Int → Prop} {f : Int → Int → Int} (htrans : ∀ {x y z}, R x y → R y z → R x z)
    (hrefl : ∀ x, R x x) (hl : ∀ x y, R (f x y) x) (hr : ∀ x y, R (f x y) y) (l : List Int) (init : Int) :
    R (l.foldl f init) init ∧ ∀ a ∈ l, R (l.foldl f init) a := by
  induction l generalizing init with
  | nil => exact ⟨hrefl _, by simp⟩
  | cons b bs ih =>
    obtain ⟨h1, h2⟩ := ih (f init b)
    refine ⟨htrans h1 (hl _ _), fun a ha => ?_⟩
    rcases List.mem_cons.mp ha with rfl | ha
    · exact htrans h1 (hr _ _)
    · exact h2 a ha

theorem minInt_le (l : List Int) (a : Int) (h : a ∈ l) : minInt l ≤ a :=
  (foldl_below (R := (· ≤ ·)) (f := min) Int.le_trans Int.le_refl Int.min_le_left Int.min_le_right l _).2 a h

theorem le_maxInt (l : List Int) (a : Int) (h : a ∈ l) : a ≤ maxInt l :=
  (foldl_below (R := (· ≥ ·)) (f := max) (fun h1 h2 => Int.le_trans h2 h1) Int.le_refl Int.le_max_left
    Int.le_max_right l _).2 a h

theorem leftDims_nonneg (axes : List Int) (h : ∀ a ∈ axes, 0 ≤ a) : leftDims axes = 0 := by
  have : 0 ≤ minInt axes := by
    refine List.foldlRecOn (motive := (0 ≤ ·)) axes min ?_ fun b hb a ha => le_min hb (h a ha)
    cases axes with
    | nil => exact Int.le_refl 0
    | cons a _ => exact h a List.mem_cons_self
  unfold leftDims
  omega

theorem leftDims_zero (ax : List Int) (h : leftDims ax = 0) : ∀ a ∈ ax, 0 ≤ a := by
  intro a ha
  have := minInt_le ax a ha
  unfold leftDims at h
  omega

theorem rightDims_inrange (axes : List Int) (n : Nat) (hne : axes ≠ []) (h : ∀ a ∈ axes, a < n) :
    rightDims axes n = 0 := by
  have : maxInt axes < n := by
    refine List.foldlRecOn (motive := (· < (n : Int))) axes max ?_ fun b hb a ha => max_lt hb (h a ha)
    cases axes with
    | nil => exact absurd rfl hne
    | cons a _ => exact h a List.mem_cons_self
  unfold rightDims
  omega

theorem rightDims_zero (ax : List Int) (n : Nat) (h : rightDims ax n = 0) : ∀ a ∈ ax, a < n := by
  intro a ha
  have := le_maxInt ax a ha
  unfold rightDims at h
  omega

theorem mapM_normAxis_nonneg (N : Nat) (axes : List Int) (h : ∀ a ∈ axes, 0 ≤ a ∧ a < N) :
    axes.mapM (normAxis N) = .ok (axes.map Int.toNat) := by
  induction axes with
  | nil => rfl
  | cons a as ih =>
    have ha := h a List.mem_cons_self
    rw [List.mapM_cons, ih fun b hb => h b (List.mem_cons_of_mem a hb), normAxis, if_neg (by omega),
      if_neg (by omega)]
    rfl

theorem normAxisTuple_nonneg (N : Nat) (axes : List Int) (h : ∀ a ∈ axes, 0 ≤ a ∧ a < N) (hn : axes.Nodup) :
    normAxisTuple N axes = .ok (axes.map Int.toNat) := by
  -- `toNat` is injective on non-negative integers
  have hnd : (axes.map Int.toNat).Nodup := by
    rw [List.nodup_map_iff_inj_on hn]
    intro a ha b hb hab
    have := h a ha; have := h b hb
    omega
  unfold normAxisTuple
  rw [mapM_normAxis_nonneg N axes h]
  exact if_neg (by simpa using (eraseDups_length_eq_iff _).mpr hnd)

theorem normAxisTuple_range (N r : Nat) (h : r ≤ N) :
    normAxisTuple N ((List.range r).map fun (k : Nat) => Int.ofNat k) = .ok (List.range r) := by
  rw [normAxisTuple_nonneg N _ (by
      intro a ha
      obtain ⟨k, hk, rfl⟩ := List.mem_map.mp ha
      have := List.mem_range.mp hk
      exact ⟨Int.natCast_nonneg k, by simp only [Int.ofNat_eq_natCast]; omega⟩)
    ((List.nodup_map_iff_inj_on List.nodup_range).mpr fun a _ b _ hab => Int.ofNat.inj hab),
    List.map_map]
  exact congrArg _ (List.map_id _)

theorem moveaxisOrder_range_ok (N : Nat) (axes : List Int) (h : ∀ a ∈ axes, 0 ≤ a ∧ a < N) (hn : axes.Nodup) :
    ∃ order, moveaxisOrder N ((List.range axes.length).map fun (k : Nat) => Int.ofNat k) axes = .ok order ∧
      MAFacts N (List.range axes.length) (axes.map Int.toNat) order ∧ axes.length ≤ N := by
  have hd := normAxisTuple_nonneg N axes h hn
  obtain ⟨hdn, hdlt⟩ := normAxisTuple_spec hd
  -- pairwise distinct naturals below `N`
  have hr : axes.length ≤ N := by
    have := nodup_length_le _ _ hdn hdlt
    rwa [List.length_map] at this
  have hs := normAxisTuple_range N axes.length hr
  have hl : (List.range axes.length).length = (axes.map Int.toNat).length := by
    rw [List.length_range, List.length_map]
  obtain ⟨hsn, hslt⟩ := normAxisTuple_spec hs
  exact ⟨_, by rw [moveaxisOrder_eq hs hd, if_neg (by simp)], maOrder_facts hsn hdn hl hslt hdlt, hr⟩

theorem getD_zipWith {α β γ} (f : α → β → γ) (a : List α) (b : List β) (da : α) (db : β) (dc : γ) (j : Nat)
    (ha : j < a.length) (hb : j < b.length) :
    (List.zipWith f a b).getD j dc = f (a.getD j da) (b.getD j db) := by
  rw [List.getD_eq_getElem _ _ (by rw [List.length_zipWith]; omega), List.getElem_zipWith,
    List.getD_eq_getElem _ _ ha, List.getD_eq_getElem _ _ hb]

theorem map_range_add {α} (n m : Nat) (f : Nat → α) :
    (List.range (n + m)).map f = (List.range n).map f ++ (List.range m).map fun i => f (n + i) := by
  rw [List.range_add, List.map_append, List.map_map]
  rfl

theorem map_range_eq_replicate {α} (n : Nat) (f : Nat → α) (c : α) (h : ∀ i, i < n → f i = c) :
    (List.range n).map f = List.replicate n c := by
  refine List.eq_replicate_iff.mpr ⟨by rw [List.length_map, List.length_range], fun b hb => ?_⟩
  obtain ⟨i, hi, rfl⟩ := List.mem_map.mp hb
  exact h i (List.mem_range.mp hi)

theorem padded_getD_ge (vs : List Nat) (m k : Nat) (hk : vs.length ≤ k) (hk' : k < vs.length + m) :
    (vs ++ List.replicate m 1).getD k 0 = 1 := by
  rw [List.getD_append_right _ _ _ _ hk, List.getD_replicate _ (by omega)]

/-- dimensions of size 1 read at 0 do not move the flat position -/
theorem ravelFold_ones (m acc : Nat) :
    (List.replicate m ((1, 0) : Nat × Nat)).foldl (fun acc p => acc * p.1 + p.2) acc = acc := by
  induction m with
  | zero => rfl
  | succ m ih => rw [List.replicate_succ, List.foldl_cons, Nat.mul_one, Nat.add_zero, ih]

theorem ravelIdx_pad (vs idx : List Nat) (m : Nat) (h : idx.length = vs.length) :
    ravelIdx (vs ++ List.replicate m 1) (idx ++ List.replicate m 0) = ravelIdx vs idx := by
  unfold ravelIdx
  rw [List.zip_append h.symm, List.foldl_append, List.zip_replicate', ravelFold_ones]

theorem ravelIdx_leftpad (b v : List Nat) (m : Nat) :
    ravelIdx (List.replicate m 1 ++ b) (List.replicate m 0 ++ v) = ravelIdx b v := by
  unfold ravelIdx
  rw [List.zip_append (by simp), List.foldl_append, List.zip_replicate', ravelFold_ones]

theorem getD_idxOf {l : List Nat} {j : Nat} (h : j ∈ l) : l.getD (l.idxOf j) 0 = j := by
  have hk := List.idxOf_lt_length_iff.mpr h
  rw [List.getD_eq_getElem _ _ hk, List.getElem_idxOf hk]

section reshaped
variable {N : Nat} {vs d order : List Nat}

/-- hypotheses: `order` is the `moveaxis` order sending axis `k < r` to position `d[k]` -/
structure DiagSetup (N : Nat) (vs d order : List Nat) : Prop where
  facts : MAFacts N (List.range vs.length) d order
  rle : vs.length ≤ N

theorem DiagSetup.dlen (S : DiagSetup N vs d order) : d.length = vs.length := by
  simpa using S.facts.len.symm

theorem DiagSetup.order_dest (S : DiagSetup N vs d order) (k : Nat) (hk : k < vs.length) :
    order.getD (d.getD k 0) 0 = k := by
  have hk' : k < (List.range vs.length).length := by rwa [List.length_range]
  rw [S.facts.dest_getD k hk', List.getD_eq_getElem _ _ hk', List.getElem_range]

theorem DiagSetup.d_lt (S : DiagSetup N vs d order) (k : Nat) (hk : k < vs.length) : d.getD k 0 < N := by
  exact S.facts.dLt _ (getD_mem (S.dlen ▸ hk))

/-- the shape of the reshaped diagonal -/
def dshape (N : Nat) (vs order : List Nat) : List Nat :=
  transposeShape (vs ++ List.replicate (N - vs.length) 1) order

theorem DiagSetup.dshape_length (S : DiagSetup N vs d order) : (dshape N vs order).length = N :=
  (ma_transposeShape_length _ _).trans S.facts.length

theorem DiagSetup.dshape_dest (S : DiagSetup N vs d order) (k : Nat) (hk : k < vs.length) :
    (dshape N vs order).getD (d.getD k 0) 0 = vs.getD k 0 := by
  unfold dshape
  rw [ma_transposeShape_getD _ _ _ (S.facts.length ▸ S.d_lt k hk), S.order_dest k hk, List.getD_append _ _ _ _ hk]

theorem DiagSetup.dshape_rest (S : DiagSetup N vs d order) (j : Nat) (hj : j < N) (hjd : j ∉ d) :
    (dshape N vs order).getD j 0 = 1 := by
  unfold dshape
  have h1 : vs.length ≤ order.getD j 0 := by simpa using (S.facts.mem_iff j hj).not.mpr hjd
  have h2 := S.facts.getD_lt j hj
  have := S.rle
  rw [ma_transposeShape_getD _ _ _ (S.facts.length ▸ hj), padded_getD_ge _ _ _ h1 (by omega)]

theorem DiagSetup.dshape_getD (S : DiagSetup N vs d order) (j : Nat) (hj : j < N) :
    (dshape N vs order).getD j 0 = if j ∈ d then vs.getD (d.idxOf j) 0 else 1 := by
  split
  · rename_i hjd
    have := S.dshape_dest (d.idxOf j) (S.dlen ▸ List.idxOf_lt_length_iff.mpr hjd)
    rwa [getD_idxOf hjd] at this
  · exact S.dshape_rest j hj ‹_›

/-- reading the reshaped diagonal at a valid multi-index: only the coordinates along the
destination axes matter -/
theorem DiagSetup.data_getD {α} [Inhabited α] (S : DiagSetup N vs d order) (data : List α) (idx : List Nat)
    (h : List.Forall₂ (· < ·) idx (dshape N vs order)) :
    (transposeData (vs ++ List.replicate (N - vs.length) 1) order data).getD
        (ravelIdx (dshape N vs order) idx) default
      = data.getD (ravelIdx vs ((List.range vs.length).map fun k => idx.getD (d.getD k 0) 0)) default := by
  have hr := S.rle
  have hv := ((forall2_lt_iff _ _).mp h).2
  rw [S.dshape_length] at hv
  unfold dshape at h ⊢
  rw [transposeData_getD _ _ _ _ h, transposeIdx, List.length_append, List.length_replicate]
  -- the values' own axes read the destination coordinates; the padding axes sit where the shape is 1
  have hsplit : (List.range (vs.length + (N - vs.length))).map (fun ax => idx.getD (order.idxOf ax) 0)
      = ((List.range vs.length).map fun k => idx.getD (d.getD k 0) 0) ++ List.replicate (N - vs.length) 0 := by
    rw [map_range_add]
    congr 1
    · refine List.map_congr_left fun k hk => ?_
      have hk := List.mem_range.mp hk
      rw [idxOf_of_getD_eq S.facts.nodup (S.facts.length ▸ S.d_lt k hk) (S.order_dest k hk)]
    · refine map_range_eq_replicate _ _ 0 fun i hi => ?_
      -- `order` holds `vs.length + i` at a position outside `d`
      have hlt : order.idxOf (vs.length + i) < order.length :=
        List.idxOf_lt_length_of_mem ((permRange_mem S.facts.perm).mpr (by omega))
      have a1 : order.idxOf (vs.length + i) < N := S.facts.length ▸ hlt
      have a2 : order.idxOf (vs.length + i) ∉ d := fun hd => by
        have := (S.facts.mem_iff _ a1).mpr hd
        rw [List.getD_eq_getElem _ _ hlt, List.getElem_idxOf hlt, List.mem_range] at this
        omega
      have := hv _ a1
      rw [S.dshape_rest _ a1 a2] at this
      exact Nat.lt_one_iff.mp this
  rw [hsplit, ravelIdx_pad _ _ _ (by simp)]

end reshaped

/-- the broadcast of two compatible dimensions -/
def bdim (p q : Nat) : Nat := if p = 1 then q else p

/-- NumPy compatibility of two dimensions -/
def bcompat (p q : Nat) : Prop := p = q ∨ p = 1 ∨ q = 1

/-- one dimension of `broadcast_shapes` -/
def bcastDim (p : Nat × Nat) : Option Nat :=
  if p.1 == p.2 then some p.1 else if p.1 == 1 then some p.2 else if p.2 == 1 then some p.1 else none

theorem bcastDim_compat {p q : Nat} (h : bcompat p q) : bcastDim (p, q) = some (bdim p q) := by
  unfold bcastDim bdim
  by_cases h1 : p = 1
  · subst h1
    by_cases h2 : 1 = q
    · subst h2; rfl
    · simp [h2]
  · have : p = q ∨ q = 1 := by rcases h with h | h | h <;> [exact .inl h; exact absurd h h1; exact .inr h]
    rcases this with rfl | rfl <;> simp [h1]

theorem bcastDim_incompat {p q : Nat} (h : ¬ bcompat p q) : bcastDim (p, q) = none := by
  unfold bcastDim
  rw [if_neg (by simpa using fun e => h (.inl e)), if_neg (by simpa using fun e => h (.inr (.inl e))),
    if_neg (by simpa using fun e => h (.inr (.inr e)))]

theorem broadcastShapes_of_le (a b : List Nat) (h : b.length ≤ a.length) :
    broadcastShapes a b = (a.zip (List.replicate (a.length - b.length) 1 ++ b)).mapM bcastDim := by
  show ((List.replicate (max a.length b.length - a.length) 1 ++ a).zip
    (List.replicate (max a.length b.length - b.length) 1 ++ b)).mapM bcastDim = _
  rw [Nat.max_eq_left h, Nat.sub_self]
  rfl

theorem broadcastShapes_same_length (a b : List Nat) (hl : a.length = b.length) :
    broadcastShapes a b = (a.zip b).mapM bcastDim := by
  rw [broadcastShapes_of_le a b hl.ge, hl, Nat.sub_self]
  rfl

theorem broadcastShapes_length (a b S : List Nat) (h : broadcastShapes a b = some S) :
    S.length = max a.length b.length := by
  unfold broadcastShapes at h
  rw [option_mapM_length _ _ _ h]
  simp

theorem broadcastShapes_same_rank (a b : List Nat) (hl : a.length = b.length)
    (hc : ∀ j, j < a.length → bcompat (a.getD j 0) (b.getD j 0)) :
    broadcastShapes a b = some (List.zipWith bdim a b) := by
  rw [broadcastShapes_same_length a b hl, option_mapM_eq_some _ (fun p => bdim p.1 p.2), List.map_zip_eq_zipWith]
  · rfl
  · intro p hp
    obtain ⟨j, hj, rfl⟩ := List.getElem_of_mem hp
    rw [List.length_zip] at hj
    have := hc j (by omega)
    rw [List.getD_eq_getElem _ _ (by omega), List.getD_eq_getElem _ _ (by omega)] at this
    rw [List.getElem_zip]
    exact bcastDim_compat this

theorem broadcastShapes_incompat (a b : List Nat) (hl : a.length = b.length) (j : Nat) (hj : j < a.length)
    (h : ¬ bcompat (a.getD j 0) (b.getD j 0)) : broadcastShapes a b = none := by
  rw [List.getD_eq_getElem _ _ hj, List.getD_eq_getElem _ _ (hl ▸ hj)] at h
  rw [broadcastShapes_same_length a b hl]
  refine option_mapM_none _ _ (a[j], b[j]'(hl ▸ hj)) ?_ (bcastDim_incompat h)
  rw [← List.getElem_zip (h := by rw [List.length_zip]; omega)]
  exact List.getElem_mem _

theorem bcastIndex_eq_map (s oi : List Nat) (h : s.length ≤ oi.length) :
    bcastIndex s oi = (List.range s.length).map fun j =>
      if s.getD j 0 = 1 then 0 else oi.getD (oi.length - s.length + j) 0 := by
  unfold bcastIndex
  apply List.ext_getElem
  · rw [List.length_map, List.length_zip, List.length_drop, List.length_map, List.length_range]; omega
  · intro j h1 h2
    have hj : j < s.length := by rw [List.length_map, List.length_range] at h2; exact h2
    rw [List.getElem_map, List.getElem_zip, List.getElem_drop, List.getElem_map, List.getElem_range,
      List.getD_eq_getElem _ _ hj, List.getD_eq_getElem oi 0 (by omega : oi.length - s.length + j < oi.length)]
    simp only [beq_iff_eq]

theorem bcastIndex_getD (s oi : List Nat) (h : oi.length = s.length) (j : Nat) (hj : j < s.length) :
    (bcastIndex s oi).getD j 0 = if s.getD j 0 = 1 then 0 else oi.getD j 0 := by
  rw [bcastIndex_eq_map s oi h.ge, ma_getD_map_range _ _ j hj, h, Nat.sub_self, Nat.zero_add]

theorem bcastIndex_valid (s S oi : List Nat) (hl : s.length = S.length)
    (hd : ∀ j, j < s.length → s.getD j 0 = 1 ∨ S.getD j 0 ≤ s.getD j 0)
    (h : List.Forall₂ (· < ·) oi S) : List.Forall₂ (· < ·) (bcastIndex s oi) s := by
  rw [forall2_lt_iff] at h ⊢
  have hol : oi.length = s.length := h.1.trans hl.symm
  refine ⟨by rw [bcastIndex_eq_map s oi hol.ge, List.length_map, List.length_range], fun j hj => ?_⟩
  rw [bcastIndex_getD s oi hol j hj]
  have := h.2 j (hl ▸ hj)
  rcases hd j hj with h1 | h1
  · rw [if_pos h1, h1]; exact Nat.one_pos
  · split <;> omega

theorem bcastIndex_valid_left (a b oi : List Nat) (hl : a.length = b.length)
    (h : List.Forall₂ (· < ·) oi (List.zipWith bdim a b)) :
    List.Forall₂ (· < ·) (bcastIndex a oi) a := by
  refine bcastIndex_valid a _ oi (by simp [hl]) (fun j hj => ?_) h
  rw [getD_zipWith bdim a b 0 0 0 j hj (hl ▸ hj)]
  unfold bdim
  split
  · exact .inl ‹_›
  · exact .inr (Nat.le_refl _)

theorem bcastIndex_valid_right (a b oi : List Nat) (hl : a.length = b.length)
    (hc : ∀ j, j < a.length → bcompat (a.getD j 0) (b.getD j 0))
    (h : List.Forall₂ (· < ·) oi (List.zipWith bdim a b)) :
    List.Forall₂ (· < ·) (bcastIndex b oi) b := by
  refine bcastIndex_valid b _ oi (by simp [hl]) (fun j hj => ?_) h
  rw [getD_zipWith bdim a b 0 0 0 j (hl ▸ hj) hj]
  have := hc j (hl ▸ hj)
  unfold bdim
  unfold bcompat at this
  split <;> omega

/-- on a valid multi-index no coordinate is replaced by 0: a dimension of size 1 is read at 0 anyway -/
theorem bcast_read_self (s oi : List Nat) (h : List.Forall₂ (· < ·) oi s) :
    ((List.range s.length).map fun j => if s.getD j 0 = 1 then 0 else oi.getD j 0) = oi := by
  rw [forall2_lt_iff] at h
  conv => rhs; rw [← ma_map_getD_range (d := 0) oi, h.1]
  refine List.map_congr_left fun j hj => ?_
  have := h.2 j (List.mem_range.mp hj)
  split
  · omega
  · rfl

theorem bcastIndex_self (s oi : List Nat) (h : List.Forall₂ (· < ·) oi s) : bcastIndex s oi = oi := by
  have hl := h.length_eq
  rw [bcastIndex_eq_map s oi hl.ge, hl, Nat.sub_self]
  simp only [Nat.zero_add]
  exact bcast_read_self s oi h

theorem zipBroadcast_spec {α} [Inhabited α] (f : α → α → α) (a b : Tensor α) (S : List Nat)
    (h : broadcastShapes a.shape b.shape = some S) :
    ∃ y, Tensor.zipBroadcast f a b = some y ∧ y.shape = S ∧ y.data.length = prodNat S ∧
      ∀ p, p < prodNat S → y.data.getD p default =
        f (a.data.getD (ravelIdx a.shape (bcastIndex a.shape (unravel S p))) default)
          (b.data.getD (ravelIdx b.shape (bcastIndex b.shape (unravel S p))) default) := by
  have hl : ∀ t : Tensor α, (t.broadcastTo S).data.length = prodNat S := fun t => by
    rw [Tensor.broadcastTo, List.length_map, List.length_range]
  refine ⟨⟨S, List.zipWith f (a.broadcastTo S).data (b.broadcastTo S).data⟩,
    by simp only [Tensor.zipBroadcast, h]; rfl, rfl, by rw [List.length_zipWith, hl, hl, Nat.min_self], ?_⟩
  intro p hp
  rw [getD_zipWith f _ _ default default default p (by rw [hl]; exact hp) (by rw [hl]; exact hp)]
  unfold Tensor.broadcastTo
  rw [ma_getD_map_range _ _ _ hp, ma_getD_map_range _ _ _ hp]

/-- explicit broadcast shape: along the destination axis of the `k`-th values dimension the
broadcast of both dimensions, elsewhere the (padded) leaf's dimension -/
def outShape (vs d X : List Nat) : List Nat :=
  (List.range X.length).map fun j =>
    if j ∈ d then bdim (vs.getD (d.idxOf j) 0) (X.getD j 0) else X.getD j 0

theorem outShape_length (vs d X : List Nat) : (outShape vs d X).length = X.length := by
  rw [outShape, List.length_map, List.length_range]

section core
variable {N : Nat} {vs d order : List Nat}

/-- **Core specification.**  The reshaped diagonal (values of shape `vs` laid along the pairwise
distinct axes `d` of an `N`-dimensional array, ones elsewhere) multiplied with broadcasting by a
tensor of shape `X` of rank `N`. -/
theorem DiagSetup.zip_spec {α} [Inhabited α] (S : DiagSetup N vs d order) (f : α → α → α)
    (vdata xdata : List α) (X : List Nat) (hX : X.length = N)
    (hc : ∀ k, k < vs.length → bcompat (vs.getD k 0) (X.getD (d.getD k 0) 0)) :
    ∃ y, Tensor.zipBroadcast f
          ⟨dshape N vs order, transposeData (vs ++ List.replicate (N - vs.length) 1) order vdata⟩ ⟨X, xdata⟩
          = some y ∧
      y.shape = List.zipWith bdim (dshape N vs order) X ∧
      y.data.length = prodNat y.shape ∧
      ∀ p, p < prodNat y.shape →
        y.data.getD p default =
          f (vdata.getD (ravelIdx vs ((List.range vs.length).map fun k =>
                if vs.getD k 0 = 1 then 0 else (unravel y.shape p).getD (d.getD k 0) 0)) default)
            (xdata.getD (ravelIdx X (bcastIndex X (unravel y.shape p))) default) := by
  have hl : (dshape N vs order).length = X.length := by rw [S.dshape_length, hX]
  have hcompat : ∀ j, j < (dshape N vs order).length → bcompat ((dshape N vs order).getD j 0) (X.getD j 0) := by
    intro j hj
    rw [S.dshape_length] at hj
    by_cases hjd : j ∈ d
    · obtain ⟨k, hk, rfl⟩ := mem_iff_getD.mp hjd
      rw [S.dshape_dest k (S.dlen ▸ hk)]
      exact hc k (S.dlen ▸ hk)
    · rw [S.dshape_rest j hj hjd]
      exact .inr (.inl rfl)
  obtain ⟨y, hy, hys, hyl, hyd⟩ := zipBroadcast_spec f
    ⟨dshape N vs order, transposeData (vs ++ List.replicate (N - vs.length) 1) order vdata⟩ ⟨X, xdata⟩ _
    (broadcastShapes_same_rank _ X hl hcompat)
  refine ⟨y, hy, hys, by rw [hys]; exact hyl, ?_⟩
  intro p hp
  rw [hys] at hp ⊢
  rw [hyd p hp]
  obtain ⟨v1, _⟩ := ma_unravel_valid _ p hp
  have hil : (unravel (List.zipWith bdim (dshape N vs order) X) p).length = (dshape N vs order).length := by
    rw [ma_unravel_length, List.length_zipWith, hl, Nat.min_self]
  show f (List.getD _ (ravelIdx (dshape N vs order) _) default) _ = _
  rw [S.data_getD vdata _ (bcastIndex_valid_left _ _ _ hl v1)]
  congr 3
  refine List.map_congr_left fun k hk => ?_
  have hk' : k < vs.length := List.mem_range.mp hk
  rw [bcastIndex_getD _ _ hil _ (by rw [S.dshape_length]; exact S.d_lt k hk'), S.dshape_dest k hk']

theorem DiagSetup.out_shape_dest (S : DiagSetup N vs d order) (X : List Nat) (hX : X.length = N)
    (k : Nat) (hk : k < vs.length) :
    (List.zipWith bdim (dshape N vs order) X).getD (d.getD k 0) 0
      = bdim (vs.getD k 0) (X.getD (d.getD k 0) 0) := by
  have hd := S.d_lt k hk
  rw [getD_zipWith bdim _ _ 0 0 0 _ (by rw [S.dshape_length]; exact hd) (by rw [hX]; exact hd), S.dshape_dest k hk]

theorem DiagSetup.out_shape_explicit (S : DiagSetup N vs d order) (X : List Nat) (hX : X.length = N) :
    List.zipWith bdim (dshape N vs order) X = outShape vs d X := by
  have hl := S.dshape_length
  apply List.ext_getElem
  · simp [outShape, hl, hX]
  · intro j h1 h2
    have hj : j < N := by simpa [hl, hX] using h1
    rw [← List.getD_eq_getElem _ 0 h1, getD_zipWith bdim _ _ 0 0 0 j (by rw [hl]; exact hj) (by rw [hX]; exact hj),
      S.dshape_getD j hj]
    simp only [outShape, List.getElem_map, List.getElem_range]
    split
    · rfl
    · exact if_pos rfl

end core

theorem outShape_eq_self (vs d X : List Nat) (hd : d.length = vs.length)
    (hc : ∀ k, k < vs.length → vs.getD k 0 = X.getD (d.getD k 0) 0 ∨ vs.getD k 0 = 1) :
    outShape vs d X = X := by
  unfold outShape
  conv => rhs; rw [← ma_map_getD_range (d := 0) X]
  refine List.map_congr_left fun j _ => ?_
  split
  · rename_i hjd
    have := hc (d.idxOf j) (hd ▸ List.idxOf_lt_length_iff.mpr hjd)
    rw [getD_idxOf hjd] at this
    unfold bdim
    split
    · rfl
    · omega
  · rfl

/-- positions (in the `leftDims + rank x + rightDims`-dimensional broadcast frame) of the values' axes -/
def destAxes (ax : List Int) : List Nat := (ax.map (· + (leftDims ax : Int))).map Int.toNat

/-- the leaf's shape in the broadcast frame -/
def padShape (L R : Nat) (xs : List Nat) : List Nat := List.replicate L 1 ++ (xs ++ List.replicate R 1)

theorem padShape_length (L R : Nat) (xs : List Nat) : (padShape L R xs).length = L + xs.length + R := by
  simp [padShape]; omega

theorem shifted_range (ax : List Int) (n : Nat) :
    ∀ a ∈ ax.map (· + (leftDims ax : Int)), 0 ≤ a ∧ a < ((leftDims ax + n + rightDims ax n : Nat) : Int) := by
  intro a' ha'
  obtain ⟨a, ha, rfl⟩ := List.mem_map.mp ha'
  have h1 := minInt_le ax a ha
  have h2 := le_maxInt ax a ha
  unfold leftDims rightDims
  constructor <;> omega

/-- the number of ones `_reshape_diagonal` appends to the values' shape -/
theorem toNat_extra (L R n r : Nat) : ((L : Int) + (R : Int) + (n : Int) - (r : Int)).toNat = L + n + R - r := by
  omega

theorem reshapeDiagonal_ok {α} [Inhabited α] (values : Tensor α) (ax : List Int) (n : Nat)
    (hlen : ax.length = values.shape.length) (hnd : ax.Nodup) :
    ∃ order,
      reshapeDiagonal values ax n = .ok
        ⟨dshape (leftDims ax + n + rightDims ax n) values.shape order,
          transposeData (values.shape ++
            List.replicate (leftDims ax + n + rightDims ax n - values.shape.length) 1) order values.data⟩ ∧
      DiagSetup (leftDims ax + n + rightDims ax n) values.shape (destAxes ax) order := by
  obtain ⟨order, ho, F, hrle⟩ := moveaxisOrder_range_ok _ _ (shifted_range ax n)
    ((List.nodup_map_iff_inj_on hnd).mpr fun a _ b _ hab => add_right_cancel hab)
  rw [List.length_map] at ho F hrle
  rw [hlen] at F hrle
  refine ⟨order, ?_, ⟨F, hrle⟩⟩
  have hpl : (values.shape ++ List.replicate (leftDims ax + n + rightDims ax n - values.shape.length) 1).length
      = leftDims ax + n + rightDims ax n := by
    rw [List.length_append, List.length_replicate, Nat.add_sub_cancel' hrle]
  unfold reshapeDiagonal Axes.moveaxis
  simp only [toNat_extra, hpl, ho]
  rfl

theorem broadcastShapes_pad (a b : List Nat) (h : b.length ≤ a.length) :
    broadcastShapes a b = broadcastShapes a (List.replicate (a.length - b.length) 1 ++ b) := by
  have e : a.length = (List.replicate (a.length - b.length) 1 ++ b).length := by
    rw [List.length_append, List.length_replicate]; omega
  rw [broadcastShapes_of_le a b h, broadcastShapes_same_length a _ e]

theorem leaf_index (xs : List Nat) (L R : Nat) (oi : List Nat) (h : oi.length = L + xs.length + R) :
    ravelIdx (xs ++ List.replicate R 1) (bcastIndex (xs ++ List.replicate R 1) oi)
      = ravelIdx xs ((List.range xs.length).map fun j =>
          if xs.getD j 0 = 1 then 0 else oi.getD (L + j) 0) := by
  have hsl : (xs ++ List.replicate R 1).length = xs.length + R := by rw [List.length_append, List.length_replicate]
  have hL : oi.length - (xs.length + R) = L := by omega
  -- the coordinates along the appended ones are read at 0
  rw [bcastIndex_eq_map _ _ (by rw [hsl]; omega), hsl, hL, map_range_add,
    map_range_eq_replicate R _ 0 fun i hi =>
      if_pos (padded_getD_ge xs R (xs.length + i) (Nat.le_add_right _ _) (Nat.add_lt_add_left hi _)),
    ravelIdx_pad _ _ _ (by rw [List.length_map, List.length_range])]
  congr 1
  exact List.map_congr_left fun j hj => by rw [List.getD_append _ _ _ _ (List.mem_range.mp hj)]

theorem ravel_bcast_leftpad (b oi : List Nat) (m : Nat) (h : oi.length = m + b.length) :
    ravelIdx (List.replicate m 1 ++ b) (bcastIndex (List.replicate m 1 ++ b) oi)
      = ravelIdx b (bcastIndex b oi) := by
  have hsl : (List.replicate m 1 ++ b).length = m + b.length := by rw [List.length_append, List.length_replicate]
  -- the coordinates along the prepended ones are read at 0
  rw [bcastIndex_eq_map _ oi (by rw [hsl, h]), bcastIndex_eq_map b oi (by rw [h]; exact Nat.le_add_left _ _),
    hsl, h, Nat.sub_self, Nat.add_sub_cancel, map_range_add,
    map_range_eq_replicate m _ 0 fun i hi => if_pos (by
      rw [List.getD_append _ _ _ _ (by rw [List.length_replicate]; exact hi), List.getD_replicate _ hi]),
    ravelIdx_leftpad]
  congr 1
  refine List.map_congr_left fun i _ => ?_
  show (if (List.replicate m 1 ++ b).getD (m + i) 0 = 1 then 0 else oi.getD (0 + (m + i)) 0) = _
  rw [List.getD_append_right _ _ _ _ (by rw [List.length_replicate]; exact Nat.le_add_right _ _),
    List.length_replicate, Nat.add_sub_cancel_left, Nat.zero_add]

theorem zipBroadcast_pad {α} [Inhabited α] (f : α → α → α) (a b : Tensor α)
    (h : b.shape.length ≤ a.shape.length) :
    Tensor.zipBroadcast f a b
      = Tensor.zipBroadcast f a ⟨List.replicate (a.shape.length - b.shape.length) 1 ++ b.shape, b.data⟩ := by
  unfold Tensor.zipBroadcast
  rw [← broadcastShapes_pad _ _ h]
  cases hB : broadcastShapes a.shape b.shape with
  | none => rfl
  | some S =>
    have hS := broadcastShapes_length _ _ _ hB
    simp only [Option.bind_eq_bind, Option.bind_some, Tensor.broadcastTo]
    congr 3
    refine List.map_congr_left fun i _ => ?_
    rw [ravel_bcast_leftpad _ _ _ (by rw [ma_unravel_length, hS]; omega)]

theorem ok_bind {ε β γ} (b : β) (f : β → Except ε γ) : (Except.ok b >>= f) = f b := rfl

theorem normAxisTuple_onlyValueError (n : Nat) (l : List Int) : OnlyValueError (normAxisTuple n l) :=
  (OnlyValueError.mapM (fun _ => .ite .valueError (.ok _)) l).bind fun _ => .ite .valueError (.ok _)

theorem reshapeDiagonal_onlyValueError {α} [Inhabited α] (values : Tensor α) (axes : List Int) (n : Nat) :
    OnlyValueError (reshapeDiagonal values axes n) :=
  OnlyValueError.bind
    ((normAxisTuple_onlyValueError _ _).bind fun _ => (normAxisTuple_onlyValueError _ _).bind fun _ =>
      .ite .valueError (.ok _))
    fun _ => .ok _

/-- **`apply` in one piece**: scalar values and repeated axes are refused; otherwise the reshaped diagonal is
multiplied, with broadcasting, by the leaf padded on the right, and the strict variant checks the shape -/
theorem apply_eq {α} [Inhabited α] [Mul α] (strict : Bool) (values : Tensor α) (spec : AxisSpec) (x : Tensor α) :
    apply strict values spec x =
      if values.shape = [] ∨ ¬ (normalizedAxes (normalizeSpec values.shape.length spec) x.shape.length).Nodup
      then .error .valueError
      else
        reshapeDiagonal values (normalizedAxes (normalizeSpec values.shape.length spec) x.shape.length)
            x.shape.length >>= fun d =>
          match Tensor.zipBroadcast (· * ·) d
              (reshapeLeaf x (normalizedAxes (normalizeSpec values.shape.length spec) x.shape.length)) with
          | none => .error .valueError
          | some y => if strict && y.shape != x.shape then .error .valueError else .ok y := by
  unfold apply
  by_cases hv : values.shape = []
  · rw [if_pos (Or.inl hv), if_pos (by rw [hv]; rfl)]
  · rw [if_neg (by rw [beq_iff_eq, List.length_eq_zero_iff]; exact hv), normalizeAxes_eq]
    by_cases hn : (normalizedAxes (normalizeSpec values.shape.length spec) x.shape.length).Nodup
    · rw [if_pos hn, if_neg (fun h => h.elim hv (· hn))]
      rfl
    · rw [if_neg hn, if_pos (Or.inr hn)]
      rfl

theorem apply_eq_ok_iff {α} [Inhabited α] [Mul α] (strict : Bool) (values : Tensor α) (spec : AxisSpec)
    (x y : Tensor α) :
    apply strict values spec x = .ok y ↔
      values.shape ≠ [] ∧ (normalizedAxes (normalizeSpec values.shape.length spec) x.shape.length).Nodup ∧
      ∃ d, reshapeDiagonal values (normalizedAxes (normalizeSpec values.shape.length spec) x.shape.length)
            x.shape.length = .ok d ∧
        Tensor.zipBroadcast (· * ·) d
            (reshapeLeaf x (normalizedAxes (normalizeSpec values.shape.length spec) x.shape.length)) = some y ∧
        (strict = true → y.shape = x.shape) := by
  rw [apply_eq]
  split
  · rename_i h
    exact ⟨(nomatch ·), fun ⟨hv, hn, _⟩ => (h.elim hv (· hn)).elim⟩
  · rename_i h
    have hv : values.shape ≠ [] := fun e => h (.inl e)
    have hn := not_not.mp fun e => h (.inr e)
    cases hd : reshapeDiagonal values
        (normalizedAxes (normalizeSpec values.shape.length spec) x.shape.length) x.shape.length with
    | error e => exact ⟨(nomatch ·), fun ⟨_, _, d, hd', _⟩ => nomatch hd'⟩
    | ok d =>
      rw [ok_bind]
      constructor
      · intro e
        split at e
        · cases e
        · rename_i y' hz
          split at e
          · cases e
          · rename_i hs
            cases e
            exact ⟨hv, hn, d, rfl, hz, fun ht => by simpa [ht] using hs⟩
      · rintro ⟨-, -, d', hd', hz, hs⟩
        cases hd'
        rw [hz]
        by_cases ht : strict = true
        · simp [ht, hs ht]
        · simp [ht]

theorem apply_rejects_scalar_values {α} [Inhabited α] [Mul α] (strict : Bool) (values : Tensor α)
    (spec : AxisSpec) (x : Tensor α) (h : values.shape = []) :
    apply strict values spec x = .error .valueError := by
  rw [apply_eq, if_pos (Or.inl h)]

theorem apply_rejects_duplicate_axes' {α} [Inhabited α] [Mul α] (strict : Bool) (values : Tensor α)
    (spec : AxisSpec) (x : Tensor α) (_hv : values.shape ≠ [])
    (h : ¬ (normalizedAxes (normalizeSpec values.shape.length spec) x.shape.length).Nodup) :
    apply strict values spec x = .error .valueError := by
  rw [apply_eq, if_pos (Or.inr h)]

theorem apply_strict_shape {α} [Inhabited α] [Mul α] (values : Tensor α)
    (spec : AxisSpec) (x y : Tensor α) (h : apply true values spec x = .ok y) : y.shape = x.shape := by
  obtain ⟨-, -, d, -, -, hs⟩ := (apply_eq_ok_iff true values spec x y).mp h
  exact hs rfl

/-- every failure of the diagonal operator on a leaf is a `ValueError` -/
theorem apply_error_kind {α} [Inhabited α] [Mul α] (strict : Bool) (values : Tensor α) (spec : AxisSpec)
    (x : Tensor α) (e : PyErr) (h : apply strict values spec x = .error e) : e = .valueError := by
  refine (?_ : OnlyValueError (apply strict values spec x)) e h
  rw [apply_eq]
  refine .ite .valueError ((reshapeDiagonal_onlyValueError _ _ _).bind fun d => ?_)
  split
  · exact .valueError
  · exact .ite .valueError (.ok _)

/-- **`apply` on pairwise distinct axes**: the reshaped diagonal of `DiagSetup` times the leaf's data in the
broadcast frame -/
theorem apply_of_nodup {α} [Inhabited α] [Mul α] (strict : Bool) (values x : Tensor α) (spec : AxisSpec)
    (ax : List Int) (hax : ax = normalizedAxes (normalizeSpec values.shape.length spec) x.shape.length)
    (hv : values.shape ≠ []) (hlen : ax.length = values.shape.length) (hnd : ax.Nodup) :
    ∃ order, DiagSetup (leftDims ax + x.shape.length + rightDims ax x.shape.length) values.shape (destAxes ax) order ∧
      apply strict values spec x =
        match Tensor.zipBroadcast (· * ·)
          ⟨dshape (leftDims ax + x.shape.length + rightDims ax x.shape.length) values.shape order,
            transposeData (values.shape ++ List.replicate
              (leftDims ax + x.shape.length + rightDims ax x.shape.length - values.shape.length) 1)
              order values.data⟩
          ⟨padShape (leftDims ax) (rightDims ax x.shape.length) x.shape, x.data⟩ with
        | none => .error .valueError
        | some y => if strict && y.shape != x.shape then .error .valueError else .ok y := by
  obtain ⟨order, hrd, S⟩ := reshapeDiagonal_ok values ax x.shape.length hlen hnd
  refine ⟨order, S, ?_⟩
  have hrl : (reshapeLeaf x ax).shape.length = x.shape.length + rightDims ax x.shape.length := by
    rw [reshapeLeaf, List.length_append, List.length_replicate]
  rw [apply_eq, ← hax, if_neg (fun h => h.elim hv (· hnd)), hrd, ok_bind,
    zipBroadcast_pad _ _ _ (by show _ ≤ (dshape _ _ _).length; rw [S.dshape_length, hrl]; omega)]
  -- the padded leaf is the leaf in the broadcast frame
  rw [S.dshape_length, hrl, Nat.add_assoc, Nat.add_sub_cancel]
  rfl

/-- **General specification of `apply`.**  `ax` are the axes after constructor normalisation and
`_normalize_axes` (pairwise distinct, otherwise see `apply_rejects_duplicate_axes'`), `L`/`R` the
numbers of dimensions added on the left/right, `d = destAxes ax` the positions of the values' axes in the
`L + rank x + R`-dimensional frame, `X` the leaf's shape padded with ones.  If every values dimension is
NumPy-compatible with the leaf's dimension at its destination, the non-strict operator returns `y` of shape
`outShape …` with `y[idx] = values[idx along d, 0 where values has size 1] * x[idx[L …], 0 where x has size 1]`,
and the strict operator returns the same `y` when that shape is the leaf's, `ValueError` otherwise. -/
theorem apply_general {α} [Inhabited α] [Mul α] (strict : Bool) (values x : Tensor α) (spec : AxisSpec)
    (ax : List Int) (hax : ax = normalizedAxes (normalizeSpec values.shape.length spec) x.shape.length)
    (hv : values.shape ≠ [])
    (hlen : ax.length = values.shape.length) (hnd : ax.Nodup)
    (hc : ∀ k, k < values.shape.length →
      bcompat (values.shape.getD k 0)
        ((padShape (leftDims ax) (rightDims ax x.shape.length) x.shape).getD ((destAxes ax).getD k 0) 0)) :
    ∃ y, apply strict values spec x
          = (if strict && y.shape != x.shape then .error .valueError else .ok y) ∧
      y.shape = outShape values.shape (destAxes ax)
        (padShape (leftDims ax) (rightDims ax x.shape.length) x.shape) ∧
      y.data.length = prodNat y.shape ∧
      ∀ p, p < prodNat y.shape →
        y.data.getD p default =
          values.data.getD (ravelIdx values.shape ((List.range values.shape.length).map fun k =>
              if values.shape.getD k 0 = 1 then 0
              else (unravel y.shape p).getD ((destAxes ax).getD k 0) 0)) default
          * x.data.getD (ravelIdx x.shape ((List.range x.shape.length).map fun j =>
              if x.shape.getD j 0 = 1 then 0
              else (unravel y.shape p).getD (leftDims ax + j) 0)) default := by
  obtain ⟨order, S, happ⟩ := apply_of_nodup strict values x spec ax hax hv hlen hnd
  have hXl := padShape_length (leftDims ax) (rightDims ax x.shape.length) x.shape
  obtain ⟨y, hy, hys, hyl, hyd⟩ := S.zip_spec (· * ·) values.data x.data _ hXl hc
  refine ⟨y, by rw [happ, hy], by rw [hys, S.out_shape_explicit _ hXl], hyl, fun p hp => ?_⟩
  have hul : (unravel y.shape p).length = leftDims ax + x.shape.length + rightDims ax x.shape.length := by
    rw [ma_unravel_length, hys, List.length_zipWith, S.dshape_length, hXl, Nat.min_self]
  rw [hyd p hp]
  unfold padShape
  rw [ravel_bcast_leftpad _ _ _ (by rw [hul]; simp; omega), leaf_index _ _ _ _ hul]

/-- **The failure side**: with pairwise distinct axes, a values dimension that is not NumPy-compatible
with the (padded) leaf's dimension at its destination is refused.  Together with `apply_general`:
for pairwise distinct axes `apply false` succeeds iff all the dimensions are compatible. -/
theorem apply_rejects_incompatible {α} [Inhabited α] [Mul α] (strict : Bool) (values x : Tensor α)
    (spec : AxisSpec)
    (ax : List Int) (hax : ax = normalizedAxes (normalizeSpec values.shape.length spec) x.shape.length)
    (hv : values.shape ≠ [])
    (hlen : ax.length = values.shape.length) (hnd : ax.Nodup)
    (k : Nat) (hk : k < values.shape.length)
    (hc : ¬ bcompat (values.shape.getD k 0)
        ((padShape (leftDims ax) (rightDims ax x.shape.length) x.shape).getD ((destAxes ax).getD k 0) 0)) :
    apply strict values spec x = .error .valueError := by
  obtain ⟨order, S, happ⟩ := apply_of_nodup strict values x spec ax hax hv hlen hnd
  rw [happ]
  unfold Tensor.zipBroadcast
  rw [broadcastShapes_incompat _ _ (by rw [S.dshape_length, padShape_length]) ((destAxes ax).getD k 0)
    (by rw [S.dshape_length]; exact S.d_lt k hk) (by rw [S.dshape_dest k hk]; exact hc)]
  rfl

theorem destAxes_getD (ax : List Int) (hL : leftDims ax = 0) (k : Nat) (hk : k < ax.length) :
    (destAxes ax).getD k 0 = (ax.getD k 0).toNat := by
  unfold destAxes
  rw [List.getD_eq_getElem _ _ (by simpa using hk), List.getD_eq_getElem _ _ hk, hL]
  simp

theorem padShape_zero (xs : List Nat) : padShape 0 0 xs = xs := by simp [padShape]

/-- **In-range axes, values dimensions equal to the leaf's or to 1.**
`out[idx] = values[idx restricted to the destination axes, 0 where the values have size 1] * x[idx]`. -/
theorem apply_inrange_bcast {α} [Inhabited α] [Mul α] (strict : Bool) (values x : Tensor α) (axes : List Int)
    (hv : values.shape ≠ [])
    (hlen : axes.length = values.shape.length) (hnd : axes.Nodup)
    (hrange : ∀ a ∈ axes, 0 ≤ a ∧ a < x.shape.length)
    (hshape : ∀ k, k < values.shape.length →
      values.shape.getD k 0 = x.shape.getD (axes.getD k 0).toNat 0 ∨ values.shape.getD k 0 = 1) :
    ∃ y, apply strict values (.seq axes) x = .ok y ∧ y.shape = x.shape ∧
      y.data.length = prodNat x.shape ∧
      ∀ p, p < prodNat x.shape →
        y.data.getD p default =
          values.data.getD (ravelIdx values.shape ((List.range values.shape.length).map fun k =>
              if values.shape.getD k 0 = 1 then 0
              else (unravel x.shape p).getD (axes.getD k 0).toNat 0)) default
            * x.data.getD p default := by
  -- the instance of `apply_general` where nothing is normalised and no dimension is added
  have hne : axes ≠ [] := fun e => hv (List.length_eq_zero_iff.mp (by rw [← hlen, e]; rfl))
  have hnn := normalizedAxes_nonneg axes x.shape.length fun a ha => (hrange a ha).1
  have hL := leftDims_nonneg axes fun a ha => (hrange a ha).1
  have hR := rightDims_inrange axes x.shape.length hne fun a ha => (hrange a ha).2
  have hd : ∀ k, k < values.shape.length → (destAxes axes).getD k 0 = (axes.getD k 0).toNat :=
    fun k hk => destAxes_getD axes hL k (hlen ▸ hk)
  obtain ⟨y, hy, hys, hyl, hyd⟩ := apply_general strict values x (.seq axes) axes hnn.symm hv hlen hnd (by
    intro k hk
    rw [hL, hR, padShape_zero, hd k hk]
    exact (hshape k hk).elim .inl (.inr ∘ .inl))
  rw [hL, hR, padShape_zero, outShape_eq_self _ _ _ (by rw [destAxes, List.length_map, List.length_map, hlen])
    (fun k hk => by rw [hd k hk]; exact hshape k hk)] at hys
  rw [hys] at hy hyl hyd
  refine ⟨y, by rw [hy, bne_self_eq_false, Bool.and_false]; rfl, hys, hyl, fun p hp => ?_⟩
  obtain ⟨v1, v2⟩ := ma_unravel_valid x.shape p hp
  rw [hyd p hp, hL]
  simp only [Nat.zero_add]
  rw [bcast_read_self _ _ v1, v2]
  congr 3
  exact List.map_congr_left fun k hk => by rw [hd k (List.mem_range.mp hk)]

/-- the multi-index into the values read at output position `idx`: the coordinates of `idx` along
the destination axes -/
def valuesIndex (axes : List Int) (idx : List Nat) : List Nat :=
  (List.range axes.length).map fun k => idx.getD (axes.getD k 0).toNat 0

theorem valuesIndex_getD (axes : List Int) (idx : List Nat) (k : Nat) (hk : k < axes.length) :
    (valuesIndex axes idx).getD k 0 = idx.getD (axes.getD k 0).toNat 0 := by
  rw [valuesIndex, ma_getD_map_range _ _ k hk]

theorem valuesIndex_valid (vs xs : List Nat) (axes : List Int) (idx : List Nat)
    (hlen : axes.length = vs.length)
    (hrange : ∀ a ∈ axes, 0 ≤ a ∧ a < xs.length)
    (hshape : ∀ k, k < vs.length → vs.getD k 0 = xs.getD (axes.getD k 0).toNat 0)
    (hidx : List.Forall₂ (· < ·) idx xs) :
    List.Forall₂ (· < ·) (valuesIndex axes idx) vs := by
  rw [forall2_lt_iff] at hidx ⊢
  refine ⟨by rw [valuesIndex, List.length_map, List.length_range, hlen], fun k hk => ?_⟩
  have := hrange _ (List.getD_eq_getElem axes 0 (hlen ▸ hk) ▸ List.getElem_mem _)
  rw [valuesIndex_getD axes idx k (hlen ▸ hk), hshape k hk]
  exact hidx.2 _ (by omega)

/-- **Main specification, `getD` form.**  `values` of rank `r ≥ 1`, `axes` a list of `r` pairwise
distinct integers in `[0, rank x)`, `values.shape[k] = x.shape[axes[k]]`.  Then `apply` succeeds (strict
or not), the result has the shape of `x`, and
`out[idx] = values[idx[axes[0]], …, idx[axes[r-1]]] * x[idx]` at every flat position. -/
theorem apply_inrange {α} [Inhabited α] [Mul α] (strict : Bool) (values x : Tensor α) (axes : List Int)
    (hv : values.shape ≠ [])
    (hlen : axes.length = values.shape.length) (hnd : axes.Nodup)
    (hrange : ∀ a ∈ axes, 0 ≤ a ∧ a < x.shape.length)
    (hshape : ∀ k, k < values.shape.length →
      values.shape.getD k 0 = x.shape.getD (axes.getD k 0).toNat 0) :
    ∃ y, apply strict values (.seq axes) x = .ok y ∧ y.shape = x.shape ∧
      y.data.length = prodNat x.shape ∧
      ∀ p, p < prodNat x.shape →
        y.data.getD p default =
          values.data.getD (ravelIdx values.shape (valuesIndex axes (unravel x.shape p))) default
            * x.data.getD p default := by
  obtain ⟨y, hy, hys, hyl, hyd⟩ := apply_inrange_bcast strict values x axes hv hlen hnd hrange
    (fun k hk => Or.inl (hshape k hk))
  refine ⟨y, hy, hys, hyl, fun p hp => ?_⟩
  -- a values dimension of size 1 is read at 0 anyway
  have hval := valuesIndex_valid values.shape x.shape axes _ hlen hrange hshape (ma_unravel_valid x.shape p hp).1
  rw [hyd p hp, ← bcast_read_self _ _ hval]
  congr 3
  refine List.map_congr_left fun k hk => ?_
  rw [valuesIndex_getD axes _ k (hlen ▸ List.mem_range.mp hk)]

/-- **Main specification, `getElem` form for well-formed tensors**: all the reads are in range. -/
theorem apply_inrange_getElem {α} [Inhabited α] [Mul α] (strict : Bool) (values x : Tensor α) (axes : List Int)
    (hv : values.shape ≠ [])
    (hvw : values.data.length = prodNat values.shape) (hxw : x.data.length = prodNat x.shape)
    (hlen : axes.length = values.shape.length) (hnd : axes.Nodup)
    (hrange : ∀ a ∈ axes, 0 ≤ a ∧ a < x.shape.length)
    (hshape : ∀ k, k < values.shape.length →
      values.shape.getD k 0 = x.shape.getD (axes.getD k 0).toNat 0) :
    ∃ y, apply strict values (.seq axes) x = .ok y ∧ y.shape = x.shape ∧
      ∃ hyl : y.data.length = prodNat x.shape,
      ∀ p (hp : p < prodNat x.shape),
        ∃ hi : ravelIdx values.shape (valuesIndex axes (unravel x.shape p)) < values.data.length,
          y.data[p]'(hyl ▸ hp) =
            values.data[ravelIdx values.shape (valuesIndex axes (unravel x.shape p))]'hi
              * x.data[p]'(hxw ▸ hp) := by
  obtain ⟨y, hy, hys, hyl, hyd⟩ := apply_inrange strict values x axes hv hlen hnd hrange hshape
  refine ⟨y, hy, hys, hyl, fun p hp => ?_⟩
  obtain ⟨v1, _⟩ := ma_unravel_valid x.shape p hp
  have hval := valuesIndex_valid values.shape x.shape axes _ hlen hrange hshape v1
  have hi := (ma_ravel_valid _ _ hval).1
  rw [← hvw] at hi
  refine ⟨hi, ?_⟩
  have := hyd p hp
  rwa [List.getD_eq_getElem _ _ (hyl ▸ hp), List.getD_eq_getElem _ _ hi,
    List.getD_eq_getElem _ _ (hxw ▸ hp)] at this

theorem apply_spec_seq {α} [Inhabited α] [Mul α] (strict : Bool) (values x : Tensor α) (spec : AxisSpec) :
    apply strict values spec x = apply strict values (.seq (normalizeSpec values.shape.length spec)) x := rfl

theorem normalizedAxes_inrange (axes : List Int) (n : Nat) (h : ∀ a ∈ axes, -(n : Int) ≤ a ∧ a < n) :
    ∀ a ∈ normalizedAxes axes n, 0 ≤ a ∧ a < n := by
  intro a' ha'
  obtain ⟨a, ha, rfl⟩ := List.mem_map.mp ha'
  have := h a ha
  show 0 ≤ (if a ≥ 0 then a else (n : Int) + a) ∧ (if a ≥ 0 then a else (n : Int) + a) < n
  split <;> omega

/-- negative axes in `[-rank x, 0)` are counted from the end of the leaf -/
theorem apply_seq_normalized {α} [Inhabited α] [Mul α] (strict : Bool) (values x : Tensor α) (axes : List Int)
    (h : ∀ a ∈ axes, -(x.shape.length : Int) ≤ a) :
    apply strict values (.seq axes) x
      = apply strict values (.seq (normalizedAxes axes x.shape.length)) x := by
  have hnn : ∀ a ∈ normalizedAxes axes x.shape.length, 0 ≤ a := by
    intro a' ha'
    obtain ⟨a, ha, rfl⟩ := List.mem_map.mp ha'
    have := h a ha
    show 0 ≤ (if a ≥ 0 then a else (x.shape.length : Int) + a)
    split <;> omega
  rw [apply_eq, apply_eq, normalizeSpec_seq, normalizeSpec_seq, normalizedAxes_nonneg _ _ hnn]

/-- **Signed in-range axes**: `axes[k] ∈ [-n, n)`, pairwise distinct after normalisation. -/
theorem apply_inrange_signed {α} [Inhabited α] [Mul α] (strict : Bool) (values x : Tensor α) (axes : List Int)
    (hv : values.shape ≠ [])
    (hlen : axes.length = values.shape.length)
    (hnd : (normalizedAxes axes x.shape.length).Nodup)
    (hrange : ∀ a ∈ axes, -(x.shape.length : Int) ≤ a ∧ a < x.shape.length)
    (hshape : ∀ k, k < values.shape.length →
      values.shape.getD k 0
        = x.shape.getD ((normalizedAxes axes x.shape.length).getD k 0).toNat 0) :
    ∃ y, apply strict values (.seq axes) x = .ok y ∧ y.shape = x.shape ∧
      y.data.length = prodNat x.shape ∧
      ∀ p, p < prodNat x.shape →
        y.data.getD p default =
          values.data.getD (ravelIdx values.shape
              (valuesIndex (normalizedAxes axes x.shape.length) (unravel x.shape p))) default
            * x.data.getD p default := by
  rw [apply_seq_normalized strict values x axes (fun a ha => (hrange a ha).1)]
  exact apply_inrange strict values x _ hv ((normalizedAxes_length _ _).trans hlen) hnd
    (normalizedAxes_inrange axes _ hrange) hshape

/-- **A non-negative scalar `axis_destination = a`** (`a + r ≤ rank x`): the values are laid along
the axes `a, …, a+r-1`. -/
theorem apply_scalar_nonneg {α} [Inhabited α] [Mul α] (strict : Bool) (values x : Tensor α) (a : Nat)
    (hv : values.shape ≠ [])
    (hfit : a + values.shape.length ≤ x.shape.length)
    (hshape : ∀ k, k < values.shape.length → values.shape.getD k 0 = x.shape.getD (a + k) 0) :
    ∃ y, apply strict values (.scalar (a : Int)) x = .ok y ∧ y.shape = x.shape ∧
      y.data.length = prodNat x.shape ∧
      ∀ p, p < prodNat x.shape →
        y.data.getD p default =
          values.data.getD (ravelIdx values.shape
              ((List.range values.shape.length).map fun k => (unravel x.shape p).getD (a + k) 0)) default
            * x.data.getD p default := by
  rw [apply_spec_seq, normalizeSpec_nonneg _ _ (Int.natCast_nonneg a)]
  have hget : ∀ k, k < values.shape.length →
      (((List.range values.shape.length).map fun (k : Nat) => (a : Int) + Int.ofNat k).getD k 0).toNat
        = a + k := by
    intro k hk
    rw [ma_getD_map_range _ _ k hk, Int.ofNat_eq_natCast]
    omega
  obtain ⟨y, hy, hys, hyl, hyd⟩ := apply_inrange strict values x
    ((List.range values.shape.length).map fun (k : Nat) => (a : Int) + Int.ofNat k) hv (by rw [List.length_map, List.length_range])
    ((List.nodup_map_iff_inj_on List.nodup_range).mpr fun i _ j _ hij => Int.ofNat.inj (Int.add_left_cancel hij))
    (by
      intro a' ha'
      obtain ⟨k, hk, rfl⟩ := List.mem_map.mp ha'
      have := List.mem_range.mp hk
      simp only [Int.ofNat_eq_natCast]
      omega)
    (fun k hk => by rw [hget k hk]; exact hshape k hk)
  refine ⟨y, hy, hys, hyl, fun p hp => ?_⟩
  rw [hyd p hp, valuesIndex, List.length_map, List.length_range]
  congr 3
  exact List.map_congr_left fun k hk => by rw [hget k (List.mem_range.mp hk)]

/-- **Rank-one values**: a vector of values along the single axis `a` of a leaf of any rank:
`out[idx] = values[idx[a]] * x[idx]`. -/
theorem apply_vector {α} [Inhabited α] [Mul α] (strict : Bool) (m : Nat) (vdata : List α) (x : Tensor α) (a : Nat)
    (ha : a < x.shape.length) (hm : x.shape.getD a 0 = m) :
    ∃ y, apply strict ⟨[m], vdata⟩ (.scalar (a : Int)) x = .ok y ∧ y.shape = x.shape ∧
      y.data.length = prodNat x.shape ∧
      ∀ p, p < prodNat x.shape →
        y.data.getD p default = vdata.getD ((unravel x.shape p).getD a 0) default * x.data.getD p default := by
  obtain ⟨y, hy, hys, hyl, hyd⟩ := apply_scalar_nonneg strict ⟨[m], vdata⟩ x a (by simp)
    (Nat.succ_le_of_lt ha) (by
      intro k hk
      obtain rfl : k = 0 := Nat.lt_one_iff.mp hk
      exact hm.symm)
  refine ⟨y, hy, hys, hyl, fun p hp => ?_⟩
  rw [hyd p hp]
  simp [ravelIdx]

theorem normalizeSpec_scalar_length (r : Nat) (a : Int) : (normalizeSpec r (.scalar a)).length = r := by
  by_cases h : 0 ≤ a
  · rw [normalizeSpec_nonneg r a h]; simp
  · rw [normalizeSpec_neg r a (by omega)]; simp

/-! ## Small concrete instances (`Int` data) -/

section tests

/-- values `[10,20]` along axis 0 of a `2×3` leaf -/
example : apply true (⟨[2], [10, 20]⟩ : Tensor Int) (.scalar 0) ⟨[2, 3], [1, 2, 3, 4, 5, 6]⟩
    = .ok ⟨[2, 3], [10, 20, 30, 80, 100, 120]⟩ := by decide +kernel

/-- values `[10,20,30]` along the last axis -/
example : apply true (⟨[3], [10, 20, 30]⟩ : Tensor Int) (.scalar (-1)) ⟨[2, 3], [1, 2, 3, 4, 5, 6]⟩
    = .ok ⟨[2, 3], [10, 40, 90, 40, 100, 180]⟩ := by decide +kernel

/-- a `3×2` matrix of values laid along the axes `(1, 0)`: `out[i,j] = values[j,i] * x[i,j]` -/
example : apply true (⟨[3, 2], [1, 2, 3, 4, 5, 6]⟩ : Tensor Int) (.seq [1, 0]) ⟨[2, 3], [1, 1, 1, 1, 1, 1]⟩
    = .ok ⟨[2, 3], [1, 3, 5, 2, 4, 6]⟩ := by decide +kernel

/-- axis beyond the leaf's rank, non-strict: a new trailing dimension appears -/
example : apply false (⟨[2], [10, 20]⟩ : Tensor Int) (.scalar 2) ⟨[2, 3], [1, 2, 3, 4, 5, 6]⟩
    = .ok ⟨[2, 3, 2], [10, 20, 20, 40, 30, 60, 40, 80, 50, 100, 60, 120]⟩ := by decide +kernel

/-- the same is refused by the strict variant -/
example : apply true (⟨[2], [10, 20]⟩ : Tensor Int) (.scalar 2) ⟨[2, 3], [1, 2, 3, 4, 5, 6]⟩
    = .error .valueError := by decide +kernel

/-- axis before the leaf's first one (`-3` on a rank-2 leaf), non-strict: a new leading dimension -/
example : apply false (⟨[2], [10, 20]⟩ : Tensor Int) (.seq [-3]) ⟨[2, 3], [1, 2, 3, 4, 5, 6]⟩
    = .ok ⟨[2, 2, 3], [10, 20, 30, 40, 50, 60, 20, 40, 60, 80, 100, 120]⟩ := by decide +kernel

/-- repeated axes and scalar values are refused -/
example : apply false (⟨[2, 2], [1, 2, 3, 4]⟩ : Tensor Int) (.seq [0, -2]) ⟨[2, 2], [1, 1, 1, 1]⟩
    = .error .valueError := by decide +kernel
example : apply false (⟨[], [7]⟩ : Tensor Int) (.scalar 0) ⟨[2], [1, 1]⟩ = .error .valueError := by decide +kernel

/-- incompatible dimensions are refused -/
example : apply false (⟨[2], [10, 20]⟩ : Tensor Int) (.scalar 1) ⟨[2, 3], [1, 2, 3, 4, 5, 6]⟩
    = .error .valueError := by decide +kernel

/-- the hypotheses of `apply_inrange` are satisfiable on a concrete instance -/
example : ∃ y, apply true (⟨[3, 2], [1, 2, 3, 4, 5, 6]⟩ : Tensor Int) (.seq [1, 0])
      ⟨[2, 3], [1, 1, 1, 1, 1, 1]⟩ = .ok y ∧ y.shape = [2, 3] := by
  obtain ⟨y, h1, h2, _⟩ := apply_inrange true (⟨[3, 2], [1, 2, 3, 4, 5, 6]⟩ : Tensor Int)
    ⟨[2, 3], [1, 1, 1, 1, 1, 1]⟩ [1, 0] (by simp) (by simp) (by decide) (by decide)
    (by intro k hk
        have : k = 0 ∨ k = 1 := by simp at hk; omega
        rcases this with rfl | rfl <;> rfl)
  exact ⟨y, h1, h2⟩

/-- the hypotheses of `apply_general` are satisfiable beyond the leaf's rank -/
example : ∃ y, apply false (⟨[2], [10, 20]⟩ : Tensor Int) (.scalar 2) ⟨[2, 3], [1, 2, 3, 4, 5, 6]⟩ = .ok y
    ∧ y.shape = [2, 3, 2] := by
  obtain ⟨y, h1, h2, _⟩ := apply_general false (⟨[2], [10, 20]⟩ : Tensor Int) ⟨[2, 3], [1, 2, 3, 4, 5, 6]⟩
    (.scalar 2) [2] (by rfl) (by simp) (by rfl) (by decide)
    (by intro k hk
        have : k = 0 := by simp at hk; omega
        subst this
        exact Or.inr (Or.inr (by rfl)))
  refine ⟨y, by simpa using h1, ?_⟩
  rw [h2]; rfl

/-- pseudo-inverse of the values -/
example : pinvValues [2, 0, 4] = [1 / 2, 0, 1 / 4] := by simp [pinvValues]

end tests


end Furax.Diagonal
