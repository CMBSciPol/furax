/-
C14: `DenseBlockDiagonalOperator` transposed subscripts (`_get_transposed_subscripts`).

String level: whenever `transposeCore` succeeds it returns `swapAll s t lefts` for the unique contracted
letter `s` and the unique free block letter `t`, and swapping `s` and `t` exchanges `rights` and `results`;
otherwise it raises `ValueError`.
Semantic level: the bilinear form `Phi` of a two-operand einsum is invariant under renaming of the letters;
hence an involutive renaming that exchanges `rights` and `results` yields the adjoint.
Together: the rewritten subscripts denote the transposed operator, `⟨A x, y⟩ = ⟨x, Aᵀ y⟩`.
-/
import FuraxModel.Einsum
import FuraxProofs.Lemmas.AxesBasic
import Mathlib.Algebra.BigOperators.Group.Finset.Basic
import Mathlib.Algebra.BigOperators.Ring.Finset
import Mathlib.Data.Fintype.Pi
import Mathlib.Logic.Equiv.Basic
import Mathlib.Tactic.Ring

namespace Furax

namespace Einsum

section Strings
variable {ι : Type} [DecidableEq ι]

theorem mem_letterSet (isDot : ι → Bool) (l : List ι) (a : ι) :
    a ∈ letterSet isDot l ↔ a ∈ l ∧ isDot a = false := by
  simp [letterSet, List.mem_eraseDups, List.mem_filter]

/-- the contracted letters: in `lefts` and `rights`, not in `results` (first scrutinee of
`transposeCore`) -/
def contracted (isDot : ι → Bool) (L R O : List ι) : List ι :=
  (letterSet isDot L).filter fun c =>
    (letterSet isDot R).contains c && !(letterSet isDot O).contains c

/-- the free block letters: in `lefts` and `results`, not in `rights` (second scrutinee of
`transposeCore`) -/
def freeBlock (isDot : ι → Bool) (L R O : List ι) : List ι :=
  (letterSet isDot L).filter fun c =>
    (letterSet isDot O).contains c && !(letterSet isDot R).contains c

theorem mem_contracted (isDot : ι → Bool) (L R O : List ι) (a : ι) :
    a ∈ contracted isDot L R O ↔ isDot a = false ∧ a ∈ L ∧ a ∈ R ∧ a ∉ O := by
  simp only [contracted, List.mem_filter, mem_letterSet, Bool.and_eq_true,
    decide_eq_false_iff_not, Bool.not_eq_eq_eq_not, Bool.not_true,
    List.contains_eq_mem, decide_eq_true_eq]
  constructor
  · rintro ⟨⟨h1, h2⟩, ⟨h3, _⟩, h4⟩
    exact ⟨h2, h1, h3, fun h => h4 ⟨h, h2⟩⟩
  · rintro ⟨h1, h2, h3, h4⟩
    exact ⟨⟨h2, h1⟩, ⟨h3, h1⟩, fun h => h4 h.1⟩

theorem mem_freeBlock (isDot : ι → Bool) (L R O : List ι) (a : ι) :
    a ∈ freeBlock isDot L R O ↔ isDot a = false ∧ a ∈ L ∧ a ∈ O ∧ a ∉ R :=
  mem_contracted isDot L O R a

theorem transposeCore_eq (isDot : ι → Bool) (L R O : List ι) :
    transposeCore isDot L R O =
      match contracted isDot L R O with
      | [s] =>
        match freeBlock isDot L R O with
        | [t] => if replaceFirst t s O != R then .error .valueError else .ok (swapAll s t L)
        | _ => .error .valueError
      | _ => .error .valueError := rfl

theorem transposeCore_ok_iff (isDot : ι → Bool) (L R O L' : List ι) :
    transposeCore isDot L R O = .ok L' ↔
      ∃ s t, contracted isDot L R O = [s] ∧ freeBlock isDot L R O = [t] ∧
        replaceFirst t s O = R ∧ L' = swapAll s t L := by
  rw [transposeCore_eq]
  constructor
  · intro h
    split at h
    · rename_i s hs
      split at h
      · rename_i t ht
        split at h
        · cases h
        · rename_i hne
          refine ⟨s, t, hs, ht, ?_, ?_⟩
          · simpa using hne
          · cases h; rfl
      · cases h
    · cases h
  · rintro ⟨s, t, hs, ht, hr, rfl⟩
    rw [hs, ht]
    simp [hr]

theorem swapAll_eq_map_swap (s t : ι) (l : List ι) : swapAll s t l = l.map (Equiv.swap s t) := by
  unfold swapAll
  apply List.map_congr_left
  intro c _
  rw [Equiv.swap_apply_def]

theorem swapAll_swapAll (s t : ι) (l : List ι) : swapAll s t (swapAll s t l) = l := by
  rw [swapAll_eq_map_swap, swapAll_eq_map_swap, List.map_map]
  exact (List.map_congr_left fun c _ => Equiv.swap_apply_self s t c).trans (List.map_id' l)

theorem swapAll_eq_self (s t : ι) (l : List ι) (hs : s ∉ l) (ht : t ∉ l) : swapAll s t l = l := by
  unfold swapAll
  conv_rhs => rw [← List.map_id l]
  apply List.map_congr_left
  intro c hc
  have h1 : c ≠ s := fun h => hs (h ▸ hc)
  have h2 : c ≠ t := fun h => ht (h ▸ hc)
  simp [h1, h2]

/-- if `s` does not occur and the result of replacing the first `t` by `s` has no `t` left, then `t`
occurred at most once and the replacement is the full swap -/
theorem replaceFirst_eq_swapAll (s t : ι) (O : List ι) (hs : s ∉ O)
    (ht : t ∉ replaceFirst t s O) : replaceFirst t s O = swapAll s t O := by
  induction O with
  | nil => rfl
  | cons c cs ih =>
    by_cases hc : c = t
    · subst hc
      have hst : c ≠ s := fun h => hs (by simp [h])
      simp only [replaceFirst, if_true] at ht ⊢
      have hcs : c ∉ cs := fun h => ht (List.mem_cons_of_mem _ h)
      have hscs : s ∉ cs := fun h => hs (List.mem_cons_of_mem _ h)
      have := swapAll_eq_self s c cs hscs hcs
      simp only [swapAll] at this ⊢
      simp [hst, this]
    · have hcs' : c ≠ s := fun h => hs (by simp [h])
      have hscs : s ∉ cs := fun h => hs (List.mem_cons_of_mem _ h)
      simp only [replaceFirst, if_neg hc] at ht ⊢
      have ih' := ih hscs (fun h => ht (List.mem_cons_of_mem _ h))
      rw [ih']
      simp [swapAll, hc, hcs']

theorem contracted_singleton {isDot : ι → Bool} {L R O : List ι} {s : ι}
    (h : contracted isDot L R O = [s]) : isDot s = false ∧ s ∈ L ∧ s ∈ R ∧ s ∉ O :=
  (mem_contracted isDot L R O s).1 (h ▸ List.mem_singleton_self s)

theorem freeBlock_singleton {isDot : ι → Bool} {L R O : List ι} {t : ι}
    (h : freeBlock isDot L R O = [t]) : isDot t = false ∧ t ∈ L ∧ t ∈ O ∧ t ∉ R :=
  contracted_singleton (R := O) (O := R) h

/-- **String-level link.**  A successful rewriting has exactly one contracted letter `s` and one free block
letter `t`; it swaps the two in `lefts`, and the swap exchanges `rights` and `results`. -/
theorem transposeCore_swap (isDot : ι → Bool) (L R O L' : List ι)
    (h : transposeCore isDot L R O = .ok L') :
    ∃ s t : ι, contracted isDot L R O = [s] ∧ freeBlock isDot L R O = [t] ∧
      L' = L.map (Equiv.swap s t) ∧ R.map (Equiv.swap s t) = O ∧ O.map (Equiv.swap s t) = R := by
  obtain ⟨s, t, hs, ht, hr, hL'⟩ := (transposeCore_ok_iff isDot L R O L').1 h
  have hsO := (contracted_singleton hs).2.2.2
  have htR := (freeBlock_singleton ht).2.2.2
  have hOR : swapAll s t O = R := by
    rw [← replaceFirst_eq_swapAll s t O hsO (by rw [hr]; exact htR), hr]
  have hRO : swapAll s t R = O := by rw [← hOR, swapAll_swapAll]
  rw [swapAll_eq_map_swap] at hL' hOR hRO
  exact ⟨s, t, hs, ht, hL', hRO, hOR⟩

theorem transposeCore_spec (isDot : ι → Bool) (L R O L' : List ι)
    (h : transposeCore isDot L R O = .ok L') :
    ∃ s t : ι, s ≠ t ∧ isDot s = false ∧ isDot t = false ∧ s ∈ L ∧ s ∈ R ∧ s ∉ O ∧
      t ∈ L ∧ t ∈ O ∧ t ∉ R ∧ L' = swapAll s t L ∧ swapAll s t O = R ∧ swapAll s t R = O := by
  obtain ⟨s, t, hs, ht, hL', hRO, hOR⟩ := transposeCore_swap isDot L R O L' h
  obtain ⟨hsd, hsL, hsR, hsO⟩ := contracted_singleton hs
  obtain ⟨htd, htL, htO, htR⟩ := freeBlock_singleton ht
  refine ⟨s, t, fun e => htR (e ▸ hsR), hsd, htd, hsL, hsR, hsO, htL, htO, htR, ?_⟩
  simp only [swapAll_eq_map_swap]
  exact ⟨hL', hOR, hRO⟩

theorem eq_singleton_of_nodup {α : Type} (l : List α) (a : α) (hn : l.Nodup) (h : ∀ b, b ∈ l ↔ b = a) :
    l = [a] := by
  cases l with
  | nil => exact absurd ((h a).2 rfl) (by simp)
  | cons b l =>
    have hb : b = a := (h b).1 (by simp)
    subst hb
    cases l with
    | nil => rfl
    | cons c l =>
      have hc : c = b := (h c).1 (by simp)
      subst hc
      simp at hn

theorem mem_swapAll (s t a : ι) (L : List ι) : a ∈ swapAll s t L ↔ Equiv.swap s t a ∈ L := by
  have := List.mem_map_of_injective (Equiv.swap s t).injective (a := Equiv.swap s t a) (l := L)
  rwa [Equiv.swap_apply_self, ← swapAll_eq_map_swap] at this

/-- exchanging the contracted letter `s` with a letter `t` of `L` that is not in `R` leaves `s` the only contracted
letter.  With `R` and `O` exchanged this is the same statement about the free block letter. -/
theorem contracted_swapAll (isDot : ι → Bool) (L R O : List ι) (s t : ι) (hs : contracted isDot L R O = [s])
    (htL : t ∈ L) (htR : t ∉ R) : contracted isDot (swapAll s t L) R O = [s] := by
  obtain ⟨hsd, -, hsR, hsO⟩ := contracted_singleton hs
  refine eq_singleton_of_nodup (contracted isDot (swapAll s t L) R O) s ((nodup_eraseDups _).filter _) fun a => ?_
  rw [mem_contracted, mem_swapAll]
  constructor
  · rintro ⟨had, haL, haR, haO⟩
    by_contra hne
    have hat : a ≠ t := fun e => htR (e ▸ haR)
    rw [Equiv.swap_apply_of_ne_of_ne hne hat] at haL
    exact hne (List.mem_singleton.1 (hs ▸ (mem_contracted isDot L R O a).2 ⟨had, haL, haR, haO⟩))
  · rintro rfl
    exact ⟨hsd, by rwa [Equiv.swap_apply_left], hsR, hsO⟩

theorem transposeCore_error (isDot : ι → Bool) (L R O : List ι) :
    OnlyValueError (transposeCore isDot L R O) := by
  intro e h
  rw [transposeCore_eq] at h
  repeat' split at h
  all_goals cases h
  all_goals rfl

theorem transposeCore_reject_contracted (isDot : ι → Bool) (L R O : List ι)
    (h : (contracted isDot L R O).length ≠ 1) :
    transposeCore isDot L R O = .error .valueError := by
  rw [transposeCore_eq]
  split
  · rename_i s hs; rw [hs] at h; exact absurd rfl h
  · rfl

theorem transposeCore_reject_no_contracted (isDot : ι → Bool) (L R O : List ι)
    (h : (contracted isDot L R O).length = 0) :
    transposeCore isDot L R O = .error .valueError :=
  transposeCore_reject_contracted isDot L R O (by omega)

theorem transposeCore_reject_many_contracted (isDot : ι → Bool) (L R O : List ι)
    (h : 2 ≤ (contracted isDot L R O).length) :
    transposeCore isDot L R O = .error .valueError :=
  transposeCore_reject_contracted isDot L R O (by omega)

theorem transposeCore_reject_freeBlock (isDot : ι → Bool) (L R O : List ι)
    (h : (freeBlock isDot L R O).length ≠ 1) :
    transposeCore isDot L R O = .error .valueError := by
  rw [transposeCore_eq]
  split
  · split
    · rename_i t ht; rw [ht] at h; exact absurd rfl h
    · rfl
  · rfl

theorem transposeCore_reject_no_freeBlock (isDot : ι → Bool) (L R O : List ι)
    (h : (freeBlock isDot L R O).length = 0) :
    transposeCore isDot L R O = .error .valueError :=
  transposeCore_reject_freeBlock isDot L R O (by omega)

theorem transposeCore_reject_many_freeBlock (isDot : ι → Bool) (L R O : List ι)
    (h : 2 ≤ (freeBlock isDot L R O).length) :
    transposeCore isDot L R O = .error .valueError :=
  transposeCore_reject_freeBlock isDot L R O (by omega)

theorem transposeCore_reject_mismatch (isDot : ι → Bool) (L R O : List ι) (s t : ι)
    (hs : contracted isDot L R O = [s]) (ht : freeBlock isDot L R O = [t])
    (h : replaceFirst t s O ≠ R) :
    transposeCore isDot L R O = .error .valueError := by
  rw [transposeCore_eq, hs, ht]
  simp [h]

/-- the rejection facts are exhaustive: a rejection has one of the three causes -/
theorem transposeCore_error_iff (isDot : ι → Bool) (L R O : List ι) :
    transposeCore isDot L R O = .error .valueError ↔
      (contracted isDot L R O).length ≠ 1 ∨ (freeBlock isDot L R O).length ≠ 1 ∨
      ∃ s t, contracted isDot L R O = [s] ∧ freeBlock isDot L R O = [t] ∧
        replaceFirst t s O ≠ R := by
  constructor
  · intro h
    by_cases h1 : (contracted isDot L R O).length = 1
    · by_cases h2 : (freeBlock isDot L R O).length = 1
      · obtain ⟨s, hs⟩ := List.length_eq_one_iff.1 h1
        obtain ⟨t, ht⟩ := List.length_eq_one_iff.1 h2
        refine Or.inr (Or.inr ⟨s, t, hs, ht, fun hr => ?_⟩)
        have := (transposeCore_ok_iff isDot L R O (swapAll s t L)).2 ⟨s, t, hs, ht, hr, rfl⟩
        rw [h] at this; cases this
      · exact Or.inr (Or.inl h2)
    · exact Or.inl h1
  · rintro (h | h | ⟨s, t, hs, ht, h⟩)
    · exact transposeCore_reject_contracted isDot L R O h
    · exact transposeCore_reject_freeBlock isDot L R O h
    · exact transposeCore_reject_mismatch isDot L R O s t hs ht h

end Strings

section Semantics
open Finset
variable {α : Type} [CommRing α] {ι : Type} [Fintype ι] [DecidableEq ι]

/-- `⟨einsum("L,P->Q", B, u), v⟩`: the sum over all assignments `σ` of an index below `d ℓ` to every
letter `ℓ` of `B[σ L] · u[σ P] · v[σ Q]`; tensors are functions on multi-indices -/
def Phi (d : ι → ℕ) (B u v : List ℕ → α) (L P Q : List ι) : α :=
  ∑ σ ∈ Fintype.piFinset (fun ℓ => Finset.range (d ℓ)),
    B (L.map σ) * u (P.map σ) * v (Q.map σ)

/-- renaming invariance: relabel the letters by `π⁻¹` and the sizes by `d ∘ π` -/
theorem Phi_rename (π : Equiv.Perm ι) (d : ι → ℕ) (B u v : List ℕ → α) (L P Q : List ι) :
    Phi d B u v L P Q = Phi (d ∘ π) B u v (L.map π.symm) (P.map π.symm) (Q.map π.symm) := by
  unfold Phi
  refine sum_nbij' (fun σ => σ ∘ π) (fun τ => τ ∘ π.symm) ?_ ?_ ?_ ?_ ?_
  · intro σ hσ
    simp only [Fintype.mem_piFinset, mem_range, Function.comp] at hσ ⊢
    intro a; exact hσ (π a)
  · intro τ hτ
    simp only [Fintype.mem_piFinset, mem_range, Function.comp] at hτ ⊢
    intro a; simpa using hτ (π.symm a)
  · intro σ _; funext a; simp
  · intro τ _; funext a; simp
  · intro σ _; simp [List.map_map, Function.comp_def]

/-- the two operands may be exchanged together with their subscripts -/
theorem Phi_comm (d : ι → ℕ) (B u v : List ℕ → α) (L P Q : List ι) :
    Phi d B u v L P Q = Phi d B v u L Q P := by
  unfold Phi
  apply sum_congr rfl; intro σ _; ring

/-- If `π` is an involution of the letters with `π·rights = results` and `π·results = rights`, the
einsum with block subscripts `π·lefts` — same block data, sizes relabelled — is the adjoint. -/
theorem einsum_transpose_adjoint (π : Equiv.Perm ι) (hπ : π.symm = π)
    (d : ι → ℕ) (B x y : List ℕ → α) (L Rt R : List ι)
    (h1 : Rt.map π = R) (h2 : R.map π = Rt) :
    Phi d B x y L Rt R = Phi (d ∘ π) B y x (L.map π) Rt R := by
  rw [Phi_rename π, hπ, h1, h2]
  exact Phi_comm _ _ _ _ _ _ _

theorem transposed_is_adjoint' (isDot : ι → Bool) (L R O L' : List ι)
    (h : transposeCore isDot L R O = .ok L') (d : ι → ℕ) (B x y : List ℕ → α) :
    ∃ s t : ι, contracted isDot L R O = [s] ∧ freeBlock isDot L R O = [t] ∧
      L' = L.map (Equiv.swap s t) ∧
      Phi d B x y L R O = Phi (d ∘ Equiv.swap s t) B y x L' R O := by
  obtain ⟨s, t, hs, ht, hL', hRO, hOR⟩ := transposeCore_swap isDot L R O L' h
  refine ⟨s, t, hs, ht, hL', ?_⟩
  rw [hL']
  exact einsum_transpose_adjoint (Equiv.swap s t) (Equiv.symm_swap s t) d B x y L R O hRO hOR

/-- **The transposed subscripts denote the adjoint.**  Whenever the rewriting succeeds, the einsum
with the rewritten block subscripts `L'`, the same block data `B` and the sizes of the two swapped
letters exchanged satisfies `⟨A x, y⟩ = ⟨Aᵀ y, x⟩`. -/
theorem transposed_is_adjoint (isDot : ι → Bool) (L R O L' : List ι)
    (h : transposeCore isDot L R O = .ok L') (d : ι → ℕ) (B x y : List ℕ → α) :
    ∃ s t : ι, Phi d B x y L R O = Phi (d ∘ Equiv.swap s t) B y x L' R O := by
  obtain ⟨s, t, -, -, -, h⟩ := transposed_is_adjoint' isDot L R O L' h d B x y
  exact ⟨s, t, h⟩

end Semantics

section Tests

/-- test: `"ikj,kj->ki"` ↦ `"jki,kj->ki"` (the default subscripts of `DenseBlockDiagonalOperator`) -/
example : transposeCore (· == '.') ['i', 'k', 'j'] ['k', 'j'] ['k', 'i'] = .ok ['j', 'k', 'i'] := by
  decide

/-- test: with an ellipsis, `"ij...,j...->i..."` ↦ `"ji...,j...->i..."` -/
example : transposeCore (· == '.') ['i', 'j', '.', '.', '.'] ['j', '.', '.', '.']
    ['i', '.', '.', '.'] = .ok ['j', 'i', '.', '.', '.'] := by
  decide

/-- test: repeated letter in the block subscripts, `"iij,j->i"` ↦ `"jji,j->i"` -/
example : transposeCore (· == '.') ['i', 'i', 'j'] ['j'] ['i'] = .ok ['j', 'j', 'i'] := by
  decide

/-- test (rejected): `"ij,j->ii"`, the free block letter occurs twice in the results -/
example : transposeCore (· == '.') ['i', 'j'] ['j'] ['i', 'i'] = .error .valueError := by
  decide

/-- test (rejected): `"ijk,jk->i"`, two contracted letters -/
example : transposeCore (· == '.') ['i', 'j', 'k'] ['j', 'k'] ['i'] = .error .valueError := by
  decide

/-- test (rejected): `"ij,ij->ij"`, no contracted letter -/
example : transposeCore (· == '.') ['i', 'j'] ['i', 'j'] ['i', 'j'] = .error .valueError := by
  decide

/-- test (rejected): `"ikj,kj->ik"`, positions do not match -/
example : transposeCore (· == '.') ['i', 'k', 'j'] ['k', 'j'] ['i', 'k'] = .error .valueError := by
  decide

/-- test over `Fin 5` with no dots: `[0,2,1],[2,1]->[2,0]` ↦ `[1,2,0]` -/
example : transposeCore (fun _ : Fin 5 => false) [0, 2, 1] [2, 1] [2, 0] = .ok [1, 2, 0] := by
  decide

end Tests

end Einsum
end Furax

