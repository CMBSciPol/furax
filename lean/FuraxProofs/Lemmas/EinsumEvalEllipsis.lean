/-
C14, executable level, subscripts WITH an ellipsis: the adjoint theorem for `einsumTerms` when no size-1
stretching takes place (the input carries the whole broadcast ellipsis shape `es`, the blocks a suffix of it).

The term parser commutes with a renaming of the letters, so the rewritten block term parses to the renamed term.
The labelling (`plan`) turns the dimensions under an ellipsis into further labels; renaming the letters of a
term is swapping two labels, and `einsumCore_adjoint` applies.
-/
import FuraxProofs.Lemmas.EinsumEvalSpec
namespace Furax
namespace Einsum

/-- rename the letters of a term -/
def Term.map (π : Char → Char) (t : Term) : Term := ⟨t.pre.map π, t.ell, t.post.map π⟩

theorem Term.map_push (π : Char → Char) (t : Term) (c : Char) : (t.push c).map π = (t.map π).push (π c) := by
  unfold Term.push Term.map
  cases h : t.ell <;> simp

/-- a renaming that sends letters to letters and moves nothing else -/
structure LetterPerm (π : Char → Char) : Prop where
  letter : ∀ c, isLetter (π c) = isLetter c
  fix : ∀ c, isLetter c = false → π c = c

/-- `π` moves letters only, and the parser treats all letters alike -/
theorem parseTermAux_map (π : Char → Char) (h : LetterPerm π) (cs : List Char) (t0 t1 : Term)
    (hp : parseTermAux cs t0 = .ok t1) : parseTermAux (cs.map π) (t0.map π) = .ok (t1.map π) := by
  fun_induction parseTermAux cs t0 with
  | case1 t => cases hp; rfl
  | case2 c cs t hc ih =>
    rw [List.map_cons, parseTermAux_cons_letter _ _ _ (by rw [h.letter, hc]), ← Term.map_push]
    exact ih hp
  | case3 c cs t hc hsp ih =>
    rw [List.map_cons, h.fix c (by simpa using hc), eq_of_beq hsp, parseTermAux_cons_blank]
    exact ih hp
  | case4 c t hc hsp hdot c1 c2 cs' hcond ih =>
    simp only [Bool.and_eq_true, beq_iff_eq, Bool.not_eq_true'] at hdot hcond
    obtain ⟨⟨rfl, rfl⟩, hell⟩ := hcond
    subst hdot
    simp only [List.map_cons, h.fix '.' rfl]
    rw [parseTermAux_cons_dots _ (t.map π) hell]
    exact ih hp
  | case5 | case6 | case7 => cases hp

theorem parseTerm_map (π : Char → Char) (h : LetterPerm π) (cs : List Char) (t : Term)
    (hp : parseTerm cs = .ok t) : parseTerm (cs.map π) = .ok (t.map π) :=
  parseTermAux_map π h cs ⟨[], false, []⟩ t hp

/-- the letters of a term -/
def Term.letters (t : Term) : List Char := t.pre ++ t.post

theorem Term.mem_letters_push (t : Term) (a c : Char) :
    c ∈ (t.push a).letters ↔ c ∈ t.letters ∨ c = a := by
  unfold Term.push Term.letters
  split
  · simp only [List.mem_append, List.mem_singleton, or_assoc]
  · simp only [List.mem_append, List.mem_singleton, or_right_comm]

theorem mem_cons_letter_iff {a : Char} (ha : ¬ isLetter a = true) (c : Char) (cs : List Char) :
    c ∈ a :: cs ∧ isLetter c = true ↔ c ∈ cs ∧ isLetter c = true := by
  rw [List.mem_cons]
  exact ⟨fun ⟨h, hl⟩ => ⟨h.resolve_left fun e => ha (e ▸ hl), hl⟩, fun ⟨h, hl⟩ => ⟨Or.inr h, hl⟩⟩

theorem parseTermAux_mem_letters (cs : List Char) (t0 t1 : Term) (hp : parseTermAux cs t0 = .ok t1) (c : Char) :
    c ∈ t1.letters ↔ c ∈ t0.letters ∨ (c ∈ cs ∧ isLetter c = true) := by
  fun_induction parseTermAux cs t0 with
  | case1 t => cases hp; simp
  | case2 a cs t ha ih =>
    rw [ih hp, Term.mem_letters_push, List.mem_cons]
    by_cases hca : c = a
    · simp [hca, ha]
    · simp [hca]
  | case3 a cs t ha hsp ih => rw [ih hp, mem_cons_letter_iff ha]
  | case4 a t ha hsp hdot c1 c2 cs' hcond ih =>
    simp only [Bool.and_eq_true, beq_iff_eq] at hdot hcond
    obtain ⟨⟨rfl, rfl⟩, -⟩ := hcond
    subst hdot
    simp only [ih hp, mem_cons_letter_iff ha]
    rfl
  | case5 | case6 | case7 => cases hp

theorem parseTerm_mem_letters (cs : List Char) (t : Term) (hp : parseTerm cs = .ok t) (c : Char) :
    c ∈ t.letters ↔ c ∈ cs ∧ isLetter c = true := by
  simpa [Term.letters] using parseTermAux_mem_letters cs ⟨[], false, []⟩ t hp c

theorem swap_letterPerm (s t : Char) (hs : isLetter s = true) (ht : isLetter t = true) :
    LetterPerm (Equiv.swap s t) := by
  constructor
  · intro c
    by_cases h1 : c = s
    · subst h1; simp [hs, ht]
    · by_cases h2 : c = t
      · subst h2; simp [hs, ht]
      · rw [Equiv.swap_apply_of_ne_of_ne h1 h2]
  · intro c hc
    have h1 : c ≠ s := fun e => by rw [e, hs] at hc; cases hc
    have h2 : c ≠ t := fun e => by rw [e, ht] at hc; cases hc
    exact Equiv.swap_apply_of_ne_of_ne h1 h2

/-- **the rewriting on three parsed terms**: the contracted letter `s` and the free block letter `t` are letters,
the rewritten block term parses to the block term with `s` and `t` swapped, and the output term is the input
term with `s` and `t` swapped.  The block term must have no blank (the Python constructor removes them). -/
theorem transposeCore_terms (l r o l' : List Char) (tl tr tO : Term) (hpl : parseTerm l = .ok tl)
    (hpr : parseTerm r = .ok tr) (hpo : parseTerm o = .ok tO) (hchars : ∀ c ∈ l, isLetter c = true ∨ c = '.')
    (ht : transposeCore (· == '.') l r o = .ok l') :
    ∃ s t : Char, isLetter s = true ∧ isLetter t = true ∧
      contracted (· == '.') l r o = [s] ∧ freeBlock (· == '.') l r o = [t] ∧
      l' = l.map (Equiv.swap s t) ∧ r.map (Equiv.swap s t) = o ∧ o.map (Equiv.swap s t) = r ∧
      parseTerm l' = .ok (tl.map (Equiv.swap s t)) ∧ tO = tr.map (Equiv.swap s t) := by
  obtain ⟨s, t, hs, ht', hl', hRO, hOR⟩ := transposeCore_swap _ l r o l' ht
  obtain ⟨hsd, hsl, -, -⟩ := contracted_singleton hs
  obtain ⟨htd, htl, -, -⟩ := freeBlock_singleton ht'
  have hsL : isLetter s = true := (hchars s hsl).resolve_right (by simpa using hsd)
  have htL : isLetter t = true := (hchars t htl).resolve_right (by simpa using htd)
  have hπ := swap_letterPerm s t hsL htL
  refine ⟨s, t, hsL, htL, hs, ht', hl', hRO, hOR, hl' ▸ parseTerm_map _ hπ l tl hpl, ?_⟩
  have := parseTerm_map _ hπ r tr hpr
  rw [hRO, hpo] at this
  exact Except.ok.inj this

theorem ellRank_fit (t : Term) (d : Char → ℕ) (e : List ℕ) (h : t.ell = false → e = []) :
    t.ellRank (t.pre.map d ++ e ++ t.post.map d).length = .ok e.length := by
  have hlen : (t.pre.map d ++ e ++ t.post.map d).length = t.nLetters + e.length := by
    simp only [List.length_append, List.length_map, Term.nLetters]
    omega
  rw [Term.ellRank, hlen]
  cases ht : t.ell
  · rw [h ht, if_neg Bool.false_ne_true]
    exact if_pos rfl
  · rw [if_pos rfl, if_pos (Nat.le_add_right _ _), Nat.add_sub_cancel_left]

theorem ellRank_map (π : Char → Char) (t : Term) (n : ℕ) : (t.map π).ellRank n = t.ellRank n := by
  unfold Term.ellRank Term.nLetters Term.map
  simp only [List.length_map]

theorem plan_eq (dia : Dialect) (l r o : List Char) (tl tr tO : Term) (hpl : parseTerm l = .ok tl)
    (hpr : parseTerm r = .ok tr) (hpo : parseTerm o = .ok tO) (brank xrank nl nr : ℕ)
    (hnl : tl.ellRank brank = .ok nl) (hnr : tr.ellRank xrank = .ok nr)
    (hell : tO.ell = true ∨ max nl nr = 0) :
    plan dia l r o brank xrank
      = .ok ⟨tl.labels (max nl nr) nl, tr.labels (max nl nr) nr, tO.labels (max nl nr) (max nl nr)⟩ := by
  unfold plan
  simp only [hpl, hpr, hpo, hnl, hnr, bind, Except.bind]
  rcases hell with h | h
  · simp [h, pure, Except.pure]
  · cases hto : tO.ell <;> simp [h, pure, Except.pure]

/-- `einsumTerms` on parsed terms whose ellipses cover `nl ≤ nr` dimensions of the two operands is the kernel on
the labelled dimensions -/
theorem einsumTerms_eq_core {α : Type} [Zero α] [Add α] [Mul α] (dia : Dialect) (l r o : List Char)
    (tl tr tO : Term) (hpl : parseTerm l = .ok tl) (hpr : parseTerm r = .ok tr) (hpo : parseTerm o = .ok tO)
    (B x : Tensor α) (nl nr : ℕ) (hnl : tl.ellRank B.rank = .ok nl) (hnr : tr.ellRank x.rank = .ok nr)
    (hle : nl ≤ nr) (hell : tO.ell = true ∨ nr = 0) :
    einsumTerms dia l r o B x = einsumCore (tl.labels nr nl) (tr.labels nr nr) (tO.labels nr nr) B x := by
  unfold einsumTerms
  rw [plan_eq dia l r o tl tr tO hpl hpr hpo B.rank x.rank nl nr hnl hnr (by rwa [Nat.max_eq_right hle]),
    Nat.max_eq_right hle]
  rfl

/-- the sizes of the labels: `d` for the letters, the broadcast ellipsis shape `es` for the ellipsis -/
def dL (d : Char → ℕ) (es : List ℕ) : Lbl → ℕ
  | .ch c => d c
  | .ell k => es.getD k 1

theorem labels_map_dL (t : Term) (d : Char → ℕ) (es : List ℕ) (ne : ℕ) (hne : ne ≤ es.length) :
    (t.labels es.length ne).map (dL d es) = t.pre.map d ++ es.drop (es.length - ne) ++ t.post.map d := by
  unfold Term.labels
  simp only [List.map_append, List.map_map]
  congr 1
  · congr 1
    apply List.ext_getElem
    · rw [List.length_map, List.length_range, List.length_drop]
      omega
    · intro i h1 h2
      simp only [List.length_map, List.length_range] at h1
      simp only [List.getElem_map, List.getElem_range, Function.comp, dL, List.getElem_drop]
      rw [List.getD_eq_getElem?_getD, List.getElem?_eq_getElem (by omega)]
      rfl

theorem labels_nodup (t : Term) (nb ne : ℕ) (h : t.letters.Nodup) : (t.labels nb ne).Nodup := by
  unfold Term.labels
  unfold Term.letters at h
  rw [List.nodup_append] at h
  obtain ⟨h1, h2, h3⟩ := h
  rw [List.nodup_append]
  refine ⟨?_, h2.map ch_injective, ?_⟩
  · rw [List.nodup_append]
    refine ⟨h1.map ch_injective, ?_, ?_⟩
    · apply List.Nodup.map _ List.nodup_range
      intro a b e
      have := Lbl.ell.inj e
      omega
    · intro a ha b hb e
      simp only [List.mem_map] at ha hb
      obtain ⟨c, _, rfl⟩ := ha
      obtain ⟨j, _, rfl⟩ := hb
      cases e
  · intro a ha b hb e
    simp only [List.mem_append, List.mem_map] at ha hb
    obtain ⟨c', hc', rfl⟩ := hb
    rcases ha with ⟨c, hc, rfl⟩ | ⟨j, _, rfl⟩
    · have := Lbl.ch.inj e
      subst this
      exact h3 c hc c hc' rfl
    · cases e

theorem mem_labels_ch (t : Term) (nb ne : ℕ) (c : Char) : Lbl.ch c ∈ t.labels nb ne ↔ c ∈ t.letters := by
  unfold Term.labels Term.letters
  simp only [List.mem_append, List.mem_map, Lbl.ch.injEq, exists_eq_right, reduceCtorEq, and_false,
    exists_false, or_false]

theorem labels_map_swap (t : Term) (nb ne : ℕ) (s u : Char) :
    (t.map (Equiv.swap s u)).labels nb ne = (t.labels nb ne).map (Equiv.swap (.ch s) (.ch u)) := by
  have h1 : ∀ c, Equiv.swap (Lbl.ch s) (.ch u) (.ch c) = .ch (Equiv.swap s u c) :=
    ch_injective.swap_apply s u
  have h2 : ∀ k, Equiv.swap (Lbl.ch s) (.ch u) (.ell k) = .ell k := fun k =>
    Equiv.swap_apply_of_ne_of_ne Lbl.noConfusion Lbl.noConfusion
  simp only [Term.labels, Term.map, List.map_append, List.map_map, Function.comp_def, h1, h2]

/-- **The executable-level adjoint theorem with an ellipsis.**  The three terms parse (`tl`, `tr`, `tO`:
letters before / after an optional `...`); `_get_transposed_subscripts` rewrites `l,r->o` into `l',r->o`.
Shapes: the letters have the sizes `d`; the input `x` and the cotangent `y` carry the whole ellipsis shape `es`
between their letters; the blocks carry a suffix `eB` of it (all of it, part of it, or nothing) — so no size-1
dimension is stretched and the blocks' ellipsis is right-aligned with the input's as NumPy broadcasting wants.
`es` must be empty if the output has no ellipsis, `eB` if the blocks have none.  Then both evaluations succeed and
`⟨einsum(l,r->o)(B,x), y⟩ = ⟨x, einsum(l',r->o)(B,y)⟩`. -/
theorem einsumTerms_adjoint_ellipsis {α : Type} [CommRing α] (dia : Dialect) (l r o l' : List Char)
    (tl tr tO : Term) (hpl : parseTerm l = .ok tl) (hpr : parseTerm r = .ok tr) (hpo : parseTerm o = .ok tO)
    (hchars : ∀ c ∈ l, isLetter c = true ∨ c = '.')
    (ht : transposeCore (· == '.') l r o = .ok l') (hO : tO.letters.Nodup)
    (d : Char → ℕ) (es eB : List ℕ) (hBs : eB <:+ es) (hBell : tl.ell = false → eB = [])
    (hoell : tO.ell = true ∨ es = []) (B x y : Tensor α)
    (hB : B.shape = tl.pre.map d ++ eB ++ tl.post.map d)
    (hx : x.shape = tr.pre.map d ++ es ++ tr.post.map d)
    (hy : y.shape = tO.pre.map d ++ es ++ tO.post.map d)
    (hxw : x.data.length = prodNat x.shape) (hyw : y.data.length = prodNat y.shape) :
    ∃ out1 out2, einsumTerms dia l r o B x = .ok out1 ∧ einsumTerms dia l' r o B y = .ok out2 ∧
      out1.shape = y.shape ∧ out2.shape = x.shape ∧ tdot out1 y = tdot x out2 := by
  obtain ⟨s, t, hsL, htL, hs, ht', -, -, -, hpl', htO⟩ :=
    transposeCore_terms l r o l' tl tr tO hpl hpr hpo hchars ht
  obtain ⟨-, hsl, -, -⟩ := contracted_singleton hs
  obtain ⟨-, htl, -, htr⟩ := freeBlock_singleton ht'
  -- the ranks of the operands, hence the labelled dimensions of the two evaluations
  have hesO : tO.ell = false → es = [] := fun h => hoell.resolve_left (by rw [h]; exact Bool.false_ne_true)
  have hes : tr.ell = false → es = [] := fun h => hesO (by rw [htO]; exact h)
  have hrB : tl.ellRank B.rank = .ok eB.length := by rw [Tensor.rank, hB]; exact ellRank_fit tl d eB hBell
  have hrx : tr.ellRank x.rank = .ok es.length := by rw [Tensor.rank, hx]; exact ellRank_fit tr d es hes
  have hry : tr.ellRank y.rank = .ok es.length := by
    rw [← ellRank_map (Equiv.swap s t), ← htO, Tensor.rank, hy]; exact ellRank_fit tO d es hesO
  have hell : tO.ell = true ∨ es.length = 0 := hoell.imp_right fun h => by rw [h]; rfl
  have hle : eB.length ≤ es.length := hBs.length_le
  rw [einsumTerms_eq_core dia l r o tl tr tO hpl hpr hpo B x _ _ hrB hrx hle hell,
    einsumTerms_eq_core dia l' r o _ tr tO hpl' hpr hpo B y _ _ ((ellRank_map _ tl _).trans hrB) hry hle hell,
    labels_map_swap]
  have heB : es.drop (es.length - eB.length) = eB := by
    obtain ⟨p, rfl⟩ := hBs
    simp
  -- the three lists of labels are written out: found by unification, they make this step very slow
  refine einsumCore_adjoint (tl.labels es.length eB.length) (tr.labels es.length es.length)
    (tO.labels es.length es.length) (.ch s) (.ch t) ?_ ?_ ?_ ?_ ?_ (dL d es) B x y ?_ ?_ ?_ hxw hyw
  · exact (mem_labels_ch tl _ _ s).2 ((parseTerm_mem_letters l tl hpl s).2 ⟨hsl, hsL⟩)
  · exact (mem_labels_ch tl _ _ t).2 ((parseTerm_mem_letters l tl hpl t).2 ⟨htl, htL⟩)
  · exact fun h => htr ((parseTerm_mem_letters r tr hpr t).1 ((mem_labels_ch tr _ _ t).1 h)).1
  · rw [htO, labels_map_swap]
  · exact labels_nodup tO _ _ hO
  · rw [labels_map_dL tl d es eB.length hle, heB, hB]
  · rw [labels_map_dL tr d es es.length le_rfl, Nat.sub_self, List.drop_zero, hx]
  · rw [labels_map_dL tO d es es.length le_rfl, Nat.sub_self, List.drop_zero, hy]

/-- **the executable-level adjoint theorem** (letters only).  If `_get_transposed_subscripts` rewrites `l,r->o`
into `l',r->o`, then for all block data `B`, inputs `x` and `y` whose shapes are the sizes of their letters,
both kernels succeed and `⟨einsum(l,r->o)(B, x), y⟩ = ⟨x, einsum(l',r->o)(B, y)⟩`.
The hypothesis `o.Nodup` is what `numpy.einsum` itself demands of the output (it is not implied by the success
of the rewriting: the last example of FuraxProofs/Props/C14Eval.lean). -/
theorem einsumTerms_adjoint {α : Type} [CommRing α] (dia : Dialect) (l r o l' : List Char)
    (hl : ∀ c ∈ l, isLetter c = true) (hr : ∀ c ∈ r, isLetter c = true) (ho : ∀ c ∈ o, isLetter c = true)
    (ht : transposeCore (· == '.') l r o = .ok l') (hO : o.Nodup) (d : Char → ℕ) (B x y : Tensor α)
    (hB : B.shape = l.map d) (hx : x.shape = r.map d) (hy : y.shape = o.map d)
    (hxw : x.data.length = prodNat x.shape) (hyw : y.data.length = prodNat y.shape) :
    ∃ out1 out2, einsumTerms dia l r o B x = .ok out1 ∧ einsumTerms dia l' r o B y = .ok out2 ∧
      out1.shape = y.shape ∧ out2.shape = x.shape ∧ tdot out1 y = tdot x out2 :=
  einsumTerms_adjoint_ellipsis dia l r o l' ⟨l, false, []⟩ ⟨r, false, []⟩ ⟨o, false, []⟩ (parseTerm_letters l hl)
    (parseTerm_letters r hr) (parseTerm_letters o ho) (fun c hc => Or.inl (hl c hc)) ht
    (by rwa [Term.letters, List.append_nil]) d [] [] List.suffix_rfl (fun _ => rfl) (Or.inr rfl) B x y
    (by rw [hB]; simp) (by rw [hx]; simp) (by rw [hy]; simp) hxw hyw

end Einsum
end Furax
