/-
C14, executable level: the einsum kernel of FuraxModel/EinsumEval.lean (`einsumCore`, `einsum2`) computes the
bilinear form `Phi` of FuraxProofs/Lemmas/EinsumAdjoint.lean, hence the rewritten subscripts give the adjoint of
the EXECUTABLE kernel.

The sum over all bounded assignments `ι → ℕ` (the index set of `Phi`) is a row-major sum over `multiIndices` along
any repetition-free list of labels that covers the labels of size other than 1.  On labelled dimensions whose shapes
fit a size assignment `d` exactly the kernel succeeds, and its pairing with `y` is `Phi d B x y Lb Rb Ob`.  An
injective relabelling does not change the kernel, so the labels that occur may be taken as a finite type and the
adjoint theorem holds for any type of labels.  `einsum2With` is the labelling of the dimensions (`planOf`) followed
by the kernel; that gives the output shape, the rejections and linearity in the second operand.
-/
import FuraxModel.EinsumEval
import FuraxProofs.Lemmas.EinsumAdjoint
import FuraxProofs.Lemmas.MoveAxisPerm
import Mathlib.Algebra.BigOperators.Group.List.Basic
import Mathlib.Algebra.BigOperators.Ring.List
import Mathlib.Algebra.BigOperators.Group.Finset.Sigma
import Mathlib.Data.Fintype.EquivFin

namespace Furax
namespace Einsum
open Finset

section MultiIndices
variable {α : Type}

/-- `Σ_{a ∈ multiIndices sh} f a` -/
def sumMI [Zero α] [Add α] (sh : List ℕ) (f : List ℕ → α) : α := ((multiIndices sh).map f).sum

theorem sumMI_nil [AddCommMonoid α] (f : List ℕ → α) : sumMI [] f = f [] := by
  simp [sumMI, multiIndices]

theorem sum_map_range [AddCommMonoid α] (g : ℕ → α) (n : ℕ) :
    ((List.range n).map g).sum = ∑ i ∈ range n, g i := rfl

theorem sumMI_cons [AddCommMonoid α] (d : ℕ) (ds : List ℕ) (f : List ℕ → α) :
    sumMI (d :: ds) f = ∑ i ∈ range d, sumMI ds (fun a => f (i :: a)) := by
  unfold sumMI
  rw [multiIndices, List.map_flatMap, List.flatMap_def, List.sum_flatten, List.map_map, sum_map_range]
  apply Finset.sum_congr rfl
  intro i _
  rw [Function.comp_apply, List.map_map]; rfl

theorem sumMI_congr [Zero α] [Add α] (sh : List ℕ) (f g : List ℕ → α)
    (h : ∀ a ∈ multiIndices sh, f a = g a) : sumMI sh f = sumMI sh g := by
  unfold sumMI; rw [List.map_congr_left h]

theorem mem_multiIndices_length (sh a : List ℕ) (h : a ∈ multiIndices sh) : a.length = sh.length := by
  induction sh generalizing a with
  | nil => simp [multiIndices] at h; simp [h]
  | cons d ds ih =>
    simp only [multiIndices, List.mem_flatMap, List.mem_range, List.mem_map] at h
    obtain ⟨i, _, b, hb, rfl⟩ := h
    simp [ih b hb]

theorem sumMI_append [AddCommMonoid α] (s1 s2 : List ℕ) (f : List ℕ → α) :
    sumMI (s1 ++ s2) f = sumMI s1 (fun a => sumMI s2 (fun b => f (a ++ b))) := by
  induction s1 generalizing f with
  | nil => simp [sumMI_nil]
  | cons d ds ih =>
    rw [List.cons_append, sumMI_cons, sumMI_cons]
    apply Finset.sum_congr rfl
    intro i _
    rw [ih]; rfl

theorem sumMI_mul_right [NonUnitalNonAssocSemiring α] (sh : List ℕ) (f : List ℕ → α) (c : α) :
    sumMI sh (fun a => f a * c) = sumMI sh f * c := by
  unfold sumMI; exact List.sum_map_mul_right _ _ _

/-- the row-major enumeration is the enumeration by flat position -/
theorem multiIndices_map_ravel (sh : List ℕ) :
    (multiIndices sh).map (ravelIdx sh) = List.range (prodNat sh) := by
  induction sh with
  | nil => simp [multiIndices, Axes.ma_ravelIdx_nil, prodNat_nil]
  | cons d ds ih =>
    rw [multiIndices, List.map_flatMap, prodNat_cons]
    have h1 : ∀ i, List.map (ravelIdx (d :: ds)) (List.map (fun x => i :: x) (multiIndices ds))
        = (List.range (prodNat ds)).map (fun k => i * prodNat ds + k) := by
      intro i
      rw [List.map_map, ← ih, List.map_map]
      apply List.map_congr_left
      intro a ha
      simp only [Function.comp]
      rw [Axes.ma_ravelIdx_cons d ds i a (mem_multiIndices_length ds a ha)]
    simp only [h1]
    generalize prodNat ds = P
    clear h1 ih
    induction d with
    | zero => simp
    | succ n ih =>
      rw [List.range_succ, List.flatMap_append, ih, Nat.succ_mul, List.range_add]
      simp

theorem multiIndices_length (sh : List ℕ) : (multiIndices sh).length = prodNat sh := by
  simpa using congrArg List.length (multiIndices_map_ravel sh)

end MultiIndices

section Assignments
variable {α : Type} [AddCommMonoid α] {ι : Type} [Fintype ι] [DecidableEq ι]

omit [Fintype ι] in
theorem envOf_cons (k : ι) (keys : List ι) (v : ℕ) (vals : List ℕ) :
    envOf (k :: keys) (v :: vals) = Function.update (envOf keys vals) k v := by
  funext ℓ
  simp only [envOf, List.zip_cons_cons, List.lookup_cons, Function.update_apply]
  by_cases h : ℓ = k
  · simp [h]
  · simp [h, beq_false_of_ne h]

theorem sum_piFinset_peel (d : ι → ℕ) (ℓ : ι) (F : (ι → ℕ) → α) :
    ∑ σ ∈ Fintype.piFinset (fun c => range (d c)), F σ
      = ∑ i ∈ range (d ℓ), ∑ σ ∈ Fintype.piFinset (fun c => range (Function.update d ℓ 1 c)),
          F (Function.update σ ℓ i) := by
  rw [← Finset.sum_product']
  refine Finset.sum_nbij' (fun σ => (σ ℓ, Function.update σ ℓ 0)) (fun p => Function.update p.2 ℓ p.1)
    ?_ ?_ ?_ ?_ ?_
  · intro σ hσ
    simp only [Fintype.mem_piFinset, mem_range, mem_product] at hσ ⊢
    refine ⟨hσ ℓ, fun c => ?_⟩
    by_cases h : c = ℓ
    · subst h; simp
    · simp [Function.update_of_ne h, hσ c]
  · intro p hp
    simp only [Fintype.mem_piFinset, mem_range, mem_product] at hp ⊢
    intro c
    by_cases h : c = ℓ
    · subst h; simpa using hp.1
    · have := hp.2 c
      simpa [Function.update_of_ne h] using this
  · intro σ _
    simp
  · intro p hp
    simp only [Fintype.mem_piFinset, mem_range, mem_product] at hp
    have h0 : p.2 ℓ = 0 := by simpa using hp.2 ℓ
    ext
    · simp
    · simp only [Function.update_idem]
      rw [← h0, Function.update_eq_self]
  · intro σ _
    simp

/-- **the index set of `Phi` along a list of labels**: if `ls` has no repetition and every label outside `ls`
has size 1, the sum over all bounded assignments is the row-major sum over the values of `ls` -/
theorem sum_piFinset_eq_sumMI (ls : List ι) (hnd : ls.Nodup) (d : ι → ℕ) (hd : ∀ c, c ∉ ls → d c = 1)
    (F : (ι → ℕ) → α) :
    ∑ σ ∈ Fintype.piFinset (fun c => range (d c)), F σ = sumMI (ls.map d) (fun a => F (envOf ls a)) := by
  induction ls generalizing d F with
  | nil =>
    have hd' : d = fun _ => 1 := funext fun c => hd c List.not_mem_nil
    subst hd'
    simp only [Finset.range_one, Fintype.piFinset_singleton, Finset.sum_singleton, List.map_nil, sumMI_nil]
    rfl
  | cons ℓ ls ih =>
    have hℓ : ℓ ∉ ls := (List.nodup_cons.1 hnd).1
    have hnd' : ls.Nodup := (List.nodup_cons.1 hnd).2
    rw [sum_piFinset_peel d ℓ F, List.map_cons, sumMI_cons]
    apply Finset.sum_congr rfl
    intro i _
    have hmap : ls.map d = ls.map (Function.update d ℓ 1) := by
      apply List.map_congr_left
      intro c hc
      rw [Function.update_of_ne (fun h : c = ℓ => hℓ (h ▸ hc))]
    rw [ih hnd' (Function.update d ℓ 1) ?_ (fun σ => F (Function.update σ ℓ i)), hmap]
    · apply sumMI_congr
      intro a _
      rw [envOf_cons]
    · intro c hc
      by_cases h : c = ℓ
      · subst h; simp
      · rw [Function.update_of_ne h]; exact hd c (by simp [h, hc])

end Assignments

section Fit
variable {ι : Type} [DecidableEq ι]

omit [DecidableEq ι] in
theorem zip_map_self (M : List ι) (d : ι → ℕ) : M.zip (M.map d) = M.map (fun ℓ => (ℓ, d ℓ)) := by
  induction M with
  | nil => rfl
  | cons m M ih => simp [ih]

omit [DecidableEq ι] in
theorem dimsOf_fit (Lb Rb : List ι) (d : ι → ℕ) :
    dimsOf Lb Rb (Lb.map d) (Rb.map d) = (Lb ++ Rb).map (fun ℓ => (ℓ, d ℓ)) := by
  simp [dimsOf, zip_map_self]

theorem dimOf_nil (ℓ : ι) : dimOf ([] : List (ι × ℕ)) ℓ = 1 := rfl

theorem dimOf_cons (p : ι × ℕ) (ps : List (ι × ℕ)) (ℓ : ι) :
    dimOf (p :: ps) ℓ = if (p.1 == ℓ && p.2 != 1) = true then p.2 else dimOf ps ℓ := by
  unfold dimOf
  rw [List.find?_cons]
  cases h : (p.1 == ℓ && p.2 != 1) <;> simp

theorem dimOf_graph (M : List ι) (d : ι → ℕ) (ℓ : ι) :
    dimOf (M.map fun c => (c, d c)) ℓ = if ℓ ∈ M then d ℓ else 1 := by
  induction M with
  | nil => simp [dimOf_nil]
  | cons m M ih =>
    rw [List.map_cons, dimOf_cons, ih]
    by_cases hm : m = ℓ
    · subst hm
      by_cases h1 : d m = 1 <;> simp [h1]
    · simp [hm, Ne.symm hm]

theorem map_dimOf_fit (Lb Rb s : List ι) (d : ι → ℕ) (h : ∀ c ∈ s, c ∈ Lb ++ Rb) :
    s.map (dimOf (dimsOf Lb Rb (Lb.map d) (Rb.map d))) = s.map d := by
  rw [dimsOf_fit]
  apply List.map_congr_left
  intro c hc
  rw [dimOf_graph, if_pos (h c hc)]

theorem nodupB_iff (l : List ι) : nodupB l = true ↔ l.Nodup := by
  induction l with
  | nil => simp [nodupB]
  | cons a as ih => simp [nodupB, ih]

theorem compatible_graph (M : List ι) (d : ι → ℕ) : compatible (M.map fun c => (c, d c)) = true := by
  unfold compatible
  rw [List.all_eq_true]
  intro p hp
  obtain ⟨c, hc, rfl⟩ := List.mem_map.1 hp
  simp only [dimOf_graph, hc, if_true]
  simp

theorem diagOK_graph (M : List ι) (d : ι → ℕ) : diagOK (M.map fun c => (c, d c)) = true := by
  unfold diagOK
  simp only [List.all_eq_true]
  intro p hp q hq
  obtain ⟨c, _, rfl⟩ := List.mem_map.1 hp
  obtain ⟨c', _, rfl⟩ := List.mem_map.1 hq
  by_cases h : c = c'
  · subst h; simp
  · simp [h]

theorem coreOK_fit (Lb Rb Ob : List ι) (d : ι → ℕ) (hO : Ob.Nodup) (hsub : ∀ c ∈ Ob, c ∈ Lb ++ Rb) :
    coreOK Lb Rb Ob (Lb.map d) (Rb.map d) = true := by
  unfold coreOK
  rw [dimsOf_fit, compatible_graph, zip_map_self, zip_map_self, diagOK_graph, diagOK_graph,
    (nodupB_iff Ob).2 hO]
  simp only [List.length_map, beq_self_eq_true, Bool.and_true, Bool.true_and, List.all_eq_true,
    List.contains_eq_mem, decide_eq_true_eq]
  exact hsub

omit [DecidableEq ι] in
theorem opIndex_fit (Lb : List ι) (d : ι → ℕ) (env : ι → ℕ) (h : ∀ c ∈ Lb, env c < d c) :
    opIndex Lb (Lb.map d) env = Lb.map env := by
  unfold opIndex
  rw [zip_map_self, List.map_map]
  apply List.map_congr_left
  intro c hc
  simp only [Function.comp]
  split
  · rename_i h1
    have := h c hc
    simp only [beq_iff_eq] at h1
    omega
  · rfl

theorem mem_sumLabels (Lb Rb Ob : List ι) (c : ι) :
    c ∈ sumLabels Lb Rb Ob ↔ c ∈ Lb ++ Rb ∧ c ∉ Ob := by
  simp only [sumLabels, List.mem_eraseDups, List.mem_filter, List.contains_eq_mem, Bool.not_eq_eq_eq_not,
    Bool.not_true, decide_eq_false_iff_not]

theorem keys_nodup (Lb Rb Ob : List ι) (hO : Ob.Nodup) : (Ob ++ sumLabels Lb Rb Ob).Nodup := by
  rw [List.nodup_append]
  refine ⟨hO, nodup_eraseDups _, ?_⟩
  intro a ha b hb hab
  subst hab
  exact ((mem_sumLabels Lb Rb Ob a).1 hb).2 ha

theorem keys_cover (Lb Rb Ob : List ι) (c : ι) (h : c ∉ Ob ++ sumLabels Lb Rb Ob) : c ∉ Lb ++ Rb := by
  intro hc
  apply h
  rw [List.mem_append, mem_sumLabels]
  by_cases h' : c ∈ Ob
  · exact Or.inl h'
  · exact Or.inr ⟨hc, h'⟩

theorem map_envOf (keys : List ι) (vals : List ℕ) (hnd : keys.Nodup) (hlen : vals.length = keys.length) :
    keys.map (envOf keys vals) = vals := by
  induction keys generalizing vals with
  | nil => cases vals with
    | nil => rfl
    | cons _ _ => simp at hlen
  | cons k keys ih =>
    cases vals with
    | nil => simp at hlen
    | cons v vals =>
      have hk : k ∉ keys := (List.nodup_cons.1 hnd).1
      rw [envOf_cons, List.map_cons, Function.update_self]
      refine congrArg (v :: ·) (Eq.trans (List.map_congr_left fun c hc => ?_)
        (ih vals (List.nodup_cons.1 hnd).2 (Nat.succ.inj hlen)))
      exact Function.update_of_ne (fun h : c = k => hk (h ▸ hc)) _ _

end Fit

section Core
variable {ι : Type} [DecidableEq ι] {α : Type} [Zero α] [Add α] [Mul α]

/-- the tensor that `einsumCore` returns when `coreOK` holds -/
def coreOut (Lb Rb Ob : List ι) (B x : Tensor α) : Tensor α :=
  let dims := dimsOf Lb Rb B.shape x.shape
  let S := sumLabels Lb Rb Ob
  ⟨Ob.map (dimOf dims), (multiIndices (Ob.map (dimOf dims))).map
    (coreEntry Lb Rb Ob S (S.map (dimOf dims)) B x)⟩

theorem einsumCore_eq (Lb Rb Ob : List ι) (B x : Tensor α) :
    einsumCore Lb Rb Ob B x
      = if coreOK Lb Rb Ob B.shape x.shape then .ok (coreOut Lb Rb Ob B x) else .error .valueError := rfl

theorem einsumCore_of_not_ok {Lb Rb Ob : List ι} {B x : Tensor α}
    (h : coreOK Lb Rb Ob B.shape x.shape = false) : einsumCore Lb Rb Ob B x = .error .valueError := by
  rw [einsumCore_eq, h]; rfl

theorem einsumCore_ok_inv {Lb Rb Ob : List ι} {B x out : Tensor α} (h : einsumCore Lb Rb Ob B x = .ok out) :
    coreOK Lb Rb Ob B.shape x.shape = true ∧ out = coreOut Lb Rb Ob B x := by
  rw [einsumCore_eq] at h
  split at h
  · exact ⟨‹_›, (Except.ok.inj h).symm⟩
  · cases h

theorem einsumCore_error (Lb Rb Ob : List ι) (B x : Tensor α) : OnlyValueError (einsumCore Lb Rb Ob B x) := by
  rw [einsumCore_eq]
  exact .ite (.ok _) .valueError

end Core

section CorePhi
variable {α : Type} [CommRing α] {ι : Type} [DecidableEq ι]

/-- the pairing `Σ_k a[k] · b[k]` of two tensors (by their row-major data) -/
def tdot (a b : Tensor α) : α := (List.zipWith (· * ·) a.data b.data).sum

theorem data_eq_map_entryAt (y : Tensor α) (hy : y.data.length = prodNat y.shape) :
    y.data = (multiIndices y.shape).map (entryAt y) := by
  have h : (multiIndices y.shape).map (entryAt y)
      = ((multiIndices y.shape).map (ravelIdx y.shape)).map (fun k => y.data.getD k 0) := by
    rw [List.map_map]; rfl
  rw [h, multiIndices_map_ravel, ← hy, Axes.ma_map_getD_range]

theorem tdot_map (sh : List ℕ) (g : List ℕ → α) (y : Tensor α) (hsh : y.shape = sh)
    (hy : y.data.length = prodNat y.shape) :
    tdot ⟨sh, (multiIndices sh).map g⟩ y = sumMI sh (fun oi => g oi * entryAt y oi) := by
  unfold tdot sumMI
  conv_lhs => rw [data_eq_map_entryAt y hy, hsh]
  simp only
  rw [List.zipWith_map, List.zipWith_self]

theorem tdot_comm (a b : Tensor α) : tdot a b = tdot b a := by
  unfold tdot
  rw [List.zipWith_comm]
  simp only [mul_comm]

theorem einsumCore_fit (Lb Rb Ob : List ι) (d : ι → ℕ) (B x : Tensor α)
    (hB : B.shape = Lb.map d) (hx : x.shape = Rb.map d) (hO : Ob.Nodup)
    (hsub : ∀ c ∈ Ob, c ∈ Lb ++ Rb) :
    einsumCore Lb Rb Ob B x = .ok ⟨Ob.map d, (multiIndices (Ob.map d)).map
      (coreEntry Lb Rb Ob (sumLabels Lb Rb Ob) ((sumLabels Lb Rb Ob).map d) B x)⟩ := by
  rw [einsumCore_eq, if_pos (by rw [hB, hx]; exact coreOK_fit Lb Rb Ob d hO hsub), coreOut, hB, hx,
    map_dimOf_fit Lb Rb Ob d hsub,
    map_dimOf_fit Lb Rb _ d fun c hc => ((mem_sumLabels Lb Rb Ob c).1 hc).1]

/-- a size assignment with the labels that occur in no operand set to size 1 (they index nothing) -/
def dNorm (l r : List ι) (d : ι → ℕ) : ι → ℕ := fun c => if c ∈ l ++ r then d c else 1

theorem map_dNorm (l r s : List ι) (d : ι → ℕ) (h : ∀ c ∈ s, c ∈ l ++ r) :
    s.map (dNorm l r d) = s.map d :=
  List.map_congr_left fun c hc => if_pos (h c hc)

variable [Fintype ι]

/-- **the kernel computes the bilinear form `Phi`**: on shapes that fit the size assignment `d` exactly,
`⟨einsumCore Lb Rb Ob B x, y⟩ = Phi d' B x y Lb Rb Ob`, where `d'` is `d` with the labels that occur nowhere set to
size 1 and tensors are read as functions of the multi-index by `entryAt` -/
theorem einsumCore_pairing (Lb Rb Ob : List ι) (d : ι → ℕ) (B x y : Tensor α)
    (hB : B.shape = Lb.map d) (hx : x.shape = Rb.map d) (hO : Ob.Nodup)
    (hsub : ∀ c ∈ Ob, c ∈ Lb ++ Rb) (hy : y.shape = Ob.map d) (hyw : y.data.length = prodNat y.shape) :
    ∃ out, einsumCore Lb Rb Ob B x = .ok out ∧ out.shape = Ob.map d ∧
      out.data.length = prodNat out.shape ∧
      tdot out y = Phi (dNorm Lb Rb d) (entryAt B) (entryAt x) (entryAt y) Lb Rb Ob := by
  -- the shapes fit `dNorm Lb Rb d` as well: from here on `d` is 1 on the labels that do not occur
  have hd : ∀ c, c ∉ Lb ++ Rb → dNorm Lb Rb d c = 1 := fun c hc => if_neg hc
  rw [← map_dNorm Lb Rb Lb d fun c hc => List.mem_append_left _ hc] at hB
  rw [← map_dNorm Lb Rb Rb d fun c hc => List.mem_append_right _ hc] at hx
  rw [← map_dNorm Lb Rb Ob d hsub] at hy ⊢
  generalize dNorm Lb Rb d = d at hB hx hy hd ⊢
  refine ⟨_, einsumCore_fit Lb Rb Ob d B x hB hx hO hsub, rfl, ?_, ?_⟩
  · rw [List.length_map, multiIndices_length]
  have hnd := keys_nodup Lb Rb Ob hO
  have hcov : ∀ c, c ∉ Ob ++ sumLabels Lb Rb Ob → d c = 1 := fun c hc => hd c (keys_cover Lb Rb Ob c hc)
  generalize sumLabels Lb Rb Ob = S at hnd hcov ⊢
  rw [tdot_map (Ob.map d) _ y hy hyw]
  -- the summand as a function of the assignment
  let G : (ι → ℕ) → α := fun σ =>
    entryAt B (opIndex Lb B.shape σ) * entryAt x (opIndex Rb x.shape σ) * entryAt y (Ob.map σ)
  have h1 : sumMI (Ob.map d) (fun oi => coreEntry Lb Rb Ob S (S.map d) B x oi * entryAt y oi)
      = sumMI (Ob.map d ++ S.map d) (fun a => G (envOf (Ob ++ S) a)) := by
    rw [sumMI_append]
    apply sumMI_congr
    intro oi hoi
    change sumMI (S.map d) _ * _ = _
    rw [← sumMI_mul_right]
    apply sumMI_congr
    intro si hsi
    have hl1 := mem_multiIndices_length _ _ hoi
    have hl2 := mem_multiIndices_length _ _ hsi
    have hm := map_envOf (Ob ++ S) (oi ++ si) hnd (by simp [hl1, hl2])
    rw [List.map_append] at hm
    have := (List.append_inj hm (by simp [hl1])).1
    simp only [G, this]
  rw [h1, ← List.map_append, ← sum_piFinset_eq_sumMI (Ob ++ S) hnd d hcov G]
  unfold Phi
  apply Finset.sum_congr rfl
  intro σ hσ
  simp only [Fintype.mem_piFinset, mem_range] at hσ
  simp only [G]
  rw [hB, hx, opIndex_fit Lb d σ (fun c _ => hσ c), opIndex_fit Rb d σ (fun c _ => hσ c)]

omit [Fintype ι] in
/-- `π` is an involution of the labels that sends the input labels to the output labels, and the output labels
occur in the operands before and after `π` is applied to the block labels: then a label occurs in the operands
after iff its image occurs before, so the normalised sizes correspond -/
theorem dNorm_involution (π : ι → ι) (hπ : ∀ c, π (π c) = c) (Lb Rb Ob : List ι) (hRO : Rb.map π = Ob)
    (hsub : ∀ c ∈ Ob, c ∈ Lb ++ Rb) (hsub' : ∀ c ∈ Ob, c ∈ Lb.map π ++ Rb) (d : ι → ℕ) :
    dNorm (Lb.map π) Rb (d ∘ π) = dNorm Lb Rb d ∘ π := by
  have hL : ∀ c, c ∈ Lb.map π ↔ π c ∈ Lb := fun c =>
    ⟨fun h => by obtain ⟨a, ha, rfl⟩ := List.mem_map.1 h; rwa [hπ], fun h => List.mem_map.2 ⟨π c, h, hπ c⟩⟩
  have hO : ∀ c ∈ Rb, π c ∈ Ob := fun c h => hRO ▸ List.mem_map_of_mem h
  funext c
  have : c ∈ Lb.map π ++ Rb ↔ π c ∈ Lb ++ Rb := by
    rw [List.mem_append, List.mem_append, hL]
    constructor
    · rintro (h | h)
      · exact Or.inl h
      · exact List.mem_append.1 (hsub _ (hO c h))
    · rintro (h | h)
      · exact Or.inl h
      · have := hsub' _ (hO _ h)
        rw [hπ] at this
        exact (List.mem_append.1 this).imp_left (hL c).1
  simp only [dNorm, Function.comp_apply, this]

/-- the adjoint theorem for the kernel, for a finite type of labels (`Phi` sums over all assignments) -/
theorem einsumCore_adjoint_fintype (Lb Rb Ob : List ι) (s t : ι) (hsl : s ∈ Lb) (htl : t ∈ Lb) (htr : t ∉ Rb)
    (hRO : Rb.map (Equiv.swap s t) = Ob) (hO : Ob.Nodup)
    (d : ι → ℕ) (B x y : Tensor α) (hB : B.shape = Lb.map d) (hx : x.shape = Rb.map d)
    (hy : y.shape = Ob.map d) (hxw : x.data.length = prodNat x.shape)
    (hyw : y.data.length = prodNat y.shape) :
    ∃ out1 out2, einsumCore Lb Rb Ob B x = .ok out1 ∧
      einsumCore (Lb.map (Equiv.swap s t)) Rb Ob B y = .ok out2 ∧
      out1.shape = y.shape ∧ out2.shape = x.shape ∧ tdot out1 y = tdot x out2 := by
  generalize hπ : Equiv.swap s t = π at hRO ⊢
  have hππ : ∀ c, π (π c) = c := fun c => by rw [← hπ, Equiv.swap_apply_self]
  have hOR : Ob.map π = Rb := by
    rw [← hRO, List.map_map]
    exact (List.map_congr_left fun c _ => hππ c).trans (List.map_id' Rb)
  -- an output label is `t`, which the swap puts in the place of `s`, or a label that the swap does not move
  have hoR : ∀ c ∈ Ob, c = t ∨ c ∈ Rb := by
    intro c hc
    rw [← hRO] at hc
    obtain ⟨c0, hc0, rfl⟩ := List.mem_map.1 hc
    by_cases h1 : c0 = s
    · left; rw [h1, ← hπ, Equiv.swap_apply_left]
    · have h2 : c0 ≠ t := fun h => htr (h ▸ hc0)
      right; rw [← hπ, Equiv.swap_apply_of_ne_of_ne h1 h2]; exact hc0
  have hsub : ∀ c ∈ Ob, c ∈ Lb ++ Rb := fun c hc =>
    (hoR c hc).elim (fun e => e ▸ List.mem_append_left _ htl) (List.mem_append_right _)
  have htl' : t ∈ Lb.map π := List.mem_map.2 ⟨s, hsl, by rw [← hπ, Equiv.swap_apply_left]⟩
  have hsub' : ∀ c ∈ Ob, c ∈ Lb.map π ++ Rb := fun c hc =>
    (hoR c hc).elim (fun e => e ▸ List.mem_append_left _ htl') (List.mem_append_right _)
  have hB1 : B.shape = (Lb.map π).map (d ∘ π) := by
    rw [hB, List.map_map]
    exact List.map_congr_left fun c _ => by rw [Function.comp_apply, Function.comp_apply, hππ]
  have hy1 : y.shape = Rb.map (d ∘ π) := by rw [← List.map_map, hRO, hy]
  have hx1 : x.shape = Ob.map (d ∘ π) := by rw [← List.map_map, hOR, hx]
  obtain ⟨out1, h11, h12, -, h14⟩ := einsumCore_pairing Lb Rb Ob d B x y hB hx hO hsub hy hyw
  obtain ⟨out2, h21, h22, -, h24⟩ := einsumCore_pairing (Lb.map π) Rb Ob (d ∘ π) B y x hB1 hy1 hO hsub' hx1 hxw
  refine ⟨out1, out2, h11, h21, by rw [h12, hy], by rw [h22, hx1], ?_⟩
  rw [h14, tdot_comm x out2, h24, dNorm_involution π hππ Lb Rb Ob hRO hsub hsub']
  exact einsum_transpose_adjoint π (hπ ▸ Equiv.symm_swap s t) _ _ _ _ Lb Rb Ob hRO hOR

end CorePhi

section Entry
variable {α : Type} [CommRing α] {ι : Type} [DecidableEq ι]

theorem mem_multiIndices_cons (n : ℕ) (sh : List ℕ) (i : ℕ) (a : List ℕ) :
    (i :: a) ∈ multiIndices (n :: sh) ↔ i < n ∧ a ∈ multiIndices sh := by
  simp only [multiIndices, List.mem_flatMap, List.mem_range, List.mem_map, List.cons.injEq]
  constructor
  · rintro ⟨j, hj, b, hb, rfl, rfl⟩; exact ⟨hj, hb⟩
  · rintro ⟨h1, h2⟩; exact ⟨i, h1, a, h2, rfl, rfl⟩

theorem entryAt_table (sh : List ℕ) (g : List ℕ → α) (oi : List ℕ) (h : oi ∈ multiIndices sh) :
    entryAt ⟨sh, (multiIndices sh).map g⟩ oi = g oi := by
  have hlen : ((multiIndices sh).map g).length = prodNat sh := by rw [List.length_map, multiIndices_length]
  exact (List.map_inj_left.1 (data_eq_map_entryAt ⟨sh, (multiIndices sh).map g⟩ hlen) oi h).symm

theorem envOf_lt (Ob : List ι) (d : ι → ℕ) (oi : List ℕ) (h : oi ∈ multiIndices (Ob.map d)) (c : ι)
    (hc : c ∈ Ob) : envOf Ob oi c < d c := by
  induction Ob generalizing oi with
  | nil => simp at hc
  | cons k ks ih =>
    cases oi with
    | nil => have := mem_multiIndices_length _ _ h; simp at this
    | cons v vs =>
      rw [List.map_cons, mem_multiIndices_cons] at h
      rw [envOf_cons]
      by_cases hck : c = k
      · subst hck; simpa using h.1
      · rw [Function.update_of_ne hck]
        exact ih vs h.2 (by simpa [hck] using hc)

theorem envOf_append (Ob S : List ι) (oi si : List ℕ) (hlen : oi.length = Ob.length) (c : ι) :
    envOf (Ob ++ S) (oi ++ si) c = if c ∈ Ob then envOf Ob oi c else envOf S si c := by
  induction Ob generalizing oi with
  | nil =>
    cases oi with
    | nil => simp
    | cons _ _ => simp at hlen
  | cons k ks ih =>
    cases oi with
    | nil => simp at hlen
    | cons v vs =>
      rw [List.cons_append, List.cons_append, envOf_cons, envOf_cons]
      by_cases hck : c = k
      · subst hck; simp
      · rw [Function.update_of_ne hck, Function.update_of_ne hck, ih vs (by simpa using hlen)]
        simp [hck]

/-- the assignment that reads the output labels in the output multi-index `oi` and the others in `τ` -/
def mixEnv (Ob : List ι) (oi : List ℕ) (τ : ι → ℕ) : ι → ℕ := fun c => if c ∈ Ob then envOf Ob oi c else τ c

variable [Fintype ι]

/-- **the entries of the output**: on shapes that fit `d` exactly, the entry at a valid output multi-index `oi` is
the sum, over all assignments `τ` of an index below `d c` to every summed label `c` (the other labels are pinned
to 0 in `τ` and read in `oi`), of `B[σ Lb] · x[σ Rb]` with `σ = mixEnv Ob oi τ` -/
theorem einsumCore_entry (Lb Rb Ob : List ι) (d : ι → ℕ) (B x : Tensor α)
    (hB : B.shape = Lb.map d) (hx : x.shape = Rb.map d) (hO : Ob.Nodup)
    (hsub : ∀ c ∈ Ob, c ∈ Lb ++ Rb) :
    ∃ out, einsumCore Lb Rb Ob B x = .ok out ∧ ∀ oi ∈ multiIndices (Ob.map d),
      entryAt out oi = ∑ τ ∈ Fintype.piFinset (fun c => range (if c ∈ sumLabels Lb Rb Ob then d c else 1)),
        entryAt B (Lb.map (mixEnv Ob oi τ)) * entryAt x (Rb.map (mixEnv Ob oi τ)) := by
  refine ⟨_, einsumCore_fit Lb Rb Ob d B x hB hx hO hsub, fun oi hoi => ?_⟩
  have hSnd : (sumLabels Lb Rb Ob).Nodup := nodup_eraseDups _
  have hSmem := mem_sumLabels Lb Rb Ob
  generalize sumLabels Lb Rb Ob = S at hSnd hSmem ⊢
  rw [entryAt_table _ _ oi hoi]
  change sumMI (S.map d) _ = _
  have hlen : oi.length = Ob.length := (mem_multiIndices_length _ _ hoi).trans (List.length_map _)
  -- the sizes of the summed labels, 1 elsewhere
  let dS : ι → ℕ := fun c => if c ∈ S then d c else 1
  have hmap : S.map dS = S.map d := List.map_congr_left fun c hc => if_pos hc
  refine Eq.trans ?_ (sum_piFinset_eq_sumMI S hSnd dS (fun c hc => if_neg hc)
    (fun τ => entryAt B (Lb.map (mixEnv Ob oi τ)) * entryAt x (Rb.map (mixEnv Ob oi τ)))).symm
  rw [hmap]
  refine sumMI_congr _ _ _ fun si hsi => ?_
  have henv : envOf (Ob ++ S) (oi ++ si) = mixEnv Ob oi (envOf S si) := funext (envOf_append Ob S oi si hlen)
  have hbound : ∀ c ∈ Lb ++ Rb, mixEnv Ob oi (envOf S si) c < d c := by
    intro c hc
    unfold mixEnv
    split
    · exact envOf_lt Ob d oi hoi c ‹_›
    · exact envOf_lt S d si hsi c ((hSmem c).2 ⟨hc, ‹_›⟩)
  simp only [henv]
  rw [hB, hx, opIndex_fit Lb d _ fun c hc => hbound c (List.mem_append_left _ hc),
    opIndex_fit Rb d _ fun c hc => hbound c (List.mem_append_right _ hc)]

end Entry

section Relabel
variable {ι κ : Type} [DecidableEq ι] [DecidableEq κ] (f : ι → κ) (hf : Function.Injective f)
include hf

theorem beq_map (a b : ι) : (f a == f b) = (a == b) := by
  rw [Bool.eq_iff_iff, beq_iff_eq, beq_iff_eq]
  exact hf.eq_iff

theorem contains_map (l : List ι) (a : ι) : (l.map f).contains (f a) = l.contains a := by
  simp only [List.contains_eq_mem, List.mem_map_of_injective hf]

theorem dimOf_map (dims : List (ι × ℕ)) (ℓ : ι) :
    dimOf (dims.map (Prod.map f id)) (f ℓ) = dimOf dims ℓ := by
  induction dims with
  | nil => rfl
  | cons p ps ih =>
    rw [List.map_cons, dimOf_cons, dimOf_cons, ih]
    simp only [Prod.map_fst, Prod.map_snd, id, beq_map f hf]

theorem compatible_map (dims : List (ι × ℕ)) :
    compatible (dims.map (Prod.map f id)) = compatible dims := by
  simp only [compatible, List.all_map, Function.comp_def, Prod.map_fst, Prod.map_snd, id, dimOf_map f hf]

theorem diagOK_map (dims : List (ι × ℕ)) : diagOK (dims.map (Prod.map f id)) = diagOK dims := by
  simp only [diagOK, List.all_map, Function.comp_def, Prod.map_fst, Prod.map_snd, id, bne, beq_map f hf]

theorem nodupB_map (l : List ι) : nodupB (l.map f) = nodupB l := by
  induction l with
  | nil => rfl
  | cons a as ih => simp only [List.map_cons, nodupB, contains_map f hf, ih]

omit hf [DecidableEq ι] [DecidableEq κ] in
theorem dimsOf_map (Lb Rb : List ι) (bs xs : List ℕ) :
    dimsOf (Lb.map f) (Rb.map f) bs xs = (dimsOf Lb Rb bs xs).map (Prod.map f id) := by
  simp [dimsOf, List.zip_map_left]

theorem coreOK_map (Lb Rb Ob : List ι) (bs xs : List ℕ) :
    coreOK (Lb.map f) (Rb.map f) (Ob.map f) bs xs = coreOK Lb Rb Ob bs xs := by
  unfold coreOK
  rw [dimsOf_map, compatible_map f hf, nodupB_map f hf, List.zip_map_left, List.zip_map_left,
    diagOK_map f hf, diagOK_map f hf, List.all_map, ← List.map_append]
  simp only [List.length_map, Function.comp_def, contains_map f hf]

theorem sumLabels_map (Lb Rb Ob : List ι) :
    sumLabels (Lb.map f) (Rb.map f) (Ob.map f) = (sumLabels Lb Rb Ob).map f := by
  unfold sumLabels
  rw [← List.map_append, List.filter_map, eraseDups_map f hf]
  congr 2
  apply List.filter_congr
  intro b _
  simp only [Function.comp, contains_map f hf]

theorem envOf_map (keys : List ι) (vals : List ℕ) (ℓ : ι) :
    envOf (keys.map f) vals (f ℓ) = envOf keys vals ℓ := by
  induction keys generalizing vals with
  | nil => simp [envOf]
  | cons k ks ih =>
    cases vals with
    | nil => simp [envOf]
    | cons v vs =>
      rw [List.map_cons, envOf_cons, envOf_cons]
      by_cases h : ℓ = k
      · subst h; simp
      · have : f ℓ ≠ f k := fun h' => h (hf h')
        rw [Function.update_of_ne this, Function.update_of_ne h, ih]

omit hf [DecidableEq ι] [DecidableEq κ] in
theorem opIndex_map (Lb : List ι) (sh : List ℕ) (env : κ → ℕ) :
    opIndex (Lb.map f) sh env = opIndex Lb sh (env ∘ f) := by
  unfold opIndex
  rw [List.zip_map_left, List.map_map]
  rfl

variable {α : Type} [Zero α] [Add α] [Mul α]

theorem coreEntry_map (Lb Rb Ob S : List ι) (ss : List ℕ) (B x : Tensor α) :
    coreEntry (Lb.map f) (Rb.map f) (Ob.map f) (S.map f) ss B x = coreEntry Lb Rb Ob S ss B x := by
  funext oi
  unfold coreEntry
  congr 1
  apply List.map_congr_left
  intro si _
  have : envOf (List.map f (Ob ++ S)) (oi ++ si) ∘ f = envOf (Ob ++ S) (oi ++ si) :=
    funext (envOf_map f hf _ _)
  simp only [opIndex_map, ← List.map_append, this]

theorem coreOut_map (Lb Rb Ob : List ι) (B x : Tensor α) :
    coreOut (Lb.map f) (Rb.map f) (Ob.map f) B x = coreOut Lb Rb Ob B x := by
  have : dimOf (dimsOf (Lb.map f) (Rb.map f) B.shape x.shape) ∘ f = dimOf (dimsOf Lb Rb B.shape x.shape) := by
    rw [dimsOf_map]
    exact funext (dimOf_map f hf _)
  simp only [coreOut, sumLabels_map f hf, List.map_map, this, coreEntry_map f hf]

/-- **relabelling**: the kernel depends on the labels only through their equalities -/
theorem einsumCore_map (Lb Rb Ob : List ι) (B x : Tensor α) :
    einsumCore (Lb.map f) (Rb.map f) (Ob.map f) B x = einsumCore Lb Rb Ob B x := by
  simp only [einsumCore_eq, coreOK_map f hf, coreOut_map f hf]

end Relabel

section CoreAdjoint
variable {α : Type} [CommRing α] {ι : Type} [DecidableEq ι]

theorem map_map_swap {κ : Type} [DecidableEq κ] (f : κ → ι) (hf : Function.Injective f) (a b : κ) (l : List κ) :
    (l.map f).map (Equiv.swap (f a) (f b)) = (l.map (Equiv.swap a b)).map f := by
  rw [List.map_map, List.map_map]
  exact List.map_congr_left fun c _ => hf.swap_apply a b c

/-- **the adjoint theorem for the kernel on labelled dimensions.**  `s`, `t` are two labels of the blocks, `t` is
not a label of the input, and the swap of `s` and `t` sends the labels of the input to the labels of the output.
Then the kernel with the two labels swapped in the block labels, on the same block data, is the adjoint. -/
theorem einsumCore_adjoint (Lb Rb Ob : List ι) (s t : ι) (hsl : s ∈ Lb) (htl : t ∈ Lb) (htr : t ∉ Rb)
    (hRO : Rb.map (Equiv.swap s t) = Ob) (hO : Ob.Nodup)
    (d : ι → ℕ) (B x y : Tensor α) (hB : B.shape = Lb.map d) (hx : x.shape = Rb.map d)
    (hy : y.shape = Ob.map d) (hxw : x.data.length = prodNat x.shape)
    (hyw : y.data.length = prodNat y.shape) :
    ∃ out1 out2, einsumCore Lb Rb Ob B x = .ok out1 ∧
      einsumCore (Lb.map (Equiv.swap s t)) Rb Ob B y = .ok out2 ∧
      out1.shape = y.shape ∧ out2.shape = x.shape ∧ tdot out1 y = tdot x out2 := by
  -- the labels that occur form a finite type; the kernel does not see the difference (`einsumCore_map`)
  obtain ⟨A, hLA, hRA, hOA⟩ : ∃ A : List ι, (∀ c ∈ Lb, c ∈ A) ∧ (∀ c ∈ Rb, c ∈ A) ∧ ∀ c ∈ Ob, c ∈ A :=
    ⟨Lb ++ Rb ++ Ob, fun _ h => List.mem_append_left _ (List.mem_append_left _ h),
      fun _ h => List.mem_append_left _ (List.mem_append_right _ h), fun _ h => List.mem_append_right _ h⟩
  have lift : ∀ l : List ι, (∀ c ∈ l, c ∈ A) → ∃ k : List { c // c ∈ A }, k.map Subtype.val = l :=
    fun l h => ⟨l.pmap Subtype.mk h, by simp [List.map_pmap]⟩
  obtain ⟨Lk, rfl⟩ := lift Lb hLA
  obtain ⟨Rk, rfl⟩ := lift Rb hRA
  obtain ⟨Ok, rfl⟩ := lift Ob hOA
  obtain ⟨sk, hsk, rfl⟩ := List.mem_map.1 hsl
  obtain ⟨tk, htk, rfl⟩ := List.mem_map.1 htl
  have hv : Function.Injective (Subtype.val : { c // c ∈ A } → ι) := Subtype.val_injective
  simp only [map_map_swap _ hv, einsumCore_map _ hv] at hRO ⊢
  rw [List.map_map] at hB hx hy
  exact einsumCore_adjoint_fintype Lk Rk Ok sk tk hsk htk (fun h => htr (List.mem_map_of_mem h))
    (List.map_injective_iff.2 hv hRO) (List.Nodup.of_map _ hO) (d ∘ Subtype.val) B x y hB hx hy hxw hyw

end CoreAdjoint

section Letters

theorem char_toFin_injective :
    Function.Injective (fun c : Char => (⟨c.toNat, c.val.toNat_lt⟩ : Fin (2 ^ 32))) := by
  intro a b h
  have h' : a.toNat = b.toNat := by simpa using congrArg Fin.val h
  rw [← Char.ofNat_toNat (c := a), ← Char.ofNat_toNat (c := b), h']

/-- the characters form a finite alphabet (needed to speak of `Phi` over `Char`).  Scoped: as a global instance
it would be picked by `decide` for `∀ c ∈ l, …` and get stuck. -/
noncomputable scoped instance CharAlphabet.instFintypeChar : Fintype Char :=
  Fintype.ofInjective _ char_toFin_injective

/-- the letters-only hypothesis in Boolean form (for `decide`) -/
theorem allLetters_iff (l : List Char) : (∀ c ∈ l, isLetter c = true) ↔ l.all isLetter = true := by
  simp

theorem parseTermAux_cons_letter (c : Char) (cs : List Char) (t : Term) (h : isLetter c = true) :
    parseTermAux (c :: cs) t = parseTermAux cs (t.push c) := by
  conv_lhs => unfold parseTermAux
  simp only [h, if_true]

theorem parseTermAux_cons_blank (cs : List Char) (t : Term) : parseTermAux (' ' :: cs) t = parseTermAux cs t := by
  conv_lhs => unfold parseTermAux
  rfl

theorem parseTermAux_cons_dots (cs : List Char) (t : Term) (h : t.ell = false) :
    parseTermAux ('.' :: '.' :: '.' :: cs) t = parseTermAux cs { t with ell := true } := by
  conv_lhs => unfold parseTermAux
  simp [h, show isLetter '.' = false by decide]

theorem parseTermAux_letters (cs : List Char) (hcs : ∀ c ∈ cs, isLetter c = true) (p : List Char) :
    parseTermAux cs ⟨p, false, []⟩ = .ok ⟨p ++ cs, false, []⟩ := by
  induction cs generalizing p with
  | nil => simp [parseTermAux]
  | cons c cs ih =>
    rw [parseTermAux_cons_letter c cs _ (hcs c (by simp))]
    have : Term.push ⟨p, false, []⟩ c = ⟨p ++ [c], false, []⟩ := by simp [Term.push]
    rw [this, ih (fun c' h => hcs c' (by simp [h]))]
    simp

theorem parseTerm_letters (s : List Char) (hs : ∀ c ∈ s, isLetter c = true) :
    parseTerm s = .ok ⟨s, false, []⟩ := by
  unfold parseTerm
  rw [parseTermAux_letters s hs []]; rfl

theorem ch_injective : Function.Injective Lbl.ch := fun _ _ h => Lbl.ch.inj h

theorem plan_letters (dia : Dialect) (l r o : List Char) (hl : ∀ c ∈ l, isLetter c = true)
    (hr : ∀ c ∈ r, isLetter c = true) (ho : ∀ c ∈ o, isLetter c = true) (brank xrank : ℕ)
    (h1 : l.length = brank) (h2 : r.length = xrank) :
    plan dia l r o brank xrank = .ok ⟨l.map .ch, r.map .ch, o.map .ch⟩ := by
  unfold plan
  rw [parseTerm_letters l hl, parseTerm_letters r hr, parseTerm_letters o ho]
  simp [Term.ellRank, Term.nLetters, h1, h2, Term.labels, bind, Except.bind, pure, Except.pure]

variable {α : Type} [Zero α] [Add α] [Mul α]

/-- **letters only: `einsumTerms` is the kernel on the letters themselves** -/
theorem einsumTerms_letters (dia : Dialect) (l r o : List Char) (hl : ∀ c ∈ l, isLetter c = true)
    (hr : ∀ c ∈ r, isLetter c = true) (ho : ∀ c ∈ o, isLetter c = true) (B x : Tensor α)
    (h1 : l.length = B.shape.length) (h2 : r.length = x.shape.length) :
    einsumTerms dia l r o B x = einsumCore l r o B x := by
  unfold einsumTerms
  rw [plan_letters dia l r o hl hr ho B.rank x.rank h1 h2]
  simp only [bind, Except.bind]
  exact einsumCore_map Lbl.ch ch_injective l r o B x

end Letters

section LettersPhi
open scoped CharAlphabet
variable {α : Type} [CommRing α]

/-- **The entries of the executable kernel.**  Letters-only terms `l,r->o`, operands whose shapes are the
sizes `d` of their letters, an output term without repetition whose letters occur in the inputs: the entry of
`einsumTerms dia l r o B x` at a valid output multi-index `oi` is the sum over the assignments `τ` of the summed
letters (those of `l`, `r` that are not in `o`) of `B[σ l] · x[σ r]`, where `σ` reads the output letters in `oi`
and the summed letters in `τ`. -/
theorem einsumTerms_entry (dia : Dialect) (l r o : List Char) (hl : ∀ c ∈ l, isLetter c = true)
    (hr : ∀ c ∈ r, isLetter c = true) (ho : ∀ c ∈ o, isLetter c = true) (d : Char → ℕ)
    (B x : Tensor α) (hB : B.shape = l.map d) (hx : x.shape = r.map d) (hO : o.Nodup)
    (hsub : ∀ c ∈ o, c ∈ l ++ r) :
    ∃ out, einsumTerms dia l r o B x = .ok out ∧ ∀ oi ∈ multiIndices (o.map d),
      entryAt out oi = ∑ τ ∈ Fintype.piFinset (fun c => range (if c ∈ sumLabels l r o then d c else 1)),
        entryAt B (l.map (mixEnv o oi τ)) * entryAt x (r.map (mixEnv o oi τ)) := by
  rw [einsumTerms_letters dia l r o hl hr ho B x (by rw [hB, List.length_map]) (by rw [hx, List.length_map])]
  exact einsumCore_entry l r o d B x hB hx hO hsub

end LettersPhi

section Strings
variable {α : Type} [Zero α] [Add α] [Mul α]

/-- the labelling of the dimensions, from the subscripts string and the two ranks -/
def planOf (dia : Dialect) (subs : String) (m n : ℕ) : Except PyErr Plan := do
  let (l, r, o) ← parseSubscripts subs
  plan dia l.toList r.toList o.toList m n

theorem einsum2With_eq (dia : Dialect) (subs : String) (B x : Tensor α) :
    einsum2With dia subs B x
      = planOf dia subs B.shape.length x.shape.length >>= fun p => einsumCore p.Lb p.Rb p.Ob B x := by
  unfold einsum2With planOf einsumTerms Tensor.rank
  cases parseSubscripts subs <;> rfl

theorem outShape_eq (subs : String) (bs xs : List ℕ) :
    outShape subs bs xs = planOf .numpy subs bs.length xs.length >>= fun p => coreShape p.Lb p.Rb p.Ob bs xs := by
  unfold outShape planOf outShapeTerms
  cases parseSubscripts subs <;> rfl

/-- `coreShape` is the shape of the kernel's output, and fails exactly when the kernel fails -/
theorem einsumCore_shape {ι : Type} [DecidableEq ι] (Lb Rb Ob : List ι) (B x : Tensor α) :
    (einsumCore Lb Rb Ob B x).map Tensor.shape = coreShape Lb Rb Ob B.shape x.shape := by
  rw [einsumCore_eq, coreShape]
  split <;> rfl

/-- **`outShape` is the shape of `einsum2`**, and fails exactly when `einsum2` fails -/
theorem einsum2_shape (subs : String) (B x : Tensor α) :
    (einsum2 subs B x).map Tensor.shape = outShape subs B.shape x.shape := by
  rw [einsum2, einsum2With_eq, outShape_eq]
  cases planOf .numpy subs B.shape.length x.shape.length with
  | error e => rfl
  | ok p => exact einsumCore_shape p.Lb p.Rb p.Ob B x

theorem parseSubscripts_error (s : String) : OnlyValueError (parseSubscripts s) := by
  unfold parseSubscripts
  split
  · split
    · exact .ok _
    · exact .valueError
  · exact .valueError

theorem parseTermAux_error (cs : List Char) (t : Term) : OnlyValueError (parseTermAux cs t) := by
  fun_induction parseTermAux cs t with
  | case1 => exact .ok _
  | case2 | case3 | case4 => assumption
  | case5 | case6 | case7 => exact .valueError

theorem ellRank_error (t : Term) (n : ℕ) : OnlyValueError (t.ellRank n) := by
  unfold Term.ellRank
  exact .ite (.ite (.ok _) .valueError) (.ite (.ok _) .valueError)

theorem plan_error (dia : Dialect) (l r o : List Char) (m n : ℕ) : OnlyValueError (plan dia l r o m n) := by
  unfold plan
  exact (parseTermAux_error l _).bind fun tl => (parseTermAux_error r _).bind fun tr =>
    (parseTermAux_error o _).bind fun tO => (ellRank_error tl m).bind fun nl =>
    (ellRank_error tr n).bind fun nr => .ite .valueError (.ok _)

/-- **every rejection of the kernel is a `ValueError`** (both dialects) -/
theorem einsum2With_error (dia : Dialect) (subs : String) (B x : Tensor α) :
    OnlyValueError (einsum2With dia subs B x) := by
  rw [einsum2With_eq]
  exact ((parseSubscripts_error subs).bind fun (l, r, o) => plan_error dia l.toList r.toList o.toList _ _).bind
    fun p => einsumCore_error p.Lb p.Rb p.Ob B x

theorem einsumCore_reject_repeated_output {ι : Type} [DecidableEq ι] (Lb Rb Ob : List ι) (B x : Tensor α)
    (h : ¬ Ob.Nodup) : einsumCore Lb Rb Ob B x = .error .valueError := by
  apply einsumCore_of_not_ok
  have : nodupB Ob = false := Bool.eq_false_iff.2 fun hn => h ((nodupB_iff Ob).1 hn)
  simp only [coreOK, this, Bool.and_false, Bool.false_and]

theorem einsumCore_reject_unknown_output {ι : Type} [DecidableEq ι] (Lb Rb Ob : List ι) (B x : Tensor α)
    (c : ι) (hc : c ∈ Ob) (h : c ∉ Lb ++ Rb) : einsumCore Lb Rb Ob B x = .error .valueError := by
  apply einsumCore_of_not_ok
  have : (Ob.all fun ℓ => (Lb ++ Rb).contains ℓ) = false :=
    List.all_eq_false.2 ⟨c, hc, by rwa [List.contains_eq_mem, decide_eq_true_eq]⟩
  simp only [coreOK, this, Bool.and_false, Bool.false_and]

end Strings

section Linear
variable {α : Type} [CommRing α]

/-- entrywise sum of two tensors of the same shape -/
def tadd (a b : Tensor α) : Tensor α := ⟨a.shape, List.zipWith (· + ·) a.data b.data⟩

/-- multiple of a tensor -/
def tsmul (c : α) (a : Tensor α) : Tensor α := ⟨a.shape, a.data.map (c * ·)⟩

theorem entryAt_tadd (x x' : Tensor α) (h : x'.data.length = x.data.length) (idx : List ℕ) :
    entryAt (tadd x x') idx = entryAt x idx + entryAt ⟨x.shape, x'.data⟩ idx := by
  simp only [entryAt, tadd, List.getD_eq_getElem?_getD, List.getElem?_zipWith]
  rcases Nat.lt_or_ge (ravelIdx x.shape idx) x.data.length with hk | hk
  · rw [List.getElem?_eq_getElem hk, List.getElem?_eq_getElem (h ▸ hk)]
    rfl
  · rw [List.getElem?_eq_none hk, List.getElem?_eq_none (h ▸ hk)]
    exact (add_zero 0).symm

theorem entryAt_tsmul (c : α) (x : Tensor α) (idx : List ℕ) :
    entryAt (tsmul c x) idx = c * entryAt x idx := by
  simp only [entryAt, tsmul, List.getD_eq_getElem?_getD, List.getElem?_map]
  cases x.data[ravelIdx x.shape idx]? <;> simp

variable {ι : Type} [DecidableEq ι]

theorem coreEntry_tadd (Lb Rb Ob S : List ι) (ss : List ℕ) (B x x' : Tensor α)
    (h : x'.data.length = x.data.length) (oi : List ℕ) :
    coreEntry Lb Rb Ob S ss B (tadd x x') oi
      = coreEntry Lb Rb Ob S ss B x oi + coreEntry Lb Rb Ob S ss B ⟨x.shape, x'.data⟩ oi := by
  unfold coreEntry
  rw [← List.sum_map_add]
  congr 1
  refine List.map_congr_left fun si _ => ?_
  exact (congrArg _ (entryAt_tadd x x' h _)).trans (mul_add _ _ _)

theorem coreEntry_tsmul (Lb Rb Ob S : List ι) (ss : List ℕ) (B x : Tensor α) (c : α) (oi : List ℕ) :
    coreEntry Lb Rb Ob S ss B (tsmul c x) oi = c * coreEntry Lb Rb Ob S ss B x oi := by
  unfold coreEntry
  rw [← List.sum_map_mul_left]
  congr 1
  refine List.map_congr_left fun si _ => ?_
  exact (congrArg _ (entryAt_tsmul c x _)).trans (mul_left_comm _ _ _)

theorem coreOut_tadd (Lb Rb Ob : List ι) (B x x' : Tensor α) (hs : x'.shape = x.shape)
    (hl : x'.data.length = x.data.length) :
    coreOut Lb Rb Ob B (tadd x x') = tadd (coreOut Lb Rb Ob B x) (coreOut Lb Rb Ob B x') := by
  obtain ⟨sh', dat'⟩ := x'
  subst hs
  simp only [coreOut, tadd, Tensor.mk.injEq, true_and]
  rw [List.zipWith_map, List.zipWith_self]
  exact List.map_congr_left fun oi _ => coreEntry_tadd Lb Rb Ob _ _ B x ⟨x.shape, dat'⟩ hl oi

theorem coreOut_tsmul (Lb Rb Ob : List ι) (B x : Tensor α) (c : α) :
    coreOut Lb Rb Ob B (tsmul c x) = tsmul c (coreOut Lb Rb Ob B x) := by
  simp only [coreOut, tsmul, Tensor.mk.injEq, true_and, List.map_map]
  exact List.map_congr_left fun oi _ => coreEntry_tsmul Lb Rb Ob _ _ B x c oi

/-- the kernel is additive in its second operand (acceptance depends on the shapes only) -/
theorem einsumCore_tadd (Lb Rb Ob : List ι) (B x x' : Tensor α) (hs : x'.shape = x.shape)
    (hl : x'.data.length = x.data.length) :
    einsumCore Lb Rb Ob B (tadd x x')
      = (do let o1 ← einsumCore Lb Rb Ob B x; let o2 ← einsumCore Lb Rb Ob B x'; pure (tadd o1 o2)) := by
  have e : (tadd x x').shape = x.shape := rfl
  rw [einsumCore_eq Lb Rb Ob B (tadd x x'), einsumCore_eq Lb Rb Ob B x, einsumCore_eq Lb Rb Ob B x', e, hs,
    coreOut_tadd Lb Rb Ob B x x' hs hl]
  cases coreOK Lb Rb Ob B.shape x.shape <;> rfl

theorem einsumCore_tsmul (Lb Rb Ob : List ι) (B x : Tensor α) (c : α) :
    einsumCore Lb Rb Ob B (tsmul c x) = (einsumCore Lb Rb Ob B x).map (tsmul c) := by
  have e : (tsmul c x).shape = x.shape := rfl
  rw [einsumCore_eq Lb Rb Ob B (tsmul c x), einsumCore_eq Lb Rb Ob B x, e, coreOut_tsmul]
  cases coreOK Lb Rb Ob B.shape x.shape <;> rfl

/-- `einsum2With dia subs B ·` is additive, for every subscripts string (ellipsis and broadcasting
included): the two summands have the same shape and as many values -/
theorem einsum2With_tadd (dia : Dialect) (subs : String) (B x x' : Tensor α) (hs : x'.shape = x.shape)
    (hl : x'.data.length = x.data.length) :
    einsum2With dia subs B (tadd x x')
      = (do let o1 ← einsum2With dia subs B x; let o2 ← einsum2With dia subs B x'; pure (tadd o1 o2)) := by
  have e : (tadd x x').shape = x.shape := rfl
  rw [einsum2With_eq dia subs B (tadd x x'), einsum2With_eq dia subs B x, einsum2With_eq dia subs B x', e, hs]
  cases planOf dia subs B.shape.length x.shape.length with
  | error e => rfl
  | ok p => exact einsumCore_tadd p.Lb p.Rb p.Ob B x x' hs hl

theorem einsum2With_tsmul (dia : Dialect) (subs : String) (B x : Tensor α) (c : α) :
    einsum2With dia subs B (tsmul c x) = (einsum2With dia subs B x).map (tsmul c) := by
  have e : (tsmul c x).shape = x.shape := rfl
  rw [einsum2With_eq dia subs B (tsmul c x), einsum2With_eq dia subs B x, e]
  cases planOf dia subs B.shape.length x.shape.length with
  | error e => rfl
  | ok p => exact einsumCore_tsmul p.Lb p.Rb p.Ob B x c

/-- success depends on the shapes only: the kernel accepts `x` iff it accepts any tensor of the same shape -/
theorem einsumCore_isOk_shape (Lb Rb Ob : List ι) (B x x' : Tensor α) (hs : x'.shape = x.shape) :
    (einsumCore Lb Rb Ob B x').isOk = (einsumCore Lb Rb Ob B x).isOk := by
  rw [einsumCore_eq, einsumCore_eq, hs]
  split <;> rfl

end Linear

end Einsum
end Furax
