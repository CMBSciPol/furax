/-
Lemmas for `IndexOperator` (FuraxModel/Index.lean, FuraxModel/IndexRule.lean):

A. the coverage computed by `TransposeIndexRule` (`ruleCoverage`) is the vector of selection
   multiplicities (`mult`) for every in-bounds integer index array.
B. `scatterAdd` is the exact adjoint of `gather`; `P Pᵀ = I` when no input element is selected
   twice; `Pᵀ P` is the diagonal of the selection multiplicities.

FuraxProofs/Lemmas/Pixel.lean is imported for its histogram lemmas: `sumCounts` and `coverage_eq` in part A,
`sum_range_indicator` in part B.
-/
import FuraxModel.Index
import FuraxProofs.Lemmas.Pixel
import Mathlib.Algebra.Ring.Defs
import Mathlib.Data.Nat.Cast.Basic
import Mathlib.Tactic.Ring
namespace Furax.Index
open Furax Furax.Landscape

theorem normIdx_range (n : Nat) (i : Int) (h : -(n : Int) ≤ i ∧ i < n) :
    0 ≤ normIdx n i ∧ normIdx n i < n := by
  unfold normIdx; split <;> omega

theorem normIdx_of_nonneg (n : Nat) (i : Int) (h : 0 ≤ i) : normIdx n i = i := by
  unfold normIdx; split <;> omega

theorem insertCount_spec (v : Int) (l : List (Int × Nat)) (hl : l.Pairwise fun a b => a.1 < b.1) :
    ((insertCount v l).Pairwise fun a b => a.1 < b.1) ∧
      ∀ u ∈ insertCount v l, u.1 = v ∨ ∃ u' ∈ l, u'.1 = u.1 := by
  induction l with
  | nil => exact ⟨List.pairwise_singleton _ _, fun u hu => .inl (by rw [List.mem_singleton.mp hu])⟩
  | cons w l ih =>
    obtain ⟨w, c⟩ := w
    obtain ⟨hw, hl'⟩ := List.pairwise_cons.mp hl
    rw [insertCount]
    split
    · -- `v < w`: a new entry in front
      rename_i hvw
      refine ⟨List.pairwise_cons.mpr ⟨fun b hb => ?_, hl⟩, fun u hu => ?_⟩
      · rcases List.mem_cons.mp hb with rfl | h
        · exact hvw
        · exact Int.lt_trans hvw (hw b h)
      · rcases List.mem_cons.mp hu with rfl | h
        · exact .inl rfl
        · exact .inr ⟨u, h, rfl⟩
    · split
      · -- `v = w`: the count of the head goes up
        rename_i h
        subst h
        refine ⟨List.pairwise_cons.mpr ⟨hw, hl'⟩, fun u hu => ?_⟩
        rcases List.mem_cons.mp hu with rfl | h
        · exact .inl rfl
        · exact .inr ⟨u, List.mem_cons_of_mem _ h, rfl⟩
      · -- `w < v`: insert into the tail
        obtain ⟨ih1, ih2⟩ := ih hl'
        refine ⟨List.pairwise_cons.mpr ⟨fun b hb => ?_, ih1⟩, fun u hu => ?_⟩
        · rcases ih2 b hb with h | ⟨u', hu', e⟩
          · simp only; omega
          · rw [← e]; exact hw u' hu'
        · rcases List.mem_cons.mp hu with rfl | h
          · exact .inr ⟨(w, c), List.mem_cons_self, rfl⟩
          · rcases ih2 u h with h' | ⟨u', hu', e⟩
            · exact .inl h'
            · exact .inr ⟨u', List.mem_cons_of_mem _ hu', e⟩

theorem uniqueCounts_spec (xs : List Int) :
    ((uniqueCounts xs).Pairwise fun a b => a.1 < b.1) ∧ ∀ u ∈ uniqueCounts xs, u.1 ∈ xs := by
  induction xs with
  | nil => exact ⟨List.Pairwise.nil, fun u hu => nomatch hu⟩
  | cons x xs ih =>
    obtain ⟨h1, h2⟩ := insertCount_spec x (uniqueCounts xs) ih.1
    refine ⟨h1, fun u hu => ?_⟩
    rcases h2 u hu with h | ⟨u', hu', e⟩
    · rw [h]; exact List.mem_cons_self
    · rw [← e]; exact List.mem_cons_of_mem _ (ih.2 u' hu')

theorem uniqueCounts_length_le (n : Nat) (xs : List Int) (h : ∀ i ∈ xs, 0 ≤ i ∧ i < (n : Int)) :
    (uniqueCounts xs).length ≤ n := by
  -- the values are pairwise distinct naturals below `n`
  have hb := fun u hu => h u.1 ((uniqueCounts_spec xs).2 u hu)
  have := nodup_length_le n ((uniqueCounts xs).map (·.1.toNat))
    (List.pairwise_map.mpr ((uniqueCounts_spec xs).1.imp_of_mem fun ha hb' hlt => by
      have := hb _ ha; have := hb _ hb'; omega))
    (fun a ha => by obtain ⟨u, hu, rfl⟩ := List.mem_map.mp ha; have := hb u hu; omega)
  rwa [List.length_map] at this

theorem sumCounts_append (a b : List (Int × Nat)) :
    sumCounts (a ++ b) = sumCounts a + sumCounts b := by
  simp [sumCounts]

theorem sumCounts_zero (l : List (Int × Nat)) (h : ∀ u ∈ l, u.2 = 0) : sumCounts l = 0 := by
  induction l with
  | nil => simp [sumCounts]
  | cons u l ih =>
    have h1 := h u List.mem_cons_self
    have h2 := ih fun v hv => h v (List.mem_cons_of_mem _ hv)
    simp only [sumCounts, List.map_cons, List.sum_cons] at h2 ⊢
    omega

/-- the `fill_value` entries `(-1, 0)` of `unique(size=n)` carry count zero and change nothing -/
theorem scatterAddCounts_append_pad (n : Nat) (u : List (Int × Nat)) (k : Nat) (f : Int) :
    scatterAddCounts n (u ++ List.replicate k (f, 0)) = scatterAddCounts n u := by
  unfold scatterAddCounts
  apply List.map_congr_left
  intro p _
  rw [foldl_counts, foldl_counts, List.filter_append, sumCounts_append]
  have : sumCounts ((List.replicate k (f, 0)).filter
      fun (u : Int × Nat) => decide (normIdx n u.1 = Int.ofNat p)) = 0 := by
    apply sumCounts_zero
    intro v hv
    have := (List.mem_filter.mp hv).1
    rw [List.eq_of_mem_replicate this]
  omega

/-- `unique(size=n, fill_value=-1)` neither truncates nor changes the scatter-add when all values are in
`[0, n)` -/
theorem scatterAddCounts_uniqueSized (n : Nat) (xs : List Int) (h : ∀ i ∈ xs, 0 ≤ i ∧ i < (n : Int)) :
    scatterAddCounts n (uniqueSized xs n) = scatterAddCounts n (uniqueCounts xs) := by
  unfold uniqueSized
  simp only
  rw [List.take_of_length_le (uniqueCounts_length_le n xs h), scatterAddCounts_append_pad]

theorem mult_map_normIdx (n : Nat) (index : List Int) (h : ∀ i ∈ index, -(n : Int) ≤ i ∧ i < n) :
    mult n (index.map (normIdx n)) = mult n index := by
  unfold mult
  apply List.map_congr_left
  intro p _
  rw [List.filter_map, List.length_map]
  congr 1
  apply List.filter_congr
  intro i hi
  simp only [Function.comp_apply, normIdx_of_nonneg n _ (normIdx_range n i (h i hi)).1]

/-- **Coverage rule.** For every in-bounds integer index array (negative and repeated entries
allowed) the diagonal computed by `TransposeIndexRule` is the vector of selection multiplicities. -/
theorem ruleCoverage_eq_mult (n : Nat) (index : List Int)
    (h : ∀ i ∈ index, -(n : Int) ≤ i ∧ i < n) : ruleCoverage n index = mult n index := by
  unfold ruleCoverage
  rw [scatterAddCounts_uniqueSized, ← mult_map_normIdx n index h]
  · exact coverage_eq n _
  intro i hi
  obtain ⟨j, hj, e⟩ := List.mem_map.mp hi
  rw [← e]
  exact normIdx_range n j (h j hj)

section AddMonoid
variable {α : Type} [AddMonoid α]

/-- the value accumulated at position `p` -/
def bucket (pos : List Nat) (y : List α) (p : Nat) : α :=
  (((pos.zip y).filter fun (q : Nat × α) => q.1 == p).map (·.2)).sum

theorem foldl_add_snd (l : List (Nat × α)) (a : α) :
    l.foldl (fun acc (q : Nat × α) => acc + q.2) a = a + (l.map (·.2)).sum := by
  induction l generalizing a with
  | nil => simp
  | cons q l ih => simp only [List.foldl_cons, ih, List.map_cons, List.sum_cons, add_assoc]

theorem scatterAdd_eq (n : Nat) (pos : List Nat) (y : List α) :
    scatterAdd n pos y = (List.range n).map (bucket pos y) := by
  unfold scatterAdd
  apply List.map_congr_left
  intro p _
  rw [foldl_add_snd, zero_add]
  rfl

theorem bucket_nil (y : List α) (p : Nat) : bucket [] y p = 0 := by
  simp [bucket]

theorem bucket_cons (a : Nat) (pos : List Nat) (b : α) (y : List α) (p : Nat) :
    bucket (a :: pos) (b :: y) p = (if a = p then b else 0) + bucket pos y p := by
  unfold bucket
  rw [List.zip_cons_cons, List.filter_cons]
  by_cases h : a = p <;> simp [h]

theorem bucket_not_mem (pos : List Nat) (y : List α) (p : Nat) (h : p ∉ pos) : bucket pos y p = 0 := by
  induction pos generalizing y with
  | nil => exact bucket_nil y p
  | cons a pos ih =>
    cases y with
    | nil => simp [bucket]
    | cons b y =>
      rw [bucket_cons, ih y (fun hp => h (List.mem_cons_of_mem _ hp))]
      have : a ≠ p := fun e => h (by rw [e]; exact List.mem_cons_self)
      simp [this]

omit [AddMonoid α] in
theorem gather_length [Inhabited α] (pos : List Nat) (x : List α) :
    (gather pos x).length = pos.length := by
  simp [gather]

theorem scatterAdd_length (n : Nat) (pos : List Nat) (y : List α) :
    (scatterAdd n pos y).length = n := by
  simp [scatterAdd]

theorem gather_scatterAdd [Inhabited α] (n : Nat) (pos : List Nat) (y : List α)
    (hpos : ∀ p ∈ pos, p < n) :
    gather pos (scatterAdd n pos y) = pos.map (bucket pos y) := by
  unfold gather
  apply List.map_congr_left
  intro p hp
  rw [scatterAdd_eq, Axes.ma_getD_map_range n _ p (hpos p hp)]

theorem map_bucket_nodup (pos : List Nat) (y : List α) (hnd : pos.Nodup)
    (hy : y.length = pos.length) : pos.map (bucket pos y) = y := by
  induction pos generalizing y with
  | nil =>
    cases y with
    | nil => rfl
    | cons b y => simp at hy
  | cons a pos ih =>
    cases y with
    | nil => simp at hy
    | cons b y =>
      obtain ⟨ha, hnd'⟩ := List.nodup_cons.mp hnd
      simp only [List.length_cons, Nat.add_right_cancel_iff] at hy
      rw [List.map_cons, bucket_cons, bucket_not_mem pos y a ha]
      simp only [if_true, add_zero]
      congr 1
      rw [← ih y hnd' hy]
      apply List.map_congr_left
      intro p hp
      rw [bucket_cons, ih y hnd' hy]
      have : a ≠ p := fun e => ha (by rw [e]; exact hp)
      simp [this]

/-- **`P Pᵀ = I`** when no input element is selected twice. -/
theorem gather_scatter_id [Inhabited α] (n : Nat) (pos : List Nat) (y : List α)
    (hnd : pos.Nodup) (hpos : ∀ p ∈ pos, p < n) (hy : y.length = pos.length) :
    gather pos (scatterAdd n pos y) = y := by
  rw [gather_scatterAdd n pos y hpos, map_bucket_nodup pos y hnd hy]

end AddMonoid

section Semiring
variable {α : Type} [CommSemiring α]

theorem eq_range_map_getD (n : Nat) (x : List α) (hx : x.length = n) :
    x = (List.range n).map fun p => x.getD p 0 := by
  subst hx
  exact (Axes.ma_map_getD_range x).symm

theorem inner_scatterAdd (n : Nat) (pos : List Nat) (y x : List α) (hx : x.length = n) :
    (((scatterAdd n pos y).zip x).map fun p => p.1 * p.2).sum
      = ((List.range n).map fun p => bucket pos y p * x.getD p 0).sum := by
  rw [scatterAdd_eq]
  conv => lhs; rw [eq_range_map_getD n x hx]
  rw [List.zip_map', List.map_map]
  rfl

/-- **Adjointness** `⟨P x, y⟩ = ⟨x, Pᵀ y⟩`: the scatter-add is the exact transpose of the gather. -/
theorem scatter_adjoint [Inhabited α] (n : Nat) (pos : List Nat) (y x : List α)
    (hpos : ∀ p ∈ pos, p < n) (hy : y.length = pos.length) (hx : x.length = n) :
    (((gather pos x).zip y).map fun p => p.1 * p.2).sum
      = (((scatterAdd n pos y).zip x).map fun p => p.1 * p.2).sum := by
  rw [inner_scatterAdd n pos y x hx]
  induction pos generalizing y with
  | nil => simp only [bucket_nil, zero_mul, sum_map_zero']; rfl
  | cons a pos ih =>
    cases y with
    | nil => simp at hy
    | cons b y =>
      simp only [List.length_cons, Nat.add_right_cancel_iff] at hy
      have ha : a < n := hpos a List.mem_cons_self
      have ih' := ih y (fun p hp => hpos p (List.mem_cons_of_mem _ hp)) hy
      have e : (fun p => bucket (a :: pos) (b :: y) p * x.getD p 0)
          = fun p => (if a = p then b * x.getD p 0 else 0) + bucket pos y p * x.getD p 0 := by
        funext p
        rw [bucket_cons]
        by_cases h : a = p <;> simp [h, add_mul]
      rw [e, sum_map_add', sum_range_indicator, ← ih']
      have hax : a < x.length := by omega
      simp only [gather, List.map_cons, List.zip_cons_cons, List.sum_cons, if_pos ha,
        List.getD_eq_getElem _ _ hax]
      ring

theorem bucket_gather [Inhabited α] (pos : List Nat) (x : List α) (hpos : ∀ p ∈ pos, p < x.length)
    (p : Nat) : bucket pos (gather pos x) p = (pos.count p : α) * x.getD p 0 := by
  induction pos with
  | nil => simp [bucket_nil]
  | cons a pos ih =>
    have ha : a < x.length := hpos a List.mem_cons_self
    have ih' := ih fun q hq => hpos q (List.mem_cons_of_mem _ hq)
    have e : gather (a :: pos) x = x.getD a default :: gather pos x := rfl
    rw [e, bucket_cons, ih', List.count_cons]
    by_cases h : a = p
    · subst h
      simp only [if_true, beq_self_eq_true, Nat.cast_add, Nat.cast_one,
        List.getD_eq_getElem _ _ ha]
      ring
    · have : (a == p) = false := by simpa using h
      simp [h, this]

/-- **`Pᵀ P` is the diagonal of the selection multiplicities.** -/
theorem scatter_gather_mult [Inhabited α] (n : Nat) (pos : List Nat) (x : List α)
    (hpos : ∀ p ∈ pos, p < n) (hx : x.length = n) :
    scatterAdd n pos (gather pos x)
      = (List.range n).map fun p => (pos.count p : α) * x.getD p 0 := by
  rw [scatterAdd_eq]
  apply List.map_congr_left
  intro p _
  exact bucket_gather pos x (fun q hq => hx ▸ hpos q hq) p

end Semiring

end Furax.Index
