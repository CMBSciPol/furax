/-
Indexing without integer arrays never selects an element twice (property C12), for every indices tuple for which
`IndexOperator.__init__` infers `unique_indices = True`: integers, slices, one ellipsis and boolean masks.

The selectors of such a tuple are integers, duplicate-free in-bounds slices and, for every mask, the columns of
`nonzero(mask)`, which tell the `True` entries of the mask apart (`GroupInj`).  With a mask present the broadcast
shape of the array selectors is `[N]`, `N` the number of `True` entries.  The output dimension descriptors
(`DescsSpec`) then make the map from output to input multi-indices injective coordinate by coordinate, and
`positions_of_injective` applies.  The tuples without mask are the special case `arr = false`.
-/
import FuraxProofs.Lemmas.BasicIndexNodup
namespace Furax.Index
open Furax Furax.Axes Furax.ListSem

/-- a basic (non-array) entry of an index tuple: an integer, a slice or the ellipsis -/
def _root_.Furax.IdxEntry.isBasic : IdxEntry → Bool
  | .int _ | .slice .. | .ellipsis => true
  | _ => false

/-- an entry for which `IndexOperator.__init__` infers `unique_indices = True`: anything but an integer array -/
def _root_.Furax.IdxEntry.isNoIarr : IdxEntry → Bool
  | .iarr .. => false
  | _ => true

theorem isNoIarr_iff (e : IdxEntry) : e.isNoIarr = true ↔ e.isBasic = true ∨ ∃ sh v, e = .barr sh v := by
  cases e with
  | iarr sh v =>
    refine ⟨fun h => (by cases h), fun h => ?_⟩
    rcases h with h | ⟨_, _, h⟩ <;> cases h
  | barr sh v => exact ⟨fun _ => .inr ⟨sh, v, rfl⟩, fun _ => rfl⟩
  | _ => exact ⟨fun _ => .inl rfl, fun _ => rfl⟩

/-- the columns of a boolean mask with `n` `True` entries tell them apart: two different entries differ in some
column (whose values are non-negative) -/
def GroupInj (sels : List Sel) (n : Nat) : Prop :=
  ∀ b b', b < n → b' < n → b ≠ b' → ∃ vals, Sel.adv [n] vals ∈ sels ∧
    0 ≤ vals.getD b 0 ∧ 0 ≤ vals.getD b' 0 ∧ vals.getD b 0 ≠ vals.getD b' 0

/-- a selector of an index expression without integer arrays over a dimension of size `d`: an integer, a
duplicate-free list of in-bounds coordinates or, if `arr` (masks allowed), a column of a mask -/
def SelOK (arr : Bool) (sels : List Sel) (s : Sel) (d : Nat) : Prop :=
  match s with
  | .int _ => True
  | .slice l => l.Nodup ∧ ∀ x ∈ l, x < d
  | .adv sh _ => arr = true ∧ ∃ n, sh = [n] ∧ GroupInj sels n

/-- selector number `e` is a selector over dimension number `e` -/
def SelsOK (arr : Bool) (sels : List Sel) (shape : List Nat) : Prop :=
  ∀ e, e < sels.length → SelOK arr sels (sels.getD e (.int 0)) (shape.getD e 0)

theorem SelOK_mono (arr : Bool) (l l2 : List Sel) (s : Sel) (d : Nat) (h : SelOK arr l s d) :
    SelOK arr (l ++ l2) s d := by
  cases s with
  | int i => trivial
  | slice x => exact h
  | adv sh v =>
    obtain ⟨ha, n, h1, h2⟩ := h
    refine ⟨ha, n, h1, fun b b' hb hb' hne => ?_⟩
    obtain ⟨vals, hm, h3⟩ := h2 b b' hb hb' hne
    exact ⟨vals, List.mem_append_left _ hm, h3⟩

theorem SelsOK_append (arr : Bool) (l l2 : List Sel) (shape : List Nat) (h1 : SelsOK arr l shape)
    (h2 : ∀ k, k < l2.length → SelOK arr (l ++ l2) (l2.getD k (.int 0)) (shape.getD (l.length + k) 0)) :
    SelsOK arr (l ++ l2) shape := by
  intro e he
  by_cases hlt : e < l.length
  · rw [List.getD_append _ _ _ _ hlt]
    exact SelOK_mono arr l l2 _ _ (h1 e hlt)
  · rw [List.length_append] at he
    rw [List.getD_append_right _ _ _ _ (by omega)]
    have := h2 (e - l.length) (by omega)
    rwa [show l.length + (e - l.length) = e by omega] at this

theorem SelsOK.slice {arr : Bool} {sels : List Sel} {shape : List Nat} (h : SelsOK arr sels shape) {e : Nat}
    {l : List Nat} (he : e < sels.length) (hsl : sels.getD e (.int 0) = .slice l) :
    l.Nodup ∧ ∀ x ∈ l, x < shape.getD e 0 := by
  have := h e he
  rwa [hsl] at this

theorem SelsOK.adv {arr : Bool} {sels : List Sel} {shape : List Nat} (h : SelsOK arr sels shape) {sh : List Nat}
    {v : List Int} (hs : Sel.adv sh v ∈ sels) : arr = true ∧ ∃ n, sh = [n] ∧ GroupInj sels n := by
  obtain ⟨e, he, hse⟩ := List.getElem_of_mem hs
  have := h e he
  rwa [List.getD_eq_getElem _ _ he, hse] at this

/-- the `True` entries of a mask -/
def maskHits (sh : List Nat) (vals : List Bool) : List Nat :=
  (List.range (prodNat sh)).filter (fun k => vals.getD k false)

theorem maskNonzero_eq (sh : List Nat) (vals : List Bool) :
    maskNonzero sh vals = (List.range sh.length).map fun ax =>
      (maskHits sh vals).map fun k => Int.ofNat ((unravel sh k).getD ax 0) := rfl

theorem maskHits_lt (sh : List Nat) (vals : List Bool) (k : Nat) (hk : k ∈ maskHits sh vals) :
    k < prodNat sh := List.mem_range.mp (List.mem_filter.mp hk).1

/-- the first coordinate list of `maskNonzero` has one entry per `True` entry of the mask (a rank-0 mask has no
coordinate list, hence length `0`) -/
theorem maskN (sh : List Nat) (vals : List Bool) :
    ((maskNonzero sh vals).headD []).length = if sh.length = 0 then 0 else (maskHits sh vals).length := by
  rw [maskNonzero_eq]
  cases sh with
  | nil => rfl
  | cons d ds =>
    rw [List.length_cons, List.range_succ_eq_map, List.map_cons, List.headD_cons, List.length_map,
      if_neg (Nat.succ_ne_zero _)]

theorem mask_groupInj (sh : List Nat) (vals : List Bool) (pre : List Sel) :
    GroupInj (pre ++ (maskNonzero sh vals).map fun c => Sel.adv [((maskNonzero sh vals).headD []).length] c)
      ((maskNonzero sh vals).headD []).length := by
  intro b b' hb hb' hne
  rw [maskN] at hb hb' ⊢
  by_cases hsh : sh.length = 0
  · rw [if_pos hsh] at hb; omega
  · rw [if_neg hsh] at hb hb' ⊢
    have hk : (maskHits sh vals)[b] ≠ (maskHits sh vals)[b'] := fun h =>
      hne ((List.Nodup.getElem_inj_iff (List.nodup_range.filter _)).mp h)
    have hlt := maskHits_lt sh vals _ (List.getElem_mem hb)
    have hlt' := maskHits_lt sh vals _ (List.getElem_mem hb')
    have hu : unravel sh (maskHits sh vals)[b] ≠ unravel sh (maskHits sh vals)[b'] := by
      intro h
      apply hk
      rw [← (ma_unravel_valid sh _ hlt).2, ← (ma_unravel_valid sh _ hlt').2, h]
    obtain ⟨ax, hax, hd⟩ : ∃ ax, ax < sh.length ∧
        (unravel sh (maskHits sh vals)[b]).getD ax 0 ≠ (unravel sh (maskHits sh vals)[b']).getD ax 0 := by
      by_contra hcon
      exact hu (ext_getD (by rw [ma_unravel_length, ma_unravel_length]) fun ax h1 =>
        not_not.mp fun hd => hcon ⟨ax, by rwa [ma_unravel_length] at h1, hd⟩)
    have hcol : ∀ c (hc : c < (maskHits sh vals).length),
        ((maskHits sh vals).map fun k => Int.ofNat ((unravel sh k).getD ax 0)).getD c 0
          = Int.ofNat ((unravel sh (maskHits sh vals)[c]).getD ax 0) := by
      intro c hc
      rw [List.getD_eq_getElem _ _ (by rwa [List.length_map]), List.getElem_map]
    refine ⟨(maskHits sh vals).map fun k => Int.ofNat ((unravel sh k).getD ax 0), ?_, ?_, ?_, ?_⟩
    · apply List.mem_append_right
      rw [List.mem_map]
      exact ⟨_, List.mem_map.mpr ⟨ax, List.mem_range.mpr hax, rfl⟩, rfl⟩
    · rw [hcol b hb]
      exact Int.natCast_nonneg _
    · rw [hcol b' hb']
      exact Int.natCast_nonneg _
    · rw [hcol b hb, hcol b' hb']
      exact fun h => hd (Int.ofNat.inj h)

/-- number of input dimensions the entries span when the ellipsis stands for `fill` of them -/
def spanOf (fill : Nat) : List IdxEntry → Nat
  | [] => 0
  | .ellipsis :: es => fill + spanOf fill es
  | e :: es => consumed e + spanOf fill es

theorem spanOf_eq (fill : Nat) (es : List IdxEntry) :
    spanOf fill es = (es.map consumed).sum + fill * (es.filter (· == .ellipsis)).length := by
  induction es with
  | nil => rfl
  | cons e es ih =>
    rw [List.map_cons, List.sum_cons]
    by_cases he : e = .ellipsis
    · subst he
      rw [List.filter_cons_of_pos (by rfl), List.length_cons, Nat.mul_succ]
      show fill + spanOf fill es = 0 + _ + _
      omega
    · have hs : spanOf fill (e :: es) = consumed e + spanOf fill es := by
        cases e <;> first | rfl | exact absurd rfl he
      rw [hs, List.filter_cons_of_neg (by simpa using he)]
      omega

/-- `toSels` is its loop `toSels.go` on a tuple with exactly one ellipsis (appended if there is none), which spans
the whole shape -/
theorem toSels_ok (shape : List Nat) (idx : List IdxEntry) (sels : List Sel) (h : toSels shape idx = .ok sels) :
    ∃ fill idx', (∀ e ∈ idx', e ∈ idx ∨ e = .ellipsis) ∧ spanOf fill idx' = shape.length ∧
      toSels.go shape fill idx' 0 [] = .ok sels := by
  unfold toSels at h
  simp only at h
  split at h
  · cases h
  · split at h
    · cases h
    · refine ⟨_, _, ?_, ?_, h⟩
      · intro e he
        split at he
        · exact (List.mem_append.mp he).imp_right List.mem_singleton.mp
        · exact .inl he
      · rw [spanOf_eq]
        split
        · rename_i h0
          have e1 : ([IdxEntry.ellipsis].map consumed).sum = 0 := rfl
          have e2 : ([IdxEntry.ellipsis].filter (· == .ellipsis)).length = 1 := rfl
          rw [List.map_append, List.sum_append, List.filter_append, List.length_append, e1, e2,
            beq_iff_eq.mp h0]
          omega
        · rename_i h0
          have h1 : (idx.filter (· == .ellipsis)).length = 1 := by
            have : (idx.filter (· == .ellipsis)).length ≠ 0 := fun h => h0 (beq_iff_eq.mpr h)
            omega
          rw [h1]
          omega

/-- The invariant of the loop of `toSels`: the selectors collected so far are selectors over the dimensions
consumed so far.  With `arr = false` the entries are basic and no array selector is produced. -/
theorem go_sels (arr : Bool) (shape : List Nat) (fill : Nat) (es : List IdxEntry) (dim : Nat) (acc sels : List Sel)
    (hes : ∀ e ∈ es, e.isNoIarr = true ∧ (arr = false → e.isBasic = true)) (hacc : acc.length = dim)
    (hok : SelsOK arr acc.reverse shape) (h : toSels.go shape fill es dim acc = .ok sels) :
    SelsOK arr sels shape ∧ sels.length = dim + spanOf fill es := by
  induction es generalizing dim acc with
  | nil =>
    rw [toSels.go] at h
    injection h with h; subst h
    exact ⟨hok, by rw [List.length_reverse, hacc]; rfl⟩
  | cons e es ih =>
    -- every entry puts a block of selectors, one per dimension it consumes, in front of `acc`
    have step : ∀ (block : List Sel) (n : Nat), block.length = n →
        (∀ k, k < block.length →
          SelOK arr (acc.reverse ++ block) (block.getD k (.int 0)) (shape.getD (dim + k) 0)) →
        toSels.go shape fill es (dim + n) (block.reverse ++ acc) = .ok sels →
        SelsOK arr sels shape ∧ sels.length = dim + (n + spanOf fill es) := by
      rintro block _ rfl hblock hgo
      obtain ⟨h1, h2⟩ := ih (dim + block.length) _ (fun e he => hes e (List.mem_cons_of_mem _ he))
        (by rw [List.length_append, List.length_reverse, hacc]; omega)
        (by rw [List.reverse_append, List.reverse_reverse]
            exact SelsOK_append arr _ _ _ hok (by rwa [List.length_reverse, hacc])) hgo
      exact ⟨h1, by omega⟩
    have single : ∀ s : Sel, SelOK arr (acc.reverse ++ [s]) s (shape.getD dim 0) →
        ∀ k, k < [s].length → SelOK arr (acc.reverse ++ [s]) ([s].getD k (.int 0)) (shape.getD (dim + k) 0) := by
      intro s hs k hk
      obtain rfl : k = 0 := by simpa using hk
      exact hs
    have he := hes e List.mem_cons_self
    cases e with
    | int i =>
      rw [toSels.go] at h
      exact step [.int i] 1 rfl (single _ trivial) h
    | slice a b c =>
      rw [toSels.go] at h
      split at h
      · rename_i l hl
        exact step [.slice l] 1 rfl (single _ (sliceIndices_nodup a b c _ l hl)) h
      · cases h
    | ellipsis =>
      rw [toSels.go] at h
      refine step _ fill (by rw [List.length_map, List.length_range]) (fun k hk => ?_) h
      rw [List.getD_eq_getElem _ _ hk, List.getElem_map, List.getElem_range]
      exact ⟨List.nodup_range, fun x hx => List.mem_range.mp hx⟩
    | iarr sh v => cases he.1
    | barr sh v =>
      obtain rfl : arr = true := by
        cases arr
        · cases he.2 rfl
        · rfl
      rw [toSels.go] at h
      split at h
      · cases h
      · simp only at h
        refine step _ sh.length (by rw [List.length_map, maskNonzero_eq, List.length_map, List.length_range])
          (fun k hk => ?_) h
        rw [List.getD_eq_getElem _ _ hk, List.getElem_map]
        exact ⟨rfl, _, rfl, mask_groupInj sh v _⟩

theorem toSels_sels (arr : Bool) (shape : List Nat) (idx : List IdxEntry) (sels : List Sel)
    (hb : ∀ e ∈ idx, e.isNoIarr = true ∧ (arr = false → e.isBasic = true)) (h : toSels shape idx = .ok sels) :
    sels.length = shape.length ∧ SelsOK arr sels shape := by
  obtain ⟨fill, idx', hidx, hspan, hgo⟩ := toSels_ok shape idx sels h
  obtain ⟨h1, h2⟩ := go_sels arr shape fill idx' 0 [] sels (fun e he => by
    rcases hidx e he with he | rfl
    · exact hb e he
    · exact ⟨rfl, fun _ => rfl⟩) rfl (fun e he => by cases he) hgo
  exact ⟨by rw [h2, hspan, Nat.zero_add], h1⟩

theorem toSels_mask (shape : List Nat) (idx : List IdxEntry) (sels : List Sel)
    (hb : ∀ e ∈ idx, IdxEntry.isNoIarr e = true) (h : toSels shape idx = .ok sels) :
    sels.length = shape.length ∧ SelsOK true sels shape :=
  toSels_sels true shape idx sels (fun e he => ⟨hb e he, fun h => by cases h⟩) h

theorem broadcast_one_one (N n : Nat) :
    broadcastShapes [N] [n]
      = if N == n then some [N] else if N == 1 then some [n] else if n == 1 then some [N] else none := by
  unfold broadcastShapes
  simp only [List.length_singleton, Nat.max_self, Nat.sub_self, List.replicate_zero, List.nil_append,
    List.zip_cons_cons, List.zip_nil_right, List.mapM_cons, List.mapM_nil]
  split_ifs <;> rfl

/-- broadcasting two shapes of rank at most one gives one of them, the one of higher rank -/
theorem bstep (a b r : List Nat) (ha : a.length ≤ 1) (hb : b.length ≤ 1)
    (h : broadcastShapes a b = some r) :
    (r = a ∨ r = b) ∧ a.length ≤ r.length ∧ b.length ≤ r.length := by
  have hl := Furax.Diagonal.broadcastShapes_length a b r h
  refine ⟨?_, by omega, by omega⟩
  rcases a with _ | ⟨N, _ | _⟩
  · rw [broadcastShapes_nil] at h
    exact .inr (Option.some.inj h).symm
  · rcases b with _ | ⟨n, _ | _⟩
    · -- a shape of rank 0 is padded to `[1]`
      rw [Furax.Diagonal.broadcastShapes_pad [N] [] (Nat.zero_le _)] at h
      change broadcastShapes [N] [1] = _ at h
      rw [broadcast_one_one] at h
      split_ifs at h <;> exact .inl (Option.some.inj h).symm
    · rw [broadcast_one_one] at h
      split_ifs at h
      · exact .inl (Option.some.inj h).symm
      · exact .inr (Option.some.inj h).symm
      · exact .inl (Option.some.inj h).symm
    · exact absurd hb (by simp)
  · exact absurd ha (by simp)

theorem bshape_fold (L : List (List Nat)) (acc B : List Nat) (hL : ∀ sh ∈ L, sh.length ≤ 1)
    (hacc : acc.length ≤ 1)
    (h : L.foldlM (fun (acc : List Nat) sh => match broadcastShapes acc sh with
      | some r => (.ok r : Except PyErr (List Nat)) | none => .error .indexError) acc = .ok B) :
    (B = acc ∨ B ∈ L) ∧ acc.length ≤ B.length ∧ ∀ sh ∈ L, sh.length ≤ B.length := by
  induction L generalizing acc with
  | nil =>
    rw [List.foldlM_nil] at h
    injection h with h; subst h
    simp
  | cons sh rest ih =>
    rw [List.foldlM_cons] at h
    cases hbr : broadcastShapes acc sh with
    | none => rw [hbr] at h; cases h
    | some r =>
      rw [hbr] at h
      obtain ⟨h1, h2, h3⟩ := bstep acc sh r hacc (hL sh List.mem_cons_self) hbr
      have hr : r.length ≤ 1 := by
        rcases h1 with rfl | rfl
        · exact hacc
        · exact hL _ List.mem_cons_self
      obtain ⟨i1, i2, i3⟩ := ih r (fun s hs => hL s (List.mem_cons_of_mem _ hs)) hr h
      refine ⟨?_, by omega, ?_⟩
      · rcases i1 with rfl | i1
        · rcases h1 with rfl | rfl
          · left; rfl
          · right; exact List.mem_cons_self
        · right; exact List.mem_cons_of_mem _ i1
      · intro s hs
        rcases List.mem_cons.mp hs with rfl | hs
        · omega
        · exact i3 s hs

/-- with a mask present, the broadcast shape of the array selectors is `[N]`, the number of `True` entries of a
mask of the tuple -/
theorem bshape_mask (arr : Bool) (sels : List Sel) (shape : List Nat) (hok : SelsOK arr sels shape)
    (hA : hasArrOf sels = true) (B : List Nat) (h : bshapeOf (advShapesOf sels true) = .ok B) :
    ∃ N, B = [N] ∧ GroupInj sels N := by
  have hmem : ∀ sh ∈ advShapesOf sels true, sh = [] ∨ ∃ n, sh = [n] ∧ GroupInj sels n := by
    intro sh hsh
    obtain ⟨s, hs, hm⟩ := List.mem_filterMap.mp hsh
    cases s with
    | int i => exact .inl (Option.some.inj hm).symm
    | slice l => cases hm
    | adv sh' v =>
      cases hm
      exact .inr (hok.adv hs).2
  have hL : ∀ sh ∈ advShapesOf sels true, sh.length ≤ 1 := by
    intro sh hsh
    rcases hmem sh hsh with rfl | ⟨n, rfl, _⟩ <;> simp
  obtain ⟨h1, _, h3⟩ := bshape_fold _ [] B hL (by simp) h
  unfold hasArrOf at hA
  obtain ⟨s, hs, hsa⟩ := List.any_eq_true.mp hA
  cases s with
  | int i => simp at hsa
  | slice l => simp at hsa
  | adv sh v =>
    have hlen := h3 sh (List.mem_filterMap.mpr ⟨_, hs, rfl⟩)
    obtain ⟨_, n, rfl, _⟩ := hok.adv hs
    rcases h1 with rfl | h1
    · simp at hlen
    · rcases hmem B h1 with rfl | ⟨N, rfl, hN⟩
      · simp at hlen
      · exact ⟨N, rfl, hN⟩

/-- what the point analysis needs of the output dimension descriptors: at most one broadcast dimension (of size
`N`, the number of `True` entries the masks tell apart), every other descriptor stands for a slice selector, every
slice selector has exactly one descriptor -/
structure DescsSpec (sels : List Sel) (D : List (Option Nat × Nat)) (N : Nat) : Prop where
  kind : ∀ d ∈ D, d = (none, N) ∨
    ∃ e l, d = (some e, l.length) ∧ e < sels.length ∧ sels.getD e (.int 0) = .slice l
  cover : ∀ e l, e < sels.length → sels.getD e (.int 0) = .slice l → (some e, l.length) ∈ D
  uniq : (D.map (·.1)).Nodup
  group : (none, N) ∈ D → GroupInj sels N

theorem descs_valid {D : List (Option Nat × Nat)} {oi : List Nat} (hoi : List.Forall₂ (· < ·) oi (D.map (·.2)))
    (j : Nat) (hj : j < D.length) : oi.getD j 0 < (D.getD j (none, 0)).2 := by
  have := ((forall2_lt_iff _ _).mp hoi).2 j (by rwa [List.length_map])
  rwa [List.getD_eq_getElem (D.map (·.2)) 0 (by rwa [List.length_map]), List.getElem_map,
    ← List.getD_eq_getElem D (none, 0) hj] at this

theorem filterMap_range_single {β : Type} (L j0 : Nat) (g : Nat → Option β) (v : β) (hj : j0 < L)
    (h0 : g j0 = some v) (hne : ∀ j, j < L → j ≠ j0 → g j = none) :
    (List.range L).filterMap g = [v] := by
  have hL : L = j0 + 1 + (L - j0 - 1) := by omega
  rw [hL, range_split, List.filterMap_append, List.filterMap_cons, h0,
    filterMap_eq_nil_of g (List.range j0), filterMap_eq_nil_of g]
  · rfl
  · intro b hb
    obtain ⟨k, hk, rfl⟩ := List.mem_map.mp hb
    have := List.mem_range.mp hk
    exact hne _ (by omega) (by omega)
  · intro b hb
    have := List.mem_range.mp hb
    exact hne _ (by omega) (by omega)

theorem ix_one (n b : Nat) (hb : b < n) : ravelIdx [n] (bcastIndex [n] [b]) = b := by
  show 0 * n + (if n == 1 then 0 else b) = b
  split
  · rename_i h
    have := beq_iff_eq.mp h
    omega
  · omega

section DescsSpec
variable {sels : List Sel} {D : List (Option Nat × Nat)} {N : Nat} (hD : DescsSpec sels D N)
include hD

theorem DescsSpec.kind_at (j : Nat) (hj : j < D.length) : D.getD j (none, 0) = (none, N) ∨
    ∃ e l, D.getD j (none, 0) = (some e, l.length) ∧ e < sels.length ∧ sels.getD e (.int 0) = .slice l := by
  rw [List.getD_eq_getElem _ _ hj]
  exact hD.kind _ (List.getElem_mem hj)

theorem DescsSpec.uniq_at (i j : Nat) (hi : i < D.length) (hj : j < D.length)
    (h : (D.getD i (none, 0)).1 = (D.getD j (none, 0)).1) : i = j := by
  rw [List.getD_eq_getElem _ _ hi, List.getD_eq_getElem _ _ hj] at h
  refine (List.Nodup.getElem_inj_iff hD.uniq (hi := ?_) (hj := ?_)).mp ?_
  · rwa [List.length_map]
  · rwa [List.length_map]
  · rwa [List.getElem_map, List.getElem_map]

theorem DescsSpec.find (e : Nat) (l : List Nat) (he : e < sels.length) (hsl : sels.getD e (.int 0) = .slice l) :
    ∃ j, j < D.length ∧ D.getD j (none, 0) = (some e, l.length) ∧
      (List.range D.length).find? (fun j => (D.getD j (none, 0)).1 == some e) = some j := by
  obtain ⟨j, hj, hk⟩ := List.getElem_of_mem (hD.cover e l he hsl)
  have hd : D.getD j (none, 0) = (some e, l.length) := by rw [List.getD_eq_getElem _ _ hj, hk]
  refine ⟨j, hj, hd, find?_range_first _ j _ hj (by rw [hd]; exact beq_self_eq_true _) fun i hi => ?_⟩
  exact beq_false_of_ne fun h => absurd (hD.uniq_at i j (by omega) hj (by rw [h, hd])) (by omega)

theorem DescsSpec.bIdx_eq (oi : List Nat) (j : Nat) (hj : j < D.length) (hB : D.getD j (none, 0) = (none, N)) :
    bIdxOf D oi = [oi.getD j 0] := by
  unfold bIdxOf
  apply filterMap_range_single _ j _ _ hj
  · rw [hB]
  · intro j' hj' hne
    rcases hD.kind_at j' hj' with h | ⟨e, l, he, _⟩
    · exact absurd (hD.uniq_at j' j hj' hj (by rw [h, hB])) hne
    · rw [he]

/-- The input multi-index `inIdxOf` computes for a valid output multi-index `oi` is valid; its coordinate at a
slice selector is the entry of the slice that `oi` picks, and at a mask column the (non-negative) entry of the
column that the broadcast coordinate of `oi` picks. -/
theorem inIdxOf_spec {arr : Bool} {shape : List Nat} (hlen : sels.length = shape.length)
    (hok : SelsOK arr sels shape) (oi inIdx : List Nat) (hoi : List.Forall₂ (· < ·) oi (D.map (·.2)))
    (h : inIdxOf sels shape D oi (bIdxOf D oi) = .ok inIdx) :
    List.Forall₂ (· < ·) inIdx shape ∧
      (∀ j e l, j < D.length → D.getD j (none, 0) = (some e, l.length) → e < sels.length →
        sels.getD e (.int 0) = .slice l → inIdx.getD e 0 = l.getD (oi.getD j 0) 0) ∧
      (∀ j e vals, j < D.length → D.getD j (none, 0) = (none, N) → e < sels.length →
        sels.getD e (.int 0) = .adv [N] vals → 0 ≤ vals.getD (oi.getD j 0) 0 →
        inIdx.getD e 0 = (vals.getD (oi.getD j 0) 0).toNat) := by
  unfold inIdxOf at h
  have hf := except_mapM_ok_inv _ _ _ h
  rw [List.forall₂_iff_get] at hf
  obtain ⟨hl, hf⟩ := hf
  rw [List.length_range] at hl
  have hfe : ∀ e (he : e < sels.length), (match sels.getD e (.int 0) with
      | .int i => normE i (shape.getD e 0)
      | .slice l =>
        let j := (List.range D.length).find? fun j => (D.getD j (none, 0)).1 == some e
        .ok (l.getD (oi.getD (j.getD 0) 0) 0)
      | .adv sh vals =>
        normE (vals.getD (ravelIdx sh (bcastIndex sh (bIdxOf D oi))) 0) (shape.getD e 0))
      = .ok (inIdx.getD e 0) := by
    intro e he
    have := hf e (by simpa using he) (by omega)
    simp only [List.get_eq_getElem, List.getElem_range] at this
    rw [List.getD_eq_getElem inIdx 0 (by omega)]
    exact this
  have hslice : ∀ j e l, j < D.length → D.getD j (none, 0) = (some e, l.length) → e < sels.length →
      sels.getD e (.int 0) = .slice l → inIdx.getD e 0 = l.getD (oi.getD j 0) 0 := by
    intro j e l hj hd he hsl
    obtain ⟨j', hj', hd', hfind⟩ := hD.find e l he hsl
    obtain rfl : j' = j := hD.uniq_at j' j hj' hj (by rw [hd', hd])
    have hfe' := hfe e he
    rw [hsl] at hfe'
    simp only [hfind, Option.getD_some] at hfe'
    injection hfe' with hfe'
    exact hfe'.symm
  refine ⟨?_, hslice, ?_⟩
  · rw [forall2_lt_iff]
    refine ⟨by omega, fun e he => ?_⟩
    have hes : e < sels.length := by omega
    have hfe' := hfe e hes
    cases hse : sels.getD e (.int 0) with
    | int i =>
      rw [hse] at hfe'
      exact normE_lt _ _ _ hfe'
    | adv sh v =>
      rw [hse] at hfe'
      exact normE_lt _ _ _ hfe'
    | slice l =>
      obtain ⟨j, hj, hd, _⟩ := hD.find e l hes hse
      have hlt := descs_valid hoi j hj
      rw [hd] at hlt
      rw [hslice j e l hj hd hes hse, List.getD_eq_getElem _ _ hlt]
      exact (hok.slice hes hse).2 _ (List.getElem_mem _)
  · intro j e vals hj hB he hsa hnn
    have hbN := descs_valid hoi j hj
    rw [hB] at hbN
    have hfe' := hfe e he
    rw [hsa, hD.bIdx_eq oi j hj hB] at hfe'
    simp only at hfe'
    rw [ix_one N _ hbN] at hfe'
    exact normE_nonneg _ _ _ hfe' hnn

/-- the flat input position selected by output element `k`, for output dimension descriptors `D` -/
def pointM (sels : List Sel) (shape : List Nat) (D : List (Option Nat × Nat)) (k : Nat) : Except PyErr Nat := do
  let oi := unravel (D.map (·.2)) k
  let inIdx ← inIdxOf sels shape D oi (bIdxOf D oi)
  pure (ravelIdx shape inIdx)

/-- Two output multi-indices that read the same input element agree in every coordinate: a slice is
duplicate-free, and the columns of the masks tell the broadcast coordinates apart. -/
theorem positions_nodup {arr : Bool} {shape : List Nat} (hlen : sels.length = shape.length)
    (hok : SelsOK arr sels shape) (pos : List Nat)
    (h : (List.range (prodNat (D.map (·.2)))).mapM (pointM sels shape D) = .ok pos) :
    pos.Nodup ∧ (∀ p ∈ pos, p < prodNat shape) ∧ pos.length = prodNat (D.map (·.2)) := by
  apply positions_of_injective shape (D.map (·.2)) pos
    (fun oi i => inIdxOf sels shape D oi (bIdxOf D oi) = .ok i)
  · refine (except_mapM_ok_inv _ _ _ h).imp fun k p hp => ?_
    obtain ⟨i, hi, hp⟩ := except_bind_eq_ok hp
    cases hp
    exact ⟨i, hi, rfl⟩
  · intro oi i hoi hi
    exact (inIdxOf_spec hD hlen hok oi i hoi hi).1
  · intro oi oi' i hoi hoi' hi hi' j hj
    rw [List.length_map] at hj
    obtain ⟨_, s1, a1⟩ := inIdxOf_spec hD hlen hok oi i hoi hi
    obtain ⟨_, s2, a2⟩ := inIdxOf_spec hD hlen hok oi' i hoi' hi'
    have hv1 := descs_valid hoi j hj
    have hv2 := descs_valid hoi' j hj
    rcases hD.kind_at j hj with hB | ⟨e, l, hd, he, hsl⟩
    · by_contra hne
      have hmem : (none, N) ∈ D := by
        rw [← hB, List.getD_eq_getElem _ _ hj]
        exact List.getElem_mem hj
      rw [hB] at hv1 hv2
      obtain ⟨vals, hm, n1, n2, hd⟩ := hD.group hmem _ _ hv1 hv2 hne
      obtain ⟨e, he, hse⟩ := List.getElem_of_mem hm
      have hse' : sels.getD e (.int 0) = .adv [N] vals := by rw [List.getD_eq_getElem _ _ he, hse]
      have r1 := a1 j e vals hj hB he hse' n1
      have r2 := a2 j e vals hj hB he hse' n2
      rw [r1] at r2
      omega
    · rw [hd] at hv1 hv2
      have c1 := s1 j e l hj hd he hsl
      have c2 := s2 j e l hj hd he hsl
      rw [c1, List.getD_eq_getElem l 0 hv1, List.getD_eq_getElem l 0 hv2] at c2
      exact (List.Nodup.getElem_inj_iff (hok.slice he hsl).1).mp c2

end DescsSpec

/-- descriptors of the slice selectors `A`, the broadcast dimensions `B`, descriptors of the slice selectors `C` -/
def descsM (A : List (Nat × Nat)) (B : List Nat) (C : List (Nat × Nat)) : List (Option Nat × Nat) :=
  A.map (fun p => (some p.1, p.2)) ++ B.map (fun d => (none, d)) ++ C.map (fun p => (some p.1, p.2))

theorem mem_descsM (A : List (Nat × Nat)) (B : List Nat) (C : List (Nat × Nat)) (d : Option Nat × Nat) :
    d ∈ descsM A B C ↔ (∃ p ∈ A ++ C, d = (some p.1, p.2)) ∨ ∃ n ∈ B, d = (none, n) := by
  simp only [descsM, List.mem_append, List.mem_map]
  constructor
  · rintro ((⟨p, hp, rfl⟩ | ⟨n, hn, rfl⟩) | ⟨p, hp, rfl⟩)
    · exact .inl ⟨p, .inl hp, rfl⟩
    · exact .inr ⟨n, hn, rfl⟩
    · exact .inl ⟨p, .inr hp, rfl⟩
  · rintro (⟨p, hp | hp, rfl⟩ | ⟨n, hn, rfl⟩)
    · exact .inl (.inl ⟨p, hp, rfl⟩)
    · exact .inr ⟨p, hp, rfl⟩
    · exact .inl (.inr ⟨n, hn, rfl⟩)

theorem descsM_spec (sels : List Sel) (A : List (Nat × Nat)) (B : List Nat) (N : Nat) (C : List (Nat × Nat))
    (hpw : (A ++ C).Pairwise (fun a b => a.1 < b.1))
    (hmem : ∀ p, p ∈ A ++ C ↔ p ∈ sliceDescsOf sels) (hB : B = [] ∨ B = [N] ∧ GroupInj sels N) :
    DescsSpec sels (descsM A B C) N := by
  have hBN : ∀ n ∈ B, n = N ∧ GroupInj sels N := by
    rcases hB with rfl | ⟨rfl, hG⟩
    · intro n hn; cases hn
    · intro n hn; exact ⟨List.mem_singleton.mp hn, hG⟩
  constructor
  · intro d hd
    rcases (mem_descsM A B C d).mp hd with ⟨p, hp, rfl⟩ | ⟨n, hn, rfl⟩
    · obtain ⟨he, l, hsl, h2⟩ := (sliceDescsOf_mem sels p).mp ((hmem p).mp hp)
      exact .inr ⟨p.1, l, by rw [h2], he, hsl⟩
    · exact .inl (by rw [(hBN n hn).1])
  · intro e l he hsl
    exact (mem_descsM A B C _).mpr
      (.inl ⟨_, (hmem _).mpr ((sliceDescsOf_mem sels (e, l.length)).mpr ⟨he, l, hsl, rfl⟩), rfl⟩)
  · -- the first components are those of `A ++ C`, pairwise distinct, and at most one `none`
    have hAC : ((A ++ C).map fun p => some p.1).Nodup :=
      List.pairwise_map.mpr (hpw.imp fun h e => Nat.ne_of_lt h (Option.some.inj e))
    have hBn : (B.map fun _ => (none : Option Nat)).Nodup := by
      rcases hB with rfl | ⟨rfl, _⟩
      · exact List.nodup_nil
      · exact List.nodup_singleton _
    have hperm : ((descsM A B C).map (·.1)).Perm ((B.map fun _ => none) ++ (A ++ C).map fun p => some p.1) := by
      simp only [descsM, List.map_append, List.map_map, Function.comp_def]
      exact (List.perm_append_comm.append_right _).trans (by rw [List.append_assoc])
    rw [hperm.nodup_iff, List.nodup_append]
    refine ⟨hBn, hAC, fun a ha b hb e => ?_⟩
    obtain ⟨_, _, rfl⟩ := List.mem_map.mp ha
    obtain ⟨_, _, rfl⟩ := List.mem_map.mp hb
    cases e
  · intro hm
    rcases (mem_descsM A B C _).mp hm with ⟨p, _, h⟩ | ⟨n, hn, h⟩
    · cases h
    · exact (hBN n hn).2

theorem firstAdv_not_slice (sels : List Sel) (hA : hasArrOf sels = true) (p : Nat × Nat)
    (hp : p ∈ sliceDescsOf sels) : p.1 ≠ (advPosOf sels true).headD 0 := by
  obtain ⟨_, l, hsl, _⟩ := (sliceDescsOf_mem sels p).mp hp
  obtain ⟨s, hs, hsa⟩ := List.any_eq_true.mp hA
  obtain ⟨e, he, rfl⟩ := List.getElem_of_mem hs
  have hmem : e ∈ advPosOf sels true := by
    refine List.mem_filter.mpr ⟨List.mem_range.mpr he, ?_⟩
    rw [List.getD_eq_getElem _ _ he]
    cases hse : sels[e] with
    | adv sh v => rfl
    | int i => rfl
    | slice l => rw [hse] at hsa; cases hsa
  have hhead : (advPosOf sels true).headD 0 ∈ advPosOf sels true := by
    cases hadv : advPosOf sels true with
    | nil => rw [hadv] at hmem; cases hmem
    | cons a rest => exact List.mem_cons_self
  intro heq
  have := (List.mem_filter.mp hhead).2
  rw [← heq, hsl] at this
  cases this

/-- the descriptors of an index expression without integer arrays: those of the slice selectors, with one broadcast
dimension in front of them or between them when a mask is present -/
theorem descsOf_spec {arr : Bool} {sels : List Sel} {shape : List Nat} (hok : SelsOK arr sels shape) (adj : Bool)
    (B : List Nat) (hB : bshapeOf (advShapesOf sels (hasArrOf sels)) = .ok B) :
    ∃ N, DescsSpec sels
      (descsOf (hasArrOf sels) adj ((advPosOf sels (hasArrOf sels)).headD 0) (sliceDescsOf sels) B) N := by
  cases hA : hasArrOf sels with
  | false =>
    exact ⟨0, descsM_spec sels [] [] 0 (sliceDescsOf sels) (sliceDescsOf_pairwise sels) (fun p => Iff.rfl)
      (.inl rfl)⟩
  | true =>
    rw [hA] at hB
    obtain ⟨N, rfl, hG⟩ := bshape_mask arr sels shape hok hA B hB
    refine ⟨N, ?_⟩
    cases adj with
    | false =>
      exact descsM_spec sels [] [N] N (sliceDescsOf sels) (sliceDescsOf_pairwise sels) (fun p => Iff.rfl)
        (.inr ⟨rfl, hG⟩)
    | true =>
      refine descsM_spec sels ((sliceDescsOf sels).filter (·.1 < (advPosOf sels true).headD 0)) [N] N
        ((sliceDescsOf sels).filter (·.1 > (advPosOf sels true).headD 0)) ?_ ?_ (.inr ⟨rfl, hG⟩)
      · rw [List.pairwise_append]
        refine ⟨(sliceDescsOf_pairwise sels).filter _, (sliceDescsOf_pairwise sels).filter _, ?_⟩
        intro a ha b hb
        have h1 := (List.mem_filter.mp ha).2
        have h2 := (List.mem_filter.mp hb).2
        simp only [decide_eq_true_eq, gt_iff_lt] at h1 h2
        omega
      · intro p
        rw [List.mem_append, List.mem_filter, List.mem_filter]
        constructor
        · rintro (h | h) <;> exact h.1
        · intro hp
          have := firstAdv_not_slice sels hA p hp
          simp only [decide_eq_true_eq, gt_iff_lt]
          rcases Nat.lt_or_gt_of_ne this with h | h
          · exact Or.inl ⟨hp, h⟩
          · exact Or.inr ⟨hp, h⟩

theorem indexPositions'_ok (shape : List Nat) (idx : List IdxEntry) (outShape pos : List Nat)
    (h : indexPositions' shape idx = .ok (outShape, pos)) :
    ∃ sels B D, toSels shape idx = .ok sels ∧ bshapeOf (advShapesOf sels (hasArrOf sels)) = .ok B ∧
      (∃ adj, D = descsOf (hasArrOf sels) adj ((advPosOf sels (hasArrOf sels)).headD 0) (sliceDescsOf sels) B) ∧
      outShape = D.map (·.2) ∧ (List.range (prodNat (D.map (·.2)))).mapM (pointM sels shape D) = .ok pos := by
  obtain ⟨sels, hs, h⟩ := except_bind_eq_ok h
  obtain ⟨B, hB, h⟩ := except_bind_eq_ok h
  obtain ⟨pos', hp, h⟩ := except_bind_eq_ok h
  cases h
  exact ⟨sels, B, _, hs, hB, ⟨_, rfl⟩, rfl, hp⟩

/-- **indexing without integer arrays never selects an element twice** -/
theorem indexPositions_noIarr (shape : List Nat) (idx : List IdxEntry) (outShape pos : List Nat)
    (hb : ∀ e ∈ idx, IdxEntry.isNoIarr e = true) (h : indexPositions shape idx = .ok (outShape, pos)) :
    pos.Nodup ∧ (∀ p ∈ pos, p < prodNat shape) ∧ pos.length = prodNat outShape := by
  rw [indexPositions_eq'] at h
  obtain ⟨sels, B, D, hs, hB, ⟨adj, rfl⟩, rfl, hp⟩ := indexPositions'_ok shape idx outShape pos h
  obtain ⟨hlen, hok⟩ := toSels_mask shape idx sels hb hs
  obtain ⟨N, hD⟩ := descsOf_spec hok adj B hB
  exact positions_nodup hD hlen hok pos hp

/-- the selectors of a tuple of integers, slices and the ellipsis: one per input dimension, none of them an array -/
theorem toSels_basic (shape : List Nat) (idx : List IdxEntry) (sels : List Sel)
    (hb : ∀ e ∈ idx, IdxEntry.isBasic e = true) (h : toSels shape idx = .ok sels) :
    sels.length = shape.length ∧ SelsOK false sels shape :=
  toSels_sels false shape idx sels (fun e he => ⟨(isNoIarr_iff e).mpr (.inl (hb e he)), fun _ => hb e he⟩) h

theorem indexPositions_basic (shape : List Nat) (idx : List IdxEntry) (outShape pos : List Nat)
    (hb : ∀ e ∈ idx, IdxEntry.isBasic e = true) (h : indexPositions shape idx = .ok (outShape, pos)) :
    pos.Nodup ∧ (∀ p ∈ pos, p < prodNat shape) ∧ pos.length = prodNat outShape :=
  indexPositions_noIarr shape idx outShape pos (fun e he => (isNoIarr_iff e).mpr (.inl (hb e he))) h

end Furax.Index
