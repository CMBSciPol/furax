/-
`numpy.moveaxis` (model: FuraxModel/Axes.lean): the axis order is a permutation, every moved axis
lands at its destination, the unmoved axes keep their relative order, and moving the axes back is the
inverse permutation, hence restores shape and data.

The facts about the order are proved once, for the pure function `maOrder` of the normalised source and
destination (`maOrder_facts`); `moveaxisOrder_eq` relates it to the monadic `moveaxisOrder`.
-/
import FuraxProofs.Lemmas.AxesBasic
namespace Furax.Axes

theorem mem_iff_getD {l : List Nat} {a : Nat} : a ∈ l ↔ ∃ k, k < l.length ∧ l.getD k 0 = a := by
  rw [List.mem_iff_getElem]
  exact ⟨fun ⟨k, hk, e⟩ => ⟨k, hk, (List.getD_eq_getElem _ _ hk).trans e⟩,
    fun ⟨k, hk, e⟩ => ⟨k, hk, (List.getD_eq_getElem _ _ hk).symm.trans e⟩⟩

theorem getD_mem {l : List Nat} {k : Nat} (hk : k < l.length) : l.getD k 0 ∈ l :=
  mem_iff_getD.mpr ⟨k, hk, rfl⟩

theorem idxOf_of_getD_eq {l : List Nat} {j k : Nat} (hn : l.Nodup) (hj : j < l.length)
    (h : l.getD j 0 = k) : l.idxOf k = j := by
  rw [← h, List.getD_eq_getElem _ _ hj]
  exact hn.idxOf_getElem j hj

section permRange
variable {order : List Nat} {n : Nat} (h : order.Perm (List.range n))
include h

theorem permRange_length : order.length = n := h.length_eq.trans List.length_range

theorem permRange_nodup : order.Nodup := h.nodup_iff.mpr List.nodup_range

theorem permRange_mem {a : Nat} : a ∈ order ↔ a < n := h.mem_iff.trans List.mem_range

theorem permRange_getD_lt {i : Nat} (hi : i < n) : order.getD i 0 < n :=
  (permRange_mem h).mp (getD_mem (by rw [permRange_length h]; exact hi))

theorem permRange_getD_inj {i j : Nat} (hi : i < n) (hj : j < n) (e : order.getD i 0 = order.getD j 0) :
    i = j := by
  rw [← permRange_length h] at hi hj
  rw [List.getD_eq_getElem _ _ hi, List.getD_eq_getElem _ _ hj] at e
  exact (permRange_nodup h).getElem_inj_iff.mp e

end permRange

theorem ma_normAxis_lt {ndim : Nat} {a : Int} {n : Nat} (h : normAxis ndim a = .ok n) : n < ndim := by
  unfold normAxis at h
  split at h
  · cases h
  · cases h
    split <;> omega

theorem normAxisTuple_spec {ndim : Nat} {axes : List Int} {l : List Nat}
    (h : normAxisTuple ndim axes = .ok l) : l.Nodup ∧ ∀ x ∈ l, x < ndim := by
  obtain ⟨l', hm, h⟩ := except_bind_eq_ok h
  have hm := except_mapM_ok_inv _ _ _ hm
  split at h
  · cases h
  · rename_i hne
    cases h
    refine ⟨(eraseDups_length_eq_iff _).mp (by simpa using hne), fun x hx => ?_⟩
    obtain ⟨k, hk, rfl⟩ := List.getElem_of_mem hx
    exact ma_normAxis_lt (hm.get (hm.length_eq ▸ hk) hk)

theorem ma_insertPair_perm (p : Nat × Nat) (l : List (Nat × Nat)) : (insertPair p l).Perm (p :: l) := by
  induction l with
  | nil => exact .refl _
  | cons q rest ih =>
    unfold insertPair
    split
    · exact .refl _
    · exact (ih.cons q).trans (.swap p q rest)

theorem ma_sortPairs_perm (l : List (Nat × Nat)) : (sortPairs l).Perm l := by
  induction l with
  | nil => exact .refl _
  | cons p rest ih => exact (ma_insertPair_perm p _).trans (ih.cons p)

theorem ma_insertPair_sorted (p : Nat × Nat) (l : List (Nat × Nat))
    (hs : l.Pairwise (fun a b => a.1 < b.1)) (hp : ∀ q ∈ l, p.1 ≠ q.1) :
    (insertPair p l).Pairwise (fun a b => a.1 < b.1) := by
  induction l with
  | nil => exact List.pairwise_singleton _ _
  | cons q rest ih =>
    unfold insertPair
    have hq := hp q List.mem_cons_self
    rw [List.pairwise_cons] at hs
    split
    · have hlt : p.1 < q.1 := by omega
      refine List.pairwise_cons.mpr ⟨?_, List.pairwise_cons.mpr hs⟩
      exact List.forall_mem_cons.mpr ⟨hlt, fun r hr => Nat.lt_trans hlt (hs.1 r hr)⟩
    · have hlt : q.1 < p.1 := by omega
      refine List.pairwise_cons.mpr ⟨?_, ih hs.2 fun r hr => hp r (List.mem_cons_of_mem _ hr)⟩
      intro r hr
      rcases List.mem_cons.mp ((ma_insertPair_perm p rest).mem_iff.mp hr) with rfl | hr
      · exact hlt
      · exact hs.1 r hr

theorem ma_sortPairs_sorted (l : List (Nat × Nat)) (hn : (l.map Prod.fst).Nodup) :
    (sortPairs l).Pairwise (fun a b => a.1 < b.1) := by
  induction l with
  | nil => exact .nil
  | cons p rest ih =>
    rw [List.map_cons, List.nodup_cons] at hn
    refine ma_insertPair_sorted p (sortPairs rest) (ih hn.2) fun q hq heq => ?_
    exact hn.1 (heq ▸ List.mem_map_of_mem ((ma_sortPairs_perm rest).mem_iff.mp hq))

theorem ma_insertAt_perm (l : List Nat) (i x : Nat) : (insertAt l i x).Perm (x :: l) := by
  unfold insertAt
  refine (List.perm_append_comm.append_right _).trans ?_
  rw [List.singleton_append, List.cons_append, List.take_append_drop]

theorem ma_insertAt_get_lt (l : List Nat) (i x k : Nat) (hk : k < i) (hkl : k < l.length) :
    (insertAt l i x)[k]? = l[k]? := by
  unfold insertAt
  rw [List.append_assoc, List.getElem?_append_left (by rw [List.length_take]; omega), List.getElem?_take_of_lt hk]

theorem ma_insertAt_get_eq (l : List Nat) (i x : Nat) (hi : i ≤ l.length) :
    (insertAt l i x)[i]? = some x := by
  unfold insertAt
  have : (l.take i).length = i := by rw [List.length_take]; omega
  rw [List.append_assoc, List.getElem?_append_right (Nat.le_of_eq this), this, Nat.sub_self]
  rfl

/-- the pairs inserted one after the other, as `numpy.moveaxis` does -/
def insertAll (ps : List (Nat × Nat)) (l : List Nat) : List Nat :=
  ps.foldl (fun ord p => insertAt ord p.1 p.2) l

theorem insertAll_cons (p : Nat × Nat) (ps : List (Nat × Nat)) (l : List Nat) :
    insertAll (p :: ps) l = insertAll ps (insertAt l p.1 p.2) := rfl

theorem insertAll_perm (ps : List (Nat × Nat)) (l : List Nat) :
    (insertAll ps l).Perm (ps.map Prod.snd ++ l) := by
  induction ps generalizing l with
  | nil => exact .refl _
  | cons p rest ih =>
    rw [insertAll_cons, List.map_cons, List.cons_append]
    exact (ih _).trans (((ma_insertAt_perm l p.1 p.2).append_left _).trans List.perm_middle)

/-- positions sorted increasingly and below `B` leave room for the later ones -/
theorem ma_sorted_bound (x : Nat × Nat) (q : List (Nat × Nat)) (B : Nat)
    (hs : (x :: q).Pairwise (fun a b => a.1 < b.1)) (hb : ∀ p ∈ x :: q, p.1 < B) :
    x.1 + q.length < B := by
  induction q generalizing x with
  | nil => exact hb x List.mem_cons_self
  | cons y q' ih =>
    rw [List.pairwise_cons] at hs
    have := ih y hs.2 (fun p hp => hb p (List.mem_cons_of_mem _ hp))
    have := hs.1 y List.mem_cons_self
    rw [List.length_cons]
    omega

theorem insertAll_spec (ps : List (Nat × Nat)) (l : List Nat)
    (hs : ps.Pairwise (fun a b => a.1 < b.1)) (hb : ∀ p ∈ ps, p.1 < l.length + ps.length) :
    (∀ p ∈ ps, (insertAll ps l)[p.1]? = some p.2) ∧
    (∀ k, (∀ p ∈ ps, k < p.1) → k < l.length → (insertAll ps l)[k]? = l[k]?) := by
  induction ps generalizing l with
  | nil => exact ⟨fun _ hp => (nomatch hp), fun _ _ _ => rfl⟩
  | cons p rest ih =>
    have hp : p.1 ≤ l.length := by
      have := ma_sorted_bound p rest _ hs hb
      rw [List.length_cons] at this
      omega
    rw [List.pairwise_cons] at hs
    have hlen : (insertAt l p.1 p.2).length = l.length + 1 := (ma_insertAt_perm l p.1 p.2).length_eq
    obtain ⟨ih1, ih2⟩ := ih (insertAt l p.1 p.2) hs.2 (by
      intro q hq
      have := hb q (List.mem_cons_of_mem _ hq)
      rw [List.length_cons] at this
      omega)
    rw [insertAll_cons]
    refine ⟨fun q hq => ?_, fun k hk hkl => ?_⟩
    · rcases List.mem_cons.mp hq with rfl | hq
      · rw [ih2 q.1 hs.1 (by omega)]
        exact ma_insertAt_get_eq l q.1 q.2 hp
      · exact ih1 q hq
    · rw [ih2 k (fun r hr => hk r (List.mem_cons_of_mem _ hr)) (by omega)]
      exact ma_insertAt_get_lt l p.1 p.2 k (hk p List.mem_cons_self) hkl

theorem insertAll_filter (s : List Nat) (ps : List (Nat × Nat)) (l : List Nat) (h : ∀ p ∈ ps, p.2 ∈ s) :
    (insertAll ps l).filter (fun n => !s.contains n) = l.filter (fun n => !s.contains n) := by
  induction ps generalizing l with
  | nil => rfl
  | cons p rest ih =>
    have : (!s.contains p.2) = false := by simpa using h p List.mem_cons_self
    rw [insertAll_cons, ih _ fun q hq => h q (List.mem_cons_of_mem _ hq), insertAt, List.filter_append,
      List.filter_append, List.filter_singleton, this, cond_false, List.append_nil, ← List.filter_append,
      List.take_append_drop]

/-- the axes that are not moved, in increasing order -/
def maRest (ndim : Nat) (s : List Nat) : List Nat := (List.range ndim).filter (fun n => !s.contains n)

theorem ma_mem_rest {ndim : Nat} {s : List Nat} {i : Nat} : i ∈ maRest ndim s ↔ i < ndim ∧ i ∉ s := by
  simp [maRest]

theorem ma_rest_perm (ndim : Nat) (s : List Nat) (hs : s.Nodup) (hlt : ∀ x ∈ s, x < ndim) :
    (s ++ maRest ndim s).Perm (List.range ndim) := by
  apply (List.perm_ext_iff_of_nodup ?_ List.nodup_range).mpr
  · intro a
    rw [List.mem_append, ma_mem_rest, List.mem_range]
    by_cases ha : a ∈ s
    · exact ⟨fun _ => hlt a ha, fun _ => .inl ha⟩
    · exact ⟨fun h => (h.resolve_left ha).1, fun h => .inr ⟨h, ha⟩⟩
  · exact hs.append (List.nodup_range.filter _) fun a ha hb => (ma_mem_rest.mp hb).2 ha

/-- the axis order of `numpy.moveaxis` for the normalised sources `s` and destinations `d` -/
def maOrder (ndim : Nat) (s d : List Nat) : List Nat := insertAll (sortPairs (d.zip s)) (maRest ndim s)

theorem moveaxisOrder_eq {ndim : Nat} {src dst : List Int} {s d : List Nat}
    (hs : normAxisTuple ndim src = .ok s) (hd : normAxisTuple ndim dst = .ok d) :
    moveaxisOrder ndim src dst
      = if s.length != d.length then .error .valueError else .ok (maOrder ndim s d) := by
  unfold moveaxisOrder
  rw [hs, hd]
  rfl

/-- the facts about `order = moveaxisOrder ndim src dst` used for the inverse theorem -/
structure MAFacts (ndim : Nat) (s d order : List Nat) : Prop where
  sNodup : s.Nodup
  dNodup : d.Nodup
  len : s.length = d.length
  sLt : ∀ x ∈ s, x < ndim
  dLt : ∀ x ∈ d, x < ndim
  perm : order.Perm (List.range ndim)
  dest : ∀ k, k < s.length → order[d.getD k 0]? = some (s.getD k 0)
  rest : order.filter (fun n => !s.contains n) = maRest ndim s

theorem maOrder_facts {ndim : Nat} {s d : List Nat} (hsn : s.Nodup) (hdn : d.Nodup) (hlen : s.length = d.length)
    (hslt : ∀ x ∈ s, x < ndim) (hdlt : ∀ x ∈ d, x < ndim) : MAFacts ndim s d (maOrder ndim s d) := by
  have hps := ma_sortPairs_perm (d.zip s)
  have hrest := ma_rest_perm ndim s hsn hslt
  refine ⟨hsn, hdn, hlen, hslt, hdlt, ?_, fun k hk => ?_, ?_⟩
  · refine (insertAll_perm _ _).trans (((hps.map Prod.snd).append_right _).trans ?_)
    rwa [List.map_snd_zip (Nat.le_of_eq hlen)]
  · have hkd : k < d.length := hlen ▸ hk
    have hkz : k < (d.zip s).length := by rw [List.length_zip]; omega
    have hmem : (d.getD k 0, s.getD k 0) ∈ sortPairs (d.zip s) := by
      rw [hps.mem_iff, List.getD_eq_getElem _ _ hk, List.getD_eq_getElem _ _ hkd, ← List.getElem_zip (h := hkz)]
      exact List.getElem_mem _
    refine (insertAll_spec _ _ (ma_sortPairs_sorted _ ?_) fun p hp => ?_).1 _ hmem
    · rwa [List.map_fst_zip (Nat.le_of_eq hlen.symm)]
    · -- the positions are below `ndim`, the final length
      rw [hps.length_eq, List.length_zip, ← hlen, Nat.min_self, Nat.add_comm, ← List.length_append,
        hrest.length_eq, List.length_range]
      exact hdlt p.1 (List.of_mem_zip (hps.mem_iff.mp hp)).1
  · refine (insertAll_filter s _ _ fun p hp => (List.of_mem_zip (hps.mem_iff.mp hp)).2).trans ?_
    rw [maRest, List.filter_filter]
    simp only [Bool.and_self]

theorem moveaxisOrder_facts (ndim : Nat) (src dst : List Int) (s d order : List Nat)
    (hs : normAxisTuple ndim src = .ok s) (hd : normAxisTuple ndim dst = .ok d)
    (h : moveaxisOrder ndim src dst = .ok order) : MAFacts ndim s d order := by
  obtain ⟨hsn, hslt⟩ := normAxisTuple_spec hs
  obtain ⟨hdn, hdlt⟩ := normAxisTuple_spec hd
  rw [moveaxisOrder_eq hs hd] at h
  split at h
  · cases h
  · rename_i hne
    cases h
    exact maOrder_facts hsn hdn (by simpa using hne) hslt hdlt

theorem moveaxisOrder_ok {ndim : Nat} {src dst : List Int} {order : List Nat}
    (h : moveaxisOrder ndim src dst = .ok order) :
    ∃ s d, normAxisTuple ndim src = .ok s ∧ normAxisTuple ndim dst = .ok d ∧ MAFacts ndim s d order := by
  obtain ⟨s, hs, h'⟩ := except_bind_eq_ok h
  obtain ⟨d, hd, -⟩ := except_bind_eq_ok h'
  exact ⟨s, d, hs, hd, moveaxisOrder_facts ndim src dst s d order hs hd h⟩

theorem moveaxisOrder_perm (ndim : Nat) (src dst : List Int) (order : List Nat)
    (h : moveaxisOrder ndim src dst = .ok order) : order.Perm (List.range ndim) := by
  obtain ⟨s, d, -, -, F⟩ := moveaxisOrder_ok h
  exact F.perm

/-- every moved axis lands at its destination (`MAFacts.dest` with `getElem`) -/
theorem moveaxisOrder_dest' (ndim : Nat) (src dst : List Int) (s d order : List Nat)
    (hs : normAxisTuple ndim src = .ok s) (hd : normAxisTuple ndim dst = .ok d)
    (h : moveaxisOrder ndim src dst = .ok order) (k : Nat) (hk : k < s.length) (hk' : k < d.length) :
    order[d[k]]? = some s[k] := by
  have := (moveaxisOrder_facts ndim src dst s d order hs hd h).dest k hk
  rwa [List.getD_eq_getElem _ _ hk, List.getD_eq_getElem _ _ hk'] at this

/-- if the move is accepted, so is the move back -/
theorem moveaxisOrder_swap_ok (ndim : Nat) (src dst : List Int) (order : List Nat)
    (h : moveaxisOrder ndim src dst = .ok order) : ∃ order', moveaxisOrder ndim dst src = .ok order' := by
  obtain ⟨s, d, hs, hd, F⟩ := moveaxisOrder_ok h
  rw [moveaxisOrder_eq hd hs, if_neg (by simpa using F.len.symm)]
  exact ⟨_, rfl⟩

theorem MAFacts.length {ndim : Nat} {s d order : List Nat} (F : MAFacts ndim s d order) :
    order.length = ndim := permRange_length F.perm

theorem MAFacts.nodup {ndim : Nat} {s d order : List Nat} (F : MAFacts ndim s d order) :
    order.Nodup := permRange_nodup F.perm

theorem MAFacts.getD_lt {ndim : Nat} {s d order : List Nat} (F : MAFacts ndim s d order)
    (i : Nat) (hi : i < ndim) : order.getD i 0 < ndim := permRange_getD_lt F.perm hi

theorem MAFacts.dest_getD {ndim : Nat} {s d order : List Nat} (F : MAFacts ndim s d order)
    (k : Nat) (hk : k < s.length) : order.getD (d.getD k 0) 0 = s.getD k 0 := by
  rw [List.getD_eq_getElem?_getD, F.dest k hk]
  rfl

theorem MAFacts.mem_iff {ndim : Nat} {s d order : List Nat} (F : MAFacts ndim s d order)
    (i : Nat) (hi : i < ndim) : order.getD i 0 ∈ s ↔ i ∈ d := by
  constructor
  · intro hm
    obtain ⟨k, hk, hke⟩ := mem_iff_getD.mp hm
    have hkd : k < d.length := F.len ▸ hk
    -- `order[i] = s[k] = order[d[k]]`, and `order` has no repetition
    rw [← F.dest_getD k hk] at hke
    rw [permRange_getD_inj F.perm hi (F.dLt _ (getD_mem hkd)) hke.symm]
    exact getD_mem hkd
  · intro hm
    obtain ⟨k, hk, rfl⟩ := mem_iff_getD.mp hm
    have hks : k < s.length := F.len ▸ hk
    rw [F.dest_getD k hks]
    exact getD_mem hks

theorem MAFacts.rest_map {ndim : Nat} {s d order : List Nat} (F : MAFacts ndim s d order) :
    maRest ndim s = (maRest ndim d).map (fun i => order.getD i 0) := by
  have ho := ma_map_getD_range (d := 0) order
  rw [F.length] at ho
  rw [← F.rest]
  conv => lhs; rw [← ho]
  rw [List.filter_map, maRest]
  refine congrArg _ (List.filter_congr fun i hi => congrArg (!·) (Bool.eq_iff_iff.mpr ?_))
  rw [List.contains_iff_mem, List.contains_iff_mem]
  exact F.mem_iff i (List.mem_range.mp hi)

/-- the orders of a move and of the move back are inverse permutations -/
theorem MAFacts.inverse {ndim : Nat} {s d order order' : List Nat}
    (F : MAFacts ndim s d order) (G : MAFacts ndim d s order') (i : Nat) (hi : i < ndim) :
    order.getD (order'.getD i 0) 0 = i := by
  by_cases hs : i ∈ s
  · obtain ⟨k, hk, rfl⟩ := mem_iff_getD.mp hs
    rw [G.dest_getD k (F.len ▸ hk), F.dest_getD k hk]
  · -- the unmoved axes are mapped onto each other in order, both ways
    have e : (maRest ndim s).map (fun i => order.getD (order'.getD i 0) 0) = (maRest ndim s).map id := by
      conv => rhs; rw [List.map_id, F.rest_map, G.rest_map, List.map_map]
      rfl
    exact List.map_inj_left.mp e i (ma_mem_rest.mpr ⟨hi, hs⟩)

/-- `order` and `order'` are permutations of `0 … n-1` with `order ∘ order' = id` -/
structure InvPerm (n : Nat) (order order' : List Nat) : Prop where
  perm : order.Perm (List.range n)
  perm' : order'.Perm (List.range n)
  inv : ∀ i, i < n → order.getD (order'.getD i 0) 0 = i

namespace InvPerm
variable {n : Nat} {order order' : List Nat}

theorem length (H : InvPerm n order order') : order.length = n := permRange_length H.perm
theorem nodup' (H : InvPerm n order order') : order'.Nodup := permRange_nodup H.perm'

theorem inv' (H : InvPerm n order order') (i : Nat) (hi : i < n) :
    order'.getD (order.getD i 0) 0 = i :=
  have h1 := permRange_getD_lt H.perm hi
  permRange_getD_inj H.perm (permRange_getD_lt H.perm' h1) hi (H.inv _ h1)

theorem symm (H : InvPerm n order order') : InvPerm n order' order :=
  ⟨H.perm', H.perm, H.inv'⟩

theorem idxOf (H : InvPerm n order order') (i : Nat) (hi : i < n) : order.idxOf i = order'.getD i 0 :=
  idxOf_of_getD_eq (permRange_nodup H.perm) (by rw [H.length]; exact permRange_getD_lt H.perm' hi) (H.inv i hi)

end InvPerm

theorem ma_transposeShape_length (shape order : List Nat) :
    (transposeShape shape order).length = order.length := List.length_map _

theorem ma_transposeShape_getD (shape order : List Nat) (j : Nat) (hj : j < order.length) :
    (transposeShape shape order).getD j 0 = shape.getD (order.getD j 0) 0 := by
  unfold transposeShape
  rw [List.getD_eq_getElem _ _ (by rwa [List.length_map]), List.getElem_map, List.getD_eq_getElem order 0 hj]

theorem InvPerm.transposeShape_inv {n : Nat} {order order' : List Nat} (H : InvPerm n order order')
    (shape : List Nat) (hsh : shape.length = n) :
    transposeShape (transposeShape shape order) order' = shape := by
  subst hsh
  have hl := (ma_transposeShape_length (transposeShape shape order) order').trans H.symm.length
  refine ext_getD hl fun i hi => ?_
  rw [ma_transposeShape_getD _ _ i (by rwa [ma_transposeShape_length] at hi)]
  rw [hl] at hi
  rw [ma_transposeShape_getD _ _ _ (by rw [H.length]; exact permRange_getD_lt H.perm' hi), H.inv i hi]

/-- the multi-index `transpose(a, order)` reads in `a` for the output multi-index `j`: `i[ax] = j[order.idxOf ax]` -/
def transposeIdx (n : Nat) (order j : List Nat) : List Nat :=
  (List.range n).map fun ax => j.getD (order.idxOf ax) 0

theorem transposeIdx_getD (n : Nat) (order j : List Nat) (ax : Nat) (hax : ax < n) :
    (transposeIdx n order j).getD ax 0 = j.getD (order.idxOf ax) 0 :=
  ma_getD_map_range n _ ax hax

theorem transposeIdx_valid (shape order j : List Nat) (hperm : order.Perm (List.range shape.length))
    (hj : List.Forall₂ (· < ·) j (transposeShape shape order)) :
    List.Forall₂ (· < ·) (transposeIdx shape.length order j) shape ∧
    ∀ m, m < shape.length → (transposeIdx shape.length order j).getD (order.getD m 0) 0 = j.getD m 0 := by
  have hol := permRange_length hperm
  rw [forall2_lt_iff] at hj ⊢
  refine ⟨⟨by rw [transposeIdx, List.length_map, List.length_range], fun ax hax => ?_⟩, fun m hm => ?_⟩
  · have hidx : order.idxOf ax < order.length := List.idxOf_lt_length_iff.mpr ((permRange_mem hperm).mpr hax)
    have := hj.2 (order.idxOf ax) (by rwa [ma_transposeShape_length])
    rwa [ma_transposeShape_getD _ _ _ hidx, List.getD_eq_getElem order 0 hidx, List.getElem_idxOf hidx,
      ← transposeIdx_getD _ _ _ _ hax] at this
  · rw [transposeIdx_getD _ _ _ _ (permRange_getD_lt hperm hm),
      idxOf_of_getD_eq (permRange_nodup hperm) (hol ▸ hm) rfl]

theorem InvPerm.transposeIdx_inv {n : Nat} {order order' : List Nat} (H : InvPerm n order order')
    (j : List Nat) (hj : j.length = n) : transposeIdx n order (transposeIdx n order' j) = j := by
  subst hj
  refine Eq.trans (List.map_congr_left fun ax hax => ?_) (ma_map_getD_range (d := 0) j)
  have hax := List.mem_range.mp hax
  have hb := permRange_getD_lt H.perm' hax
  rw [H.idxOf ax hax, transposeIdx_getD _ _ _ _ hb, H.symm.idxOf _ hb, H.inv ax hax]

theorem transposeData_length {α} [Inhabited α] (shape order : List Nat) (data : List α) :
    (transposeData shape order data).length = prodNat (transposeShape shape order) := by
  rw [transposeData, List.length_map, List.length_range]

theorem transposeData_getD {α} [Inhabited α] (shape order : List Nat) (data : List α) (j : List Nat)
    (h : List.Forall₂ (· < ·) j (transposeShape shape order)) :
    (transposeData shape order data).getD (ravelIdx (transposeShape shape order) j) default
      = data.getD (ravelIdx shape (transposeIdx shape.length order j)) default := by
  obtain ⟨h1, h2⟩ := ma_ravel_valid _ _ h
  unfold transposeData
  simp only
  rw [ma_getD_map_range _ _ _ h1, h2]
  rfl

theorem ma_transposeData_getD {α} [Inhabited α] (shape order : List Nat) (data : List α) (idx1 : List Nat)
    (h : List.Forall₂ (· < ·) idx1 (transposeShape shape order)) :
    (transposeData shape order data).getD (ravelIdx (transposeShape shape order) idx1) default
      = data.getD (ravelIdx shape ((List.range shape.length).map fun ax =>
          idx1.getD (order.idxOf ax) 0)) default :=
  transposeData_getD shape order data idx1 h

theorem InvPerm.transposeData_inv {α} [Inhabited α] {n : Nat} {order order' : List Nat}
    (H : InvPerm n order order') (shape : List Nat) (hsh : shape.length = n)
    (data : List α) (hdata : data.length = prodNat shape) :
    transposeData (transposeShape shape order) order' (transposeData shape order data) = data := by
  subst hsh
  have hS := H.transposeShape_inv shape rfl
  have hSl : (transposeShape shape order).length = shape.length := (ma_transposeShape_length _ _).trans H.length
  apply List.ext_getElem
  · rw [transposeData_length, hS, hdata]
  · intro k h1 h2
    obtain ⟨v1, v2⟩ := ma_unravel_valid shape k (hdata ▸ h2)
    rw [← hS] at v1
    -- entry `k` is read at `i = transposeIdx order' (unravel k)` in the intermediate tensor, hence at
    -- `transposeIdx order i = unravel k` in `data`
    have hv := (transposeIdx_valid _ order' _ (hSl.symm ▸ H.perm') v1).1
    have key := (transposeData_getD _ order' (transposeData shape order data) _ v1).trans
      (transposeData_getD shape order data _ hv)
    rw [hS, hSl, H.transposeIdx_inv _ (ma_unravel_length shape k), v2] at key
    rw [← List.getD_eq_getElem _ default h1, ← List.getD_eq_getElem _ default h2, key]

theorem moveaxisOrder_invPerm (ndim : Nat) (src dst : List Int) (order order' : List Nat)
    (h : moveaxisOrder ndim src dst = .ok order) (h' : moveaxisOrder ndim dst src = .ok order') :
    InvPerm ndim order order' := by
  obtain ⟨s, d, hs, hd, F⟩ := moveaxisOrder_ok h
  have G := moveaxisOrder_facts ndim dst src d s order' hd hs h'
  exact ⟨F.perm, G.perm, F.inverse G⟩

/-- the axis orders of `moveaxis(·, src, dst)` and of `moveaxis(·, dst, src)` are inverse permutations -/
theorem moveaxisOrder_inverse (ndim : Nat) (src dst : List Int) (order order' : List Nat)
    (h : moveaxisOrder ndim src dst = .ok order) (h' : moveaxisOrder ndim dst src = .ok order') :
    (∀ a, a < ndim → order'.getD (order.getD a 0) 0 = a) ∧
    (∀ a, a < ndim → order.getD (order'.getD a 0) 0 = a) :=
  let H := moveaxisOrder_invPerm ndim src dst order order' h h'
  ⟨H.inv', H.inv⟩

theorem moveaxis_inverse_shape (ndim : Nat) (src dst : List Int) (order order' shape : List Nat)
    (h : moveaxisOrder ndim src dst = .ok order) (h' : moveaxisOrder ndim dst src = .ok order')
    (hsh : shape.length = ndim) :
    transposeShape (transposeShape shape order) order' = shape :=
  (moveaxisOrder_invPerm ndim src dst order order' h h').transposeShape_inv shape hsh

theorem moveaxis_inverse_data {α} [Inhabited α] (ndim : Nat) (src dst : List Int)
    (order order' shape : List Nat) (data : List α)
    (h : moveaxisOrder ndim src dst = .ok order) (h' : moveaxisOrder ndim dst src = .ok order')
    (hsh : shape.length = ndim) (hdata : data.length = prodNat shape) :
    transposeData (transposeShape shape order) order' (transposeData shape order data) = data :=
  (moveaxisOrder_invPerm ndim src dst order order' h h').transposeData_inv shape hsh data hdata

theorem moveaxis_of_order {α : Type} [Inhabited α] (sh : List Nat) (c : List α) (src dst : List Int)
    (order : List Nat) (ho : moveaxisOrder sh.length src dst = .ok order) :
    moveaxis (⟨sh, c⟩ : Tensor α) src dst = .ok ⟨transposeShape sh order, transposeData sh order c⟩ := by
  unfold moveaxis
  rw [ho]
  rfl

/-- `moveaxis(moveaxis(t, src, dst), dst, src) = t` for a well-formed tensor -/
theorem moveaxis_roundtrip {α} [Inhabited α] (t t' : Tensor α) (src dst : List Int)
    (hwf : t.data.length = prodNat t.shape) (h : moveaxis t src dst = .ok t') :
    moveaxis t' dst src = .ok t := by
  obtain ⟨sh, c⟩ := t
  obtain ⟨order, ho, h⟩ := except_bind_eq_ok h
  cases h
  obtain ⟨order', ho'⟩ := moveaxisOrder_swap_ok _ src dst order ho
  have H := moveaxisOrder_invPerm _ src dst order order' ho ho'
  rw [moveaxis_of_order _ _ dst src order' (by rw [ma_transposeShape_length, H.length]; exact ho'),
    H.transposeShape_inv sh rfl, H.transposeData_inv sh rfl c hwf]

end Furax.Axes
