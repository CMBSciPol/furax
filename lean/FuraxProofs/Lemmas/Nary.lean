/-
The two n-ary rules (`IdentityRule`, `HomothetyRule`) and `AlgebraicReductionRule.apply` as modelled in
FuraxModel/Reduce.lean.

First without any semantics: the typing judgement `Typed ops s t` of a chain, which both rules keep because the
operands they remove or merge are square; the closed form `homothetyRule_spec` of the scalar relocation; the normal
form of what `apply` returns.  Then soundness of the two rules, for ANY semantics of the operator tree that satisfies
the laws collected in `OpSem` (identity is the identity, a scalar operator multiplies by its value, every
structurally well-formed operator is honest and homogeneous).  The laws are hypotheses (a structure), never axioms;
FuraxProofs/Sem/ListModel.lean discharges them for the list denotation.

The laws `honest` and `homogeneous` are demanded of STRUCTURALLY WELL-FORMED operators only (`StructOK`,
FuraxProofs/Lemmas/WellFormed.lean: what the Python constructors guarantee), so that the framework is inhabited
by faithful denotations (FuraxProofs/Sem/ListSem.lean); accordingly the theorems are about chains of structurally
well-formed operands (`Sem.ok = StructOK`).  Soundness of `AlgebraicReductionRule.apply` is in
FuraxProofs/Lemmas/ScanOn.lean.
-/
import FuraxModel.Reduce
import FuraxProofs.Lemmas.Scan
import FuraxProofs.Lemmas.OpEq
import FuraxProofs.Lemmas.WellFormed
namespace Furax
open Op

/-- A semantics of the Level-A operator tree over a value space `V` with a scalar action. -/
structure OpSem (V : Type) where
  den : Op → V → V
  mem : Struct → V → Prop
  smul : Rat → V → V
  /-- a structurally well-formed operator maps its input space into its output space -/
  honest : ∀ o x, StructOK o → mem (Op.inS o) x → mem (Op.outS o) (den o x)
  smul_one : ∀ x, smul 1 x = x
  smul_smul : ∀ a b x, smul a (smul b x) = smul (a * b) x
  mem_smul : ∀ s a x, mem s x → mem s (smul a x)
  /-- `IdentityOperator.mv` returns its argument -/
  identity_law : ∀ o, o.isIdentity = true → ∀ x, mem (Op.inS o) x → den o x = x
  /-- `HomothetyOperator.mv` multiplies every leaf by `value` -/
  homothety_law : ∀ o, o.isHomothety = true → ∀ x, mem (Op.inS o) x → den o x = smul (homValue o) x
  /-- every structurally well-formed operator commutes with scalar multiplication (C04: linearity) -/
  homogeneous : ∀ o a x, StructOK o → mem (Op.inS o) x → den o (smul a x) = smul a (den o x)

namespace OpSem
variable {V : Type} (L : OpSem V)

def toSem : Sem Op V Struct := ⟨L.den, Op.inS, Op.outS, L.mem, StructOK, L.honest⟩

@[simp] theorem toSem_inS (o : Op) : L.toSem.inS o = Op.inS o := rfl
@[simp] theorem toSem_outS (o : Op) : L.toSem.outS o = Op.outS o := rfl
@[simp] theorem toSem_den (o : Op) : L.toSem.den o = L.den o := rfl
@[simp] theorem toSem_mem (s : Struct) : L.toSem.mem s = L.mem s := rfl
@[simp] theorem toSem_ok (o : Op) : L.toSem.ok o = StructOK o := rfl

end OpSem
open OpSem

/-- the structures of the operator tree as a `Sem` with a one-point value space: only the typing part of the
framework of FuraxProofs/Lemmas/Scan.lean is left -/
def structSem : Sem Op Unit Struct :=
  ⟨fun _ x => x, Op.inS, Op.outS, fun _ _ => True, fun _ => True, fun _ _ _ _ => trivial⟩

/-- the chain `ops` (`[a, b, c]` is `a ∘ b ∘ c`) maps structure `s` to structure `t`, adjacent structures
matching: `Sem.WT` without any semantics -/
def Typed (ops : List Op) (s t : Struct) : Prop := structSem.WT ops s t

@[simp] theorem Typed_nil (s t : Struct) : Typed [] s t ↔ s = t := Iff.rfl

@[simp] theorem Typed_cons (o : Op) (os : List Op) (s t : Struct) :
    Typed (o :: os) s t ↔ Op.outS o = t ∧ Typed os s (Op.inS o) := Iff.rfl

theorem Typed_iff_WT {V : Type} (L : OpSem V) (ops : List Op) (s t : Struct) :
    Typed ops s t ↔ L.toSem.WT ops s t := by
  induction ops generalizing t with
  | nil => rfl
  | cons o os ih => simp only [Typed_cons, Sem.WT, OpSem.toSem_outS, OpSem.toSem_inS, ih]

theorem Sem.WT.typed {V : Type} {L : OpSem V} {ops : List Op} {s t : Struct} (h : L.toSem.WT ops s t) :
    Typed ops s t := (Typed_iff_WT L ops s t).mpr h

theorem Typed.wt {V : Type} (L : OpSem V) {ops : List Op} {s t : Struct} (h : Typed ops s t) :
    L.toSem.WT ops s t := (Typed_iff_WT L ops s t).mp h

theorem Typed_append (a b : List Op) (s t : Struct) :
    Typed (a ++ b) s t ↔ ∃ m, Typed b s m ∧ Typed a m t := structSem.WT_append a b s t

theorem Typed_iff_Chain (ops : List Op) (s t : Struct) (hne : ops ≠ []) :
    Typed ops s t ↔ Chain ops ∧ inSLast ops = s ∧ outSHead ops = t := by
  induction ops generalizing t with
  | nil => exact absurd rfl hne
  | cons o os ih =>
    cases os with
    | nil => exact ⟨fun h => ⟨trivial, h.2.symm, h.1⟩, fun h => ⟨h.2.2, h.2.1.symm⟩⟩
    | cons b rest =>
      have ih := ih (Op.inS o) (List.cons_ne_nil _ _)
      exact ⟨fun h => have ⟨hc, hl, hh⟩ := ih.mp h.2; ⟨⟨hh.symm, hc⟩, hl, h.1⟩,
        fun ⟨⟨h1, hc⟩, hl, hh⟩ => ⟨hh, ih.mpr ⟨hc, hl, h1.symm⟩⟩⟩

theorem Typed_ends (ops : List Op) (s t : Struct) (hne : ops ≠ []) (h : Typed ops s t) :
    inSLast ops = s ∧ outSHead ops = t :=
  ((Typed_iff_Chain ops s t hne).mp h).2

theorem Typed_of_Chain (ops : List Op) (hne : ops ≠ []) (h : Chain ops) :
    Typed ops (inSLast ops) (outSHead ops) :=
  (Typed_iff_Chain ops _ _ hne).mpr ⟨h, rfl, rfl⟩

theorem Typed_filter (p : Op → Bool) (hp : ∀ o, p o = false → Op.inS o = Op.outS o) (ops : List Op) (s t : Struct)
    (h : Typed ops s t) : Typed (ops.filter p) s t := by
  induction ops generalizing t with
  | nil => exact h
  | cons o os ih =>
    obtain ⟨h1, h2⟩ := (Typed_cons ..).mp h
    cases hpo : p o with
    | true => rw [List.filter_cons_of_pos hpo]; exact (Typed_cons ..).mpr ⟨h1, ih _ h2⟩
    | false => rw [List.filter_cons_of_neg (by simp [hpo]), ← h1, ← hp o hpo]; exact ih _ h2

theorem OpSem.identity_square (o : Op) (h : o.isIdentity = true) : Op.inS o = Op.outS o :=
  square_of_isLeafCls rfl o h

theorem OpSem.homothety_square (o : Op) (h : o.isHomothety = true) : Op.inS o = Op.outS o :=
  square_of_isLeafCls rfl o h

theorem OpSem.identityRule_mem (ops : List Op) (o : Op) (h : o ∈ identityRule ops) : o ∈ ops :=
  (List.mem_filter.mp h).1

theorem identityRule_cons_id {o : Op} (os : List Op) (h : o.isIdentity = true) :
    identityRule (o :: os) = identityRule os := by
  simp [identityRule, h]

theorem identityRule_cons_not {o : Op} (os : List Op) (h : ¬ o.isIdentity = true) :
    identityRule (o :: os) = o :: identityRule os := by
  simp [identityRule, h]

theorem Typed_identityRule (ops : List Op) (s t : Struct) (h : Typed ops s t) : Typed (identityRule ops) s t :=
  Typed_filter _ (fun o ho => identity_square o (by simpa using ho)) ops s t h

namespace OpSem

/-- product of the scalar values of a chain, and the chain without its scalar operators -/
def valProd : List Op → Rat
  | [] => 1
  | o :: os => if o.isHomothety then homValue o * valProd os else valProd os

def strip (ops : List Op) : List Op := ops.filter (fun o => !o.isHomothety)

end OpSem

/-- no operand is a `HomothetyOperator` -/
def NoHom (l : List Op) : Prop := ∀ o ∈ l, o.isHomothety = false

theorem NoHom_nil : NoHom [] := fun _ h => by simp at h

theorem NoHom_append {a b : List Op} : NoHom (a ++ b) ↔ NoHom a ∧ NoHom b := by
  simp only [NoHom, List.mem_append]
  exact ⟨fun h => ⟨fun o ho => h o (.inl ho), fun o ho => h o (.inr ho)⟩,
    fun h o ho => ho.elim (h.1 o) (h.2 o)⟩

theorem NoHom_cons {o : Op} {l : List Op} : NoHom (o :: l) ↔ o.isHomothety = false ∧ NoHom l := by
  simp [NoHom]

theorem NoHom_iff_filter {l : List Op} : NoHom l ↔ l.filter isHomothety = [] := by
  simp [NoHom, List.filter_eq_nil_iff]

theorem OpSem.strip_mem (ops : List Op) (o : Op) (h : o ∈ strip ops) : o ∈ ops :=
  (List.mem_filter.mp h).1

theorem NoHom_strip (l : List Op) : NoHom (strip l) := by
  intro o ho
  simpa [strip] using (List.mem_filter.mp ho).2

theorem strip_of_NoHom {l : List Op} (h : NoHom l) : strip l = l := by
  simp only [strip, List.filter_eq_self]
  intro o ho; simp [h o ho]

theorem strip_append (a b : List Op) : strip (a ++ b) = strip a ++ strip b := by
  simp [strip]

theorem strip_cons_hom {o : Op} (l : List Op) (h : o.isHomothety = true) : strip (o :: l) = strip l := by
  simp [strip, h]

theorem strip_cons_not {o : Op} (l : List Op) (h : o.isHomothety = false) : strip (o :: l) = o :: strip l := by
  simp [strip, h]

theorem strip_strip (l : List Op) : strip (strip l) = strip l := strip_of_NoHom (NoHom_strip l)

theorem valProd_cons_hom {o : Op} (l : List Op) (h : o.isHomothety = true) :
    valProd (o :: l) = homValue o * valProd l := by
  simp [valProd, h]

theorem valProd_of_NoHom {l : List Op} (h : NoHom l) : valProd l = 1 := by
  induction l with
  | nil => rfl
  | cons o os ih =>
    rw [NoHom_cons] at h
    simp [valProd, h.1, ih h.2]

theorem valProd_append (a b : List Op) : valProd (a ++ b) = valProd a * valProd b := by
  induction a with
  | nil => simp [valProd]
  | cons o os ih =>
    by_cases h : o.isHomothety = true
    · simp [valProd, h, ih, Rat.mul_assoc]
    · simp [valProd, h, ih]

theorem OpSem.foldl_mul_eq (l : List Op) (a : Rat) :
    l.foldl (fun acc o => acc * o.homValue) a = a * (l.map homValue).foldr (· * ·) 1 := by
  induction l generalizing a with
  | nil => simp [Rat.mul_one]
  | cons o os ih => simp only [List.foldl_cons, List.map_cons, List.foldr_cons, ih, Rat.mul_assoc]

theorem OpSem.valProd_eq_foldl (ops : List Op) :
    (ops.filter isHomothety).foldl (fun acc o => acc * o.homValue) 1 = valProd ops := by
  rw [foldl_mul_eq, Rat.one_mul]
  induction ops with
  | nil => rfl
  | cons o os ih =>
    by_cases h : o.isHomothety = true
    · simp [List.filter, h, valProd, ih]
    · simp [List.filter, h, valProd, ih]

theorem Typed_strip (ops : List Op) (s t : Struct) (h : Typed ops s t) : Typed (strip ops) s t :=
  Typed_filter _ (fun o ho => homothety_square o (by simpa using ho)) ops s t h

theorem filter_hom_le_one {h : Op} (hh : h.isHomothety = true) {l : List Op} (hl : NoHom l) {ops : List Op}
    (he : ops = h :: l ∨ ops = l ++ [h]) : (ops.filter isHomothety).length ≤ 1 := by
  rcases he with rfl | rfl
  · rw [List.filter_cons_of_pos hh, NoHom_iff_filter.mp hl]; exact Nat.le_refl 1
  · rw [List.filter_append, NoHom_iff_filter.mp hl, List.filter_cons_of_pos hh]; exact Nat.le_refl 1

/-- **Closed form of `HomothetyRule.apply`**, in terms of the output structure of the first and the input structure of
the last operand of the chain: without scalar operand the chain is returned; otherwise the result is ONE scalar
operator `h` — carrying the product of all the scalar values — in front of (output size ≤ input size, structure
`outSHead ops`) or behind (otherwise, structure `inSLast ops`) the non-scalar operands in their original order.  `h` is
newly made, or (when the chain is returned unchanged because its only scalar operand already stands at the right
end, or is the whole chain) that operand. -/
theorem homothetyRule_spec (ops : List Op) :
    (NoHom ops ∧ homothetyRule ops = ops) ∨
    (¬ NoHom ops ∧ ∃ h : Op, h.isHomothety = true ∧ (h ∈ ops ∨ ∃ s, h = mkHomothety (valProd ops) s) ∧
      homValue h = valProd ops ∧
      (((outSHead ops).size ≤ (inSLast ops).size ∧ Op.outS h = outSHead ops ∧
          homothetyRule ops = h :: strip ops) ∨
       (¬ (outSHead ops).size ≤ (inSLast ops).size ∧ Op.inS h = inSLast ops ∧
          homothetyRule ops = strip ops ++ [h]))) := by
  match ops with
  | [] => exact .inl ⟨NoHom_nil, rfl⟩
  | [o] =>
    -- a chain of one operand is returned as it is
    by_cases hh : o.isHomothety = true
    · refine .inr ⟨fun h => by simp [h o List.mem_cons_self] at hh, o, hh, .inl List.mem_cons_self, ?_, ?_⟩
      · rw [valProd_cons_hom _ hh]; exact (Rat.mul_one _).symm
      · have hs : strip [o] = [] := strip_cons_hom [] hh
        by_cases hle : (outSHead [o]).size ≤ (inSLast [o]).size
        · exact .inl ⟨hle, rfl, by rw [hs]; rfl⟩
        · exact .inr ⟨hle, rfl, by rw [hs]; rfl⟩
    · exact .inl ⟨NoHom_cons.mpr ⟨by simpa using hh, NoHom_nil⟩, rfl⟩
  | first :: o2 :: rest =>
    have hl := List.getLast?_eq_some_getLast (List.cons_ne_nil first (o2 :: rest))
    generalize (first :: o2 :: rest).getLast _ = last at hl
    rw [inSLast_eq_last _ last hl, show outSHead (first :: o2 :: rest) = Op.outS first from rfl]
    generalize he : homothetyRule (first :: o2 :: rest) = res
    simp only [homothetyRule, hl, valProd_eq_foldl] at he
    generalize hops : first :: o2 :: rest = ops at *
    split at he
    · rename_i h0
      exact .inl ⟨NoHom_iff_filter.mpr (List.length_eq_zero_iff.mp (by simpa using h0)), he.symm⟩
    rename_i h0
    refine .inr ⟨fun h => h0 (by rw [NoHom_iff_filter.mp h]; rfl), ?_⟩
    split at he
    · -- the only scalar operand already stands at the right end: unchanged
      rename_i hkeep
      simp only [Bool.and_eq_true, beq_iff_eq, Bool.or_eq_true, decide_eq_true_eq, Bool.not_eq_true',
        decide_eq_false_iff_not] at hkeep
      obtain ⟨h1, ⟨hle, hf⟩ | ⟨hnle, hlast⟩⟩ := hkeep
      · have htail : NoHom (o2 :: rest) := by
          rw [NoHom_iff_filter]
          rw [← hops, List.filter_cons_of_pos hf] at h1
          simpa using h1
        refine ⟨first, hf, .inl (hops ▸ List.mem_cons_self), ?_, .inl ⟨hle, rfl, ?_⟩⟩
        · rw [← hops, valProd_cons_hom _ hf, valProd_of_NoHom htail, Rat.mul_one]
        · rw [← he, ← hops, strip_cons_hom _ hf, strip_of_NoHom htail]
      · obtain ⟨init, hsplit⟩ := List.getLast?_eq_some_iff.mp hl
        have hinit : NoHom init := by
          rw [NoHom_iff_filter]
          rw [hsplit, List.filter_append, List.filter_cons_of_pos hlast] at h1
          simpa using h1
        refine ⟨last, hlast, .inl (by rw [hsplit]; simp), ?_, .inr ⟨hnle, rfl, ?_⟩⟩
        · rw [hsplit, valProd_append, valProd_of_NoHom hinit, valProd_cons_hom _ hlast, Rat.one_mul]
          simp [valProd]
        · rw [← he, hsplit, strip_append, strip_of_NoHom hinit, strip_cons_hom _ hlast]
          simp [strip]
    · split at he
      · exact ⟨_, isHomothety_mkHomothety _ _, .inr ⟨_, rfl⟩, homValue_mkHomothety _ _,
          .inl ⟨‹_›, outS_mkHomothety _ _, he.symm⟩⟩
      · exact ⟨_, isHomothety_mkHomothety _ _, .inr ⟨_, rfl⟩, homValue_mkHomothety _ _,
          .inr ⟨‹_›, inS_mkHomothety _ _, he.symm⟩⟩

theorem homothetyRule_forall (P : Op → Prop) (hhom : ∀ v s, P (mkHomothety v s)) (ops : List Op)
    (hP : ∀ o ∈ ops, P o) : ∀ o ∈ homothetyRule ops, P o := by
  rcases homothetyRule_spec ops with ⟨_, he⟩ | ⟨_, x, _, hxo, _, he⟩
  · rw [he]; exact hP
  · have hx : P x := hxo.elim (hP x) fun ⟨s, e⟩ => e ▸ hhom _ s
    have hs : ∀ o ∈ strip ops, P o := fun o ho => hP o (strip_mem ops o ho)
    rcases he with ⟨_, _, he⟩ | ⟨_, _, he⟩ <;> rw [he]
    · exact List.forall_mem_cons.mpr ⟨hx, hs⟩
    · exact fun o ho => (List.mem_append.mp ho).elim (hs o) fun h => List.mem_singleton.mp h ▸ hx

theorem homothetyRule_homCount (ops : List Op) :
    ((homothetyRule ops).filter isHomothety).length ≤ 1 := by
  rcases homothetyRule_spec ops with ⟨hn, he⟩ | ⟨_, x, hx, _, _, ⟨_, _, he⟩ | ⟨_, _, he⟩⟩
  · rw [he, NoHom_iff_filter.mp hn]; exact Nat.zero_le 1
  · exact filter_hom_le_one hx (NoHom_strip ops) (.inl he)
  · exact filter_hom_le_one hx (NoHom_strip ops) (.inr he)

theorem Typed_homothetyRule (ops : List Op) (s t : Struct) (h : Typed ops s t) :
    Typed (homothetyRule ops) s t := by
  rcases homothetyRule_spec ops with ⟨_, he⟩ | ⟨hn, x, hx, _, _, he⟩
  · rw [he]; exact h
  obtain ⟨hs, ht⟩ := Typed_ends ops s t (fun h0 => hn (h0 ▸ NoHom_nil)) h
  have hst := Typed_strip ops s t h
  rcases he with ⟨_, ho, he⟩ | ⟨_, hi, he⟩ <;> rw [he]
  · exact (Typed_cons ..).mpr ⟨ho.trans ht, by rw [homothety_square x hx, ho, ht]; exact hst⟩
  · refine (Typed_append ..).mpr ⟨s, ?_, hst⟩
    rw [Typed_cons, Typed_nil, ← homothety_square x hx, hi, hs]
    exact ⟨rfl, rfl⟩

namespace OpSem
variable {V : Type} (L : OpSem V)

/-- `IdentityRule.apply` preserves typing and denotation -/
theorem identityRule_sound : L.toSem.ListSound identityRule := by
  intro ops s t hok h
  refine ⟨fun o ho => hok o (identityRule_mem ops o ho), (Typed_identityRule ops s t h.typed).wt L, ?_⟩
  induction ops generalizing t with
  | nil => exact fun _ _ => rfl
  | cons o os ih =>
    obtain ⟨-, h2⟩ := h
    have hok' : ∀ o' ∈ os, StructOK o' := fun o' ho' => hok o' (List.mem_cons_of_mem _ ho')
    intro x hx
    by_cases hid : o.isIdentity = true
    · rw [identityRule_cons_id os hid, ih _ hok' h2 x hx]
      exact (L.identity_law o hid _ (L.toSem.WT_mem _ _ _ hok' h2 x hx)).symm
    · rw [identityRule_cons_not os hid]
      exact congrArg (L.den o) (ih _ hok' h2 x hx)

theorem app_homogeneous (ops : List Op) (s t : Struct) (hok : ∀ o ∈ ops, StructOK o)
    (h : L.toSem.WT ops s t) (a : Rat) (x : V)
    (hx : L.mem s x) : L.toSem.app ops (L.smul a x) = L.smul a (L.toSem.app ops x) := by
  induction ops generalizing t with
  | nil => rfl
  | cons o os ih =>
    obtain ⟨_, h2⟩ := h
    have hok' : ∀ o' ∈ os, StructOK o' := fun o' ho' => hok o' (List.mem_cons_of_mem _ ho')
    simp only [Sem.app, toSem_den]
    rw [ih _ hok' h2, L.homogeneous o a _ (hok o List.mem_cons_self) (L.toSem.WT_mem _ _ _ hok' h2 x hx)]

theorem strip_den (ops : List Op) (s t : Struct) (hok : ∀ o ∈ ops, StructOK o) (h : L.toSem.WT ops s t) :
    ∀ x, L.mem s x → L.toSem.app ops x = L.smul (valProd ops) (L.toSem.app (strip ops) x) := by
  induction ops generalizing t with
  | nil => exact fun x _ => (L.smul_one x).symm
  | cons o os ih =>
    obtain ⟨-, h2⟩ := h
    have hok' : ∀ o' ∈ os, StructOK o' := fun o' ho' => hok o' (List.mem_cons_of_mem _ ho')
    intro x hx
    by_cases hh : o.isHomothety = true
    · rw [strip_cons_hom os hh, valProd_cons_hom os hh, ← L.smul_smul, ← ih _ hok' h2 x hx]
      exact L.homothety_law o hh _ (L.toSem.WT_mem _ _ _ hok' h2 x hx)
    · have hm := L.toSem.WT_mem _ _ _ (fun o' ho' => hok' o' (strip_mem os o' ho'))
        ((Typed_strip os _ _ h2.typed).wt L) x hx
      rw [strip_cons_not os (by simpa using hh)]
      simp only [Sem.app, toSem_den, valProd, hh, Bool.false_eq_true, if_false]
      rw [ih _ hok' h2 x hx]
      exact L.homogeneous o _ _ (hok o List.mem_cons_self) hm

/-- `HomothetyRule.apply` preserves typing and denotation (any number of scalar factors, either side) -/
theorem homothetyRule_sound : L.toSem.ListSound homothetyRule := by
  intro ops s t hok h
  refine ⟨homothetyRule_forall StructOK StructOK_mkHomothety ops hok, (Typed_homothetyRule ops s t h.typed).wt L, ?_⟩
  rcases homothetyRule_spec ops with ⟨_, he⟩ | ⟨hn, x, hx, _, hv, he⟩
  · rw [he]; exact fun _ _ => rfl
  obtain ⟨hs, ht⟩ := Typed_ends ops s t (fun h0 => hn (h0 ▸ NoHom_nil)) h.typed
  have hsw := (Typed_strip ops s t h.typed).wt L
  have hsa := L.strip_den ops s t hok h
  have hoks : ∀ o ∈ strip ops, StructOK o := fun o ho => hok o (strip_mem _ o ho)
  rcases he with ⟨_, ho, he⟩ | ⟨_, hi, he⟩ <;> rw [he] <;> intro y hy
  · -- scalar on the left
    have hm : L.mem (Op.inS x) (L.toSem.app (strip ops) y) := by
      rw [homothety_square x hx, ho, ht]; exact L.toSem.WT_mem _ _ _ hoks hsw y hy
    rw [hsa y hy, ← hv]
    exact L.homothety_law x hx _ hm
  · -- scalar on the right
    rw [hsa y hy, L.toSem.app_append, ← hv, ← L.app_homogeneous _ _ _ hoks hsw _ _ hy]
    exact congrArg _ (L.homothety_law x hx _ (by rw [hi, hs]; exact hy))

end OpSem

/-- **Normal form.**  Whatever `AlgebraicReductionRule.apply` returns, no adjacent pair of it fires any
registered rule, and it contains at most one scalar operator. -/
theorem algebraicReduction_normal (red : Op → Except PyErr Op) (ops res : List Op)
    (hlen : 2 ≤ ops.length) (hres : algebraicReduction red ops = .ok res) :
    Irreducible (reductionCfg red) res ∧ (res.filter isHomothety).length ≤ 1 := by
  rcases algebraicReduction_ok hres with ⟨h, _⟩ | ⟨_, r, hscan, ⟨_, rfl⟩ | ⟨_, rfl⟩⟩
  · omega
  · exact ⟨fun i hi => by simp at hi, List.length_filter_le _ _⟩
  · exact ⟨scan_irreducible (reductionCfg red) _ _ _ _ (fun _ _ hi => absurd hi (Nat.not_lt_zero _)) hscan,
      scan_homCount (reductionCfg red) homothetyRule_homCount _ _ _ _ (homothetyRule_homCount _) hscan⟩

end Furax
