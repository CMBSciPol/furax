/-
Structural equality on the operator tree: `Op.beq` is reflexive and implies equality.
-/
import FuraxProofs.Lemmas.WellFormed
namespace Furax
namespace Op

theorem beqList_eq_of (as : List Op) (h : ∀ a ∈ as, ∀ b, Op.beq a b = true → a = b) :
    ∀ bs, Op.beqList as bs = true → as = bs := by
  induction as with
  | nil => intro bs hb; cases bs with
    | nil => rfl
    | cons b bs => cases hb
  | cons a as ih =>
    intro bs hb
    cases bs with
    | nil => cases hb
    | cons b bs =>
      rw [beqList, Bool.and_eq_true] at hb
      rw [h a List.mem_cons_self b hb.1, ih (fun a ha => h a (List.mem_cons_of_mem _ ha)) bs hb.2]

theorem beq_eq (a : Op) : ∀ b, Op.beq a b = true → a = b := by
  induction a using Op.induction_mem with
  | leaf u c p =>
    intro b h
    cases b <;> simp only [Op.beq, Bool.and_eq_true, beq_iff_eq, Bool.false_eq_true] at h
    obtain ⟨⟨rfl, rfl⟩, rfl⟩ := h; rfl
  | wrap u k o ih =>
    intro b h
    cases b <;> simp only [Op.beq, Bool.and_eq_true, beq_iff_eq, Bool.false_eq_true] at h
    obtain ⟨⟨rfl, rfl⟩, h⟩ := h; rw [ih _ h]
  | comp u os ih =>
    intro b h
    cases b <;> simp only [Op.beq, Bool.and_eq_true, beq_iff_eq, Bool.false_eq_true] at h
    obtain ⟨rfl, h⟩ := h; rw [beqList_eq_of os ih _ h]
  | cont u k td os ih =>
    intro b h
    cases b <;> simp only [Op.beq, Bool.and_eq_true, beq_iff_eq, Bool.false_eq_true] at h
    obtain ⟨⟨⟨rfl, rfl⟩, rfl⟩, h⟩ := h; rw [beqList_eq_of os ih _ h]

theorem beqList_eq : ∀ (a b : List Op), Op.beqList a b = true → a = b :=
  fun a => beqList_eq_of a fun a _ => beq_eq a

theorem beqList_refl_of (as : List Op) (h : ∀ a ∈ as, Op.beq a a = true) : Op.beqList as as = true := by
  induction as with
  | nil => rfl
  | cons a as ih =>
    rw [beqList, h a List.mem_cons_self, ih fun a ha => h a (List.mem_cons_of_mem _ ha)]; rfl

theorem beq_refl (a : Op) : Op.beq a a = true := by
  induction a using Op.induction_mem with
  | leaf u c p => simp only [Op.beq, beq_self_eq_true, Bool.and_self]
  | wrap u k o ih => simp only [Op.beq, beq_self_eq_true, ih, Bool.and_self]
  | comp u os ih => simp only [Op.beq, beq_self_eq_true, beqList_refl_of os ih, Bool.and_self]
  | cont u k td os ih => simp only [Op.beq, beq_self_eq_true, beqList_refl_of os ih, Bool.and_self]

theorem beqList_refl : ∀ (a : List Op), Op.beqList a a = true :=
  fun a => beqList_refl_of a fun a _ => beq_refl a

/-- the model's `is`: whenever it answers yes the two terms are equal -/
theorem same_eq (a b : Op) (h : same a b = true) : a = b := by
  simp only [same, Bool.and_eq_true] at h
  exact beq_eq a b h.2

/-- an object the harness saw `is` itself -/
theorem same_self {o : Op} (h : o.uid ≠ 0) : same o o = true := by
  rw [same, beq_refl, bne_iff_ne.mpr h, beq_self_eq_true]; rfl

/-- `w.operator is x`: then `w` is a wrapper of `x` -/
theorem operator_same {w o x : Op} (ho : w.operator? = some o) (hs : same o x = true) : ∃ u k, w = .wrap u k x :=
  same_eq o x hs ▸ operator?_eq_some.mp ho

end Op
end Furax
