/-
Lemmas for `StokesLandscape.pixel2index` (FuraxModel/Landscape.lean): rounding half-to-even,
the mixed-radix bijection between in-map integer coordinates and `0 … N-1` (any number of
dimensions), `-1` for out-of-map coordinates and the coverage histogram.
-/
import FuraxModel.Landscape
import FuraxProofs.Lemmas.AxesBasic
import Mathlib.Algebra.Order.Ring.Rat
import Mathlib.Algebra.Order.Group.Abs
namespace Furax.Landscape

theorem round_int (n : Int) : roundHalfEven (n : Rat) = n := by
  simp only [roundHalfEven, Rat.floor_intCast, sub_self]
  exact if_pos (by simp)

theorem roundHalfEven_cases (q : Rat) :
    roundHalfEven q = q.floor ∧ q - q.floor ≤ 1/2 ∨ roundHalfEven q = q.floor + 1 ∧ 1/2 ≤ q - q.floor := by
  unfold roundHalfEven
  simp only []
  split
  · exact .inl ⟨rfl, le_of_lt ‹_›⟩
  · split
    · exact .inr ⟨rfl, le_of_lt ‹_›⟩
    · have : q - q.floor = 1/2 := le_antisymm (not_lt.1 ‹_›) (not_lt.1 ‹_›)
      split
      · exact .inl ⟨rfl, this.le⟩
      · exact .inr ⟨rfl, this.ge⟩

theorem round_nearest (q : Rat) : |(roundHalfEven q : Rat) - q| ≤ 1/2 := by
  rcases roundHalfEven_cases q with ⟨e, h⟩ | ⟨e, h⟩ <;> rw [e]
  · rwa [abs_sub_comm, abs_of_nonneg (sub_nonneg.2 (Rat.floor_le q))]
  · have := Rat.lt_floor_add_one q
    rw [abs_of_nonneg (sub_nonneg.2 this.le)]
    push_cast; grind

/-- the flat index of the coordinates `is` in a map of dimensions `ds`, first coordinate fastest:
`i₀ + d₀ (i₁ + d₁ (…))` -/
def mixedRadix : List Nat → List Int → Int
  | d :: ds, i :: is => i + d * mixedRadix ds is
  | _, _ => 0

/-- as many coordinates as dimensions, each with `0 ≤ i < d` -/
def inRange : List Nat → List Int → Bool
  | [], [] => true
  | d :: ds, i :: is => decide (0 ≤ i) && decide (i < d) && inRange ds is
  | _, _ => false

theorem prodNat_nil : prodNat [] = 1 := rfl

theorem inRange_cons (d : Nat) (ds : List Nat) (i : Int) (is : List Int) :
    inRange (d :: ds) (i :: is) = true ↔ (0 ≤ i ∧ i < d) ∧ inRange ds is = true := by
  simp only [inRange, Bool.and_eq_true, decide_eq_true_eq]

theorem inRange_length (ds : List Nat) (is : List Int) (hr : inRange ds is = true) :
    ds.length = is.length := by
  fun_induction inRange ds is with
  | case1 => rfl
  | case2 d ds i is ih => rw [List.length_cons, List.length_cons, ih ((inRange_cons ..).1 hr).2]
  | case3 => cases hr

theorem accumulate_eq (ds : List Nat) (is : List Int) (h : ds.length = is.length)
    (acc : Int) (valid : Bool) (stride : Nat) :
    accumulate (is.zip ds) acc valid stride
      = (acc + stride * mixedRadix ds is, valid && inRange ds is) := by
  induction ds generalizing is acc valid stride with
  | nil =>
    cases is with
    | nil => simp [accumulate, mixedRadix, inRange]
    | cons i is => simp at h
  | cons d ds ih =>
    cases is with
    | nil => simp at h
    | cons i is =>
      rw [List.zip_cons_cons, accumulate, ih is (Nat.succ.inj h), mixedRadix, inRange, Int.natCast_mul,
        Int.mul_add, Int.mul_assoc, Int.add_assoc, Int.mul_comm i]
      simp only [Bool.and_assoc]

theorem pixel2indexInt_eq (ds : List Nat) (is : List Int) (h : ds.length = is.length) (hne : ds ≠ []) :
    pixel2indexInt ds is = some (if inRange ds is then mixedRadix ds is else -1) := by
  cases ds with
  | nil => exact absurd rfl hne
  | cons d ds =>
    cases is with
    | nil => simp at h
    | cons i is => rw [pixel2indexInt, accumulate_eq ds is (Nat.succ.inj h), mixedRadix, inRange, Bool.and_assoc]

def sumCounts (l : List (Int × Nat)) : Nat := (l.map (·.2)).sum

theorem sumCounts_cons (u : Int × Nat) (l : List (Int × Nat)) : sumCounts (u :: l) = u.2 + sumCounts l := rfl

theorem foldl_counts (l : List (Int × Nat)) (a : Nat) :
    l.foldl (fun a (u : Int × Nat) => a + u.2) a = a + sumCounts l := by
  induction l generalizing a with
  | nil => rfl
  | cons u l ih => rw [List.foldl_cons, ih, sumCounts_cons, Nat.add_assoc]

theorem sumCounts_filter (P : Int → Bool) (l : List (Int × Nat)) :
    sumCounts (l.filter fun u => P u.1) = (l.map fun u => if P u.1 then u.2 else 0).sum := by
  induction l with
  | nil => rfl
  | cons u l ih =>
    rw [List.filter_cons, List.map_cons, List.sum_cons, ← ih]
    split <;> simp [sumCounts_cons]

theorem sumCounts_filter_insertCount (P : Int → Bool) (v : Int) (l : List (Int × Nat)) :
    sumCounts ((insertCount v l).filter fun u => P u.1)
      = (if P v then 1 else 0) + sumCounts (l.filter fun u => P u.1) := by
  simp only [sumCounts_filter]
  induction l with
  | nil => rfl
  | cons u l ih =>
    obtain ⟨w, c⟩ := u
    rw [insertCount]
    split
    · rfl
    · split
      · rename_i h; subst h
        simp only [List.map_cons, List.sum_cons]
        split <;> omega
      · simp only [List.map_cons, List.sum_cons, ih]; omega

theorem sumCounts_filter_uniqueCounts (P : Int → Bool) (xs : List Int) :
    sumCounts ((uniqueCounts xs).filter fun u => P u.1) = (xs.filter P).length := by
  induction xs with
  | nil => rfl
  | cons x xs ih =>
    rw [uniqueCounts, List.foldr_cons, sumCounts_filter_insertCount, ← uniqueCounts, ih, List.filter_cons]
    split <;> simp +arith

theorem coverage_eq (n : Nat) (idx : List Int) :
    coverage n idx = (List.range n).map fun (p : Nat) =>
      (idx.filter (fun i => normIdx n i = Int.ofNat p)).length := by
  unfold coverage scatterAddCounts
  apply List.map_congr_left
  intro p _
  rw [foldl_counts, Nat.zero_add]
  exact sumCounts_filter_uniqueCounts (fun i => decide (normIdx n i = Int.ofNat p)) idx

theorem sum_range_indicator {M} [AddMonoid M] (n a : Nat) (f : Nat → M) :
    ((List.range n).map fun p => if a = p then f p else 0).sum = if a < n then f a else 0 := by
  induction n with
  | zero => rfl
  | succ n ih =>
    rw [List.range_succ, List.map_append, List.sum_append, ih, List.map_singleton, List.sum_singleton]
    rcases Nat.lt_trichotomy a n with h | rfl | h
    · rw [if_pos h, if_neg (Nat.ne_of_lt h), if_pos (Nat.lt_succ_of_lt h), add_zero]
    · rw [if_neg (Nat.lt_irrefl a), if_pos rfl, if_pos (Nat.lt_succ_self a), zero_add]
    · rw [if_neg (Nat.lt_asymm h), if_neg (Nat.ne_of_gt h), if_neg (by omega), add_zero]

theorem sum_map_add' {M} [AddCommMonoid M] (l : List Nat) (f g : Nat → M) :
    (l.map fun p => f p + g p).sum = (l.map f).sum + (l.map g).sum := by
  induction l with
  | nil => exact (add_zero 0).symm
  | cons a l ih => simp only [List.map_cons, List.sum_cons, ih]; exact add_add_add_comm _ _ _ _

theorem sum_map_zero' {M} [AddMonoid M] (l : List Nat) : (l.map fun _ => (0 : M)).sum = 0 := by
  induction l with
  | nil => rfl
  | cons a l ih => rw [List.map_cons, List.sum_cons, ih, add_zero]

theorem coverage_sum (n : Nat) (idx : List Int) (h : ∀ i ∈ idx, 0 ≤ i ∧ i < (n : Int)) :
    (coverage n idx).sum = idx.length := by
  rw [coverage_eq]
  induction idx with
  | nil => exact sum_map_zero' _
  | cons i idx ih =>
    rw [List.forall_mem_cons] at h
    obtain ⟨a, rfl⟩ := Int.eq_ofNat_of_zero_le h.1.1
    have hn : normIdx n a = a := if_neg (Int.not_lt.2 h.1.1)
    -- the new sample adds one hit to the pixel `a` and none elsewhere
    have : ∀ p : Nat, (((a : Int) :: idx).filter (fun i => normIdx n i = Int.ofNat p)).length
        = (if a = p then 1 else 0) + (idx.filter (fun i => normIdx n i = Int.ofNat p)).length := by
      intro p
      rw [List.filter_cons, hn, Int.ofNat_eq_natCast]
      by_cases hp : a = p
      · rw [if_pos (decide_eq_true (congrArg Nat.cast hp)), if_pos hp, List.length_cons, Nat.add_comm]
      · rw [if_neg (mt (fun e => Int.ofNat_inj.1 (of_decide_eq_true e)) hp), if_neg hp, Nat.zero_add]
    rw [funext this, sum_map_add', ih h.2, sum_range_indicator, if_pos (Int.ofNat_lt.1 h.1.2), List.length_cons,
      Nat.add_comm]

end Furax.Landscape
