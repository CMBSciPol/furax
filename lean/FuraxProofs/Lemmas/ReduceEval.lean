/-
Computing with `fireFirst`, `scan` and `reduce`, and reading their answers backwards.

`Answer Φ Ψ x` says of the answer `x` of a rule that it declined, fired with an output satisfying `Φ` or raised an
exception satisfying `Ψ`; the `<rule>_answer` lemmas state in this form what each registered rule of
FuraxModel/Reduce.lean answers on a pair `l r`, whatever the semantics.

Each registered rule looks at the classes of its two operands before anything else, so on a given pair most of the
registry declines for a reason that can be read off the two constructors: `fireFirst_rules` states this once for the
nine structural rules (move-axis, reshape, pack, the four block rules, the two index rules); what is left is the
inverse rule and the three polarimetry rules.

Core Lean only (no Mathlib).
-/
import FuraxModel.Reduce
import FuraxProofs.Lemmas.OpEq
namespace Furax
open Op

theorem fireFirst_cons_none {O E} {ru : Rule O E} {l r : O} (rest : List (Rule O E))
    (h : ru.fire l r = .ok none) : fireFirst (ru :: rest) l r = fireFirst rest l r := by
  rw [fireFirst, h]

theorem fireFirst_cons_some {O E} {ru : Rule O E} {l r : O} {new : List O} (rest : List (Rule O E))
    (h : ru.fire l r = .ok (some new)) : fireFirst (ru :: rest) l r = .ok (some new) := by
  rw [fireFirst, h]

theorem fireFirst_mem {O E} (rules : List (Rule O E)) (l r : O) :
    fireFirst rules l r = .ok none ∨ ∃ ru ∈ rules, ru.fire l r = fireFirst rules l r := by
  induction rules with
  | nil => exact .inl rfl
  | cons ru rest ih =>
    cases hf : ru.fire l r with
    | error e => exact .inr ⟨ru, List.mem_cons_self, by rw [fireFirst, hf]⟩
    | ok o =>
      cases o with
      | none =>
        rw [fireFirst_cons_none _ hf]
        exact ih.imp_right fun ⟨ru', hm, h⟩ => ⟨ru', List.mem_cons_of_mem _ hm, h⟩
      | some new => exact .inr ⟨ru, List.mem_cons_self, by rw [fireFirst_cons_some _ hf, hf]⟩

theorem fireFirst_some {O E} (rules : List (Rule O E)) (l r : O) (new : List O)
    (h : fireFirst rules l r = .ok (some new)) : ∃ ru ∈ rules, ru.fire l r = .ok (some new) :=
  (fireFirst_mem rules l r).elim (fun h0 => nomatch h.symm.trans h0) fun ⟨ru, hm, hf⟩ => ⟨ru, hm, hf.trans h⟩

theorem fireFirst_error {O E} (rules : List (Rule O E)) (l r : O) (e : E)
    (h : fireFirst rules l r = .error e) : ∃ ru ∈ rules, ru.fire l r = .error e :=
  (fireFirst_mem rules l r).elim (fun h0 => nomatch h.symm.trans h0) fun ⟨ru, hm, hf⟩ => ⟨ru, hm, hf.trans h⟩

theorem dropIdentities_none {ru : BRule} {l r : Op} (h : ru.fire l r = .ok none) :
    (dropIdentities ru).fire l r = .ok none := by
  simp only [dropIdentities, h]

theorem dropIdentities_some {ru : BRule} {l r : Op} {new : List Op} (h : ru.fire l r = .ok (some new)) :
    (dropIdentities ru).fire l r = .ok (some (identityRule new)) := by
  simp only [dropIdentities, h]

theorem dropIdentities_fire {ru : BRule} {l r : Op} {new : List Op}
    (h : (dropIdentities ru).fire l r = .ok (some new)) :
    ∃ new0, ru.fire l r = .ok (some new0) ∧ new = identityRule new0 := by
  cases hf : ru.fire l r with
  | error e => simp only [dropIdentities, hf] at h; cases h
  | ok o =>
    cases o with
    | none => rw [dropIdentities_none hf] at h; cases h
    | some new0 => rw [dropIdentities_some hf] at h; cases h; exact ⟨new0, rfl, rfl⟩

theorem dropIdentities_error {ru : BRule} {l r : Op} {e : PyErr} (h : (dropIdentities ru).fire l r = .error e) :
    ru.fire l r = .error e := by
  simp only [dropIdentities] at h
  split at h
  · cases h
  · exact h

theorem reductionCfg_fire (red : Op → Except PyErr Op) {l r : Op} {new : List Op}
    (h : fireFirst (reductionCfg red).rules l r = .ok (some new)) :
    ∃ ru ∈ binaryRules red, ∃ new0, ru.fire l r = .ok (some new0) ∧ new = identityRule new0 := by
  obtain ⟨ru, hm, hf⟩ := fireFirst_some _ l r new h
  obtain ⟨ru0, hm0, rfl⟩ := List.mem_map.mp hm
  exact ⟨ru0, hm0, dropIdentities_fire hf⟩

theorem reductionCfg_error (red : Op → Except PyErr Op) {l r : Op} {e : PyErr}
    (h : fireFirst (reductionCfg red).rules l r = .error e) : ∃ ru ∈ binaryRules red, ru.fire l r = .error e := by
  obtain ⟨ru, hm, hf⟩ := fireFirst_error _ l r e h
  obtain ⟨ru0, hm0, rfl⟩ := List.mem_map.mp hm
  exact ⟨ru0, hm0, dropIdentities_error hf⟩

/-- leaves of different classes are different objects -/
theorem same_leaf_of_ne {u u' : Nat} {c c' : LeafCls} {p p' : Params} (h : c ≠ c') :
    same (.leaf u c p) (.leaf u' c' p') = false := by
  simp [same, beq, h]

/-- the answer of a rule: it declined, fired with an output satisfying `Φ`, or raised an exception satisfying `Ψ` -/
def Answer {O E : Type} (Φ : List O → Prop) (Ψ : E → Prop) : Except E (Option (List O)) → Prop
  | .ok none => True
  | .ok (some new) => Φ new
  | .error e => Ψ e

theorem Answer.none {O E : Type} {Φ : List O → Prop} {Ψ : E → Prop} : Answer Φ Ψ (.ok .none) := trivial

section
variable {O E : Type} {Φ Φ' : List O → Prop} {Ψ Ψ' : E → Prop} {x y : Except E (Option (List O))}

theorem Answer.ite {c : Prop} [Decidable c] (hx : c → Answer Φ Ψ x) (hy : ¬ c → Answer Φ Ψ y) :
    Answer Φ Ψ (if c then x else y) := by
  split
  · exact hx ‹_›
  · exact hy ‹_›

/-- `if not isinstance(..): raise NoReduction` -/
theorem Answer.guard {b : Bool} (hy : b = true → Answer Φ Ψ y) : Answer Φ Ψ (if !b then .ok .none else y) := by
  cases b
  · exact .none
  · exact hy rfl

theorem Answer.bind {α : Type} {t : Except E α} {f : α → Except E (Option (List O))}
    (hok : ∀ a, t = .ok a → Answer Φ Ψ (f a)) (herr : ∀ e, t = .error e → Ψ e) : Answer Φ Ψ (t >>= f) := by
  cases t with
  | error e => exact herr e rfl
  | ok a => exact hok a rfl

theorem Answer.fire {new : List O} (h : Answer Φ Ψ x) (hx : x = .ok (some new)) : Φ new := by
  subst hx; exact h

theorem Answer.error {e : E} (h : Answer Φ Ψ x) (hx : x = .error e) : Ψ e := by
  subst hx; exact h

theorem Answer.eq_none (h : Answer Φ Ψ x) (hΦ : ∀ new, ¬ Φ new) (hΨ : ∀ e, ¬ Ψ e) : x = .ok .none :=
  match x, h with
  | .ok .none, _ => rfl
  | .ok (some new), h => (hΦ new h).elim
  | .error e, h => (hΨ e h).elim

theorem Answer.mono (h : Answer Φ Ψ x) (hΦ : ∀ new, Φ new → Φ' new) (hΨ : ∀ e, Ψ e → Ψ' e) : Answer Φ' Ψ' x :=
  match x, h with
  | .ok .none, _ => trivial
  | .ok (some new), h => hΦ new h
  | .error e, h => hΨ e h

end

/-- `x.operator is y`, the last test of four of the rules: they fire, with the empty chain, on a wrapper of `y` -/
theorem Answer.operator {Φ : List Op → Prop} {Ψ : PyErr → Prop} {x y : Op} (h : ∀ u k, x = .wrap u k y → Φ []) :
    Answer Φ Ψ (match x.operator? with
      | some o => if same o y then .ok (some []) else .ok .none
      | .none => .ok .none) := by
  cases hx : x.operator? with
  | none => exact .none
  | some o =>
    refine .ite (fun hs => ?_) fun _ => .none
    obtain ⟨u, k, e⟩ := operator_same hx hs
    exact h u k e

theorem inverseBinaryRule_answer (l r : Op) :
    Answer (fun new => new = [] ∧ ((∃ u k, k.isLazy ∧ l = .wrap u k r) ∨ (∃ u k, k.isLazy ∧ r = .wrap u k l)))
      (fun _ => False) (inverseBinaryRule.fire l r) := by
  refine .guard fun hor => ?_
  refine .ite (fun hl => .operator fun u k e => ?_) fun hl => .operator fun u k e => ?_
  · exact ⟨rfl, .inl ⟨u, k, (isLazyInverse_wrap u k r).mp (e ▸ hl), e⟩⟩
  · have hr := (Bool.or_eq_true_iff.mp hor).resolve_left hl
    exact ⟨rfl, .inr ⟨u, k, (isLazyInverse_wrap u k l).mp (e ▸ hr), e⟩⟩

theorem moveAxisInverseRule_answer (l r : Op) :
    Answer (fun new => new = [] ∧ ∃ ul pl ur pr, l = .leaf ul .moveAxis pl ∧ r = .leaf ur .moveAxis pr ∧
        pl.ints.getD 0 [] = pr.ints.getD 1 [] ∧ pl.ints.getD 1 [] = pr.ints.getD 0 [])
      (fun _ => False) (moveAxisInverseRule.fire l r) := by
  simp only [moveAxisInverseRule]
  split
  · refine .ite (fun _ => .none) fun hc => ⟨rfl, _, _, _, _, rfl, rfl, ?_⟩
    simpa only [Bool.or_eq_true, bne_iff_ne, ne_eq, not_or, Decidable.not_not] using hc
  · exact .none

theorem reshapeInverseRule_answer (l r : Op) :
    Answer (fun new => new = [] ∧ ((l.isRavelOrReshape = true ∧ ∃ u, r = .wrap u .reshapeT l) ∨
        (r.isRavelOrReshape = true ∧ ∃ u, l = .wrap u .reshapeT r)))
      (fun _ => False) (reshapeInverseRule.fire l r) := by
  refine .guard fun hl => .guard fun _ => ?_
  refine .ite (fun hlr => .guard fun hrt => .operator fun u k e => ?_)
    fun hlr => .guard fun hrr => .operator fun u k e => ?_
  · -- `l` is a ravel/reshape operator: `r` has to be a `ReshapeTransposeOperator`, of `l`
    subst e
    obtain rfl : WrapCls.reshapeT = k := (isWrapCls_wrap u l).mp hrt
    exact ⟨rfl, .inl ⟨hlr, u, rfl⟩⟩
  · -- otherwise `l` is a `ReshapeTransposeOperator`: `r` has to be its ravel/reshape operand
    subst e
    obtain rfl : WrapCls.reshapeT = k := (isWrapCls_wrap u r).mp ((Bool.or_eq_true_iff.mp hl).resolve_left hlr)
    exact ⟨rfl, .inr ⟨hrr, u, rfl⟩⟩

theorem packUnpackRule_answer (l r : Op) :
    Answer (fun new => new = [] ∧ l.isPack = true ∧ r.isTransposeOperator = true ∧ ∃ u k, r = .wrap u k l)
      (fun _ => False) (packUnpackRule.fire l r) := by
  refine .guard fun hp => .guard fun ht => .operator fun u k e => ?_
  exact ⟨rfl, hp, ht, u, k, e⟩

theorem indexTransposeRule_answer (l r : Op) :
    Answer (fun new => new = [] ∧ r.isTransposeOperator = true ∧
        ∃ ul p u k, l = .leaf ul .index p ∧ r = .wrap u k l ∧ p.flag = true)
      (fun _ => False) (indexTransposeRule.fire l r) := by
  simp only [indexTransposeRule]
  split
  · next ul p =>
    refine .guard fun ht => ?_
    cases ho : r.operator? with
    | none => exact .none
    | some o =>
      refine .guard fun hs => .guard fun hflag => ?_
      obtain ⟨u, k, rfl⟩ := operator_same ho hs
      exact ⟨rfl, ht, ul, p, u, k, rfl, rfl, hflag⟩
  · exact .none

/-- `TransposeIndexRule` fires on `indexᵀ, index` for an index operator without the `unique_indices` promise that
indexes one axis with an integer array, over leaves of one shape and dtype, and returns the diagonal operator of the
coverage counts -/
theorem transposeIndexRule_answer (l r : Op) :
    Answer (fun new => r.isIndex = true ∧ l.isTransposeOperator = true ∧ ∃ d, new = [.leaf 0 .diagonal d] ∧
        ∃ ur p u k axis shape sh vals sizeMax, r = .leaf ur .index p ∧ l = .wrap u k r ∧ p.flag = false ∧
          (indexedAxes p.idx).length ≤ 1 ∧ (indexedAxes p.idx).head? = some axis ∧
          ((p.inS.leaves.map (·.shape)).eraseDups).length ≤ 1 ∧
          ((p.inS.leaves.map (·.shape)).eraseDups).head? = some shape ∧
          pyGet? p.idx axis = some (.iarr sh vals) ∧ pyGet? shape axis = some sizeMax ∧
          d = { inS := p.inS, outS := p.inS,
                vals := ⟨[sizeMax], (ruleCoverage sizeMax vals).map (fun (c : Nat) => (c : Rat))⟩, ints := [[axis]] })
      (fun e => r.isIndex = true ∧ l.isTransposeOperator = true ∧ (e = .indexError ∨ e = .assertion))
      (transposeIndexRule.fire l r) := by
  -- on every other pair of constructors the rule evaluates to `NoReduction` (`split` on the `match` of the definition
  -- does the same but is slow to check on a term of this size)
  cases r with
  | leaf ur c p =>
    by_cases hc : c = .index
    · subst hc
      refine .guard fun ht => ?_
      cases ho : l.operator? with
      | none => exact .none
      | some o =>
        refine .guard fun hs => .ite (fun _ => .none) fun hax => .ite (fun _ => .none) fun hflag =>
          .ite (fun _ => .none) fun _ => .ite (fun _ => .none) fun hsh => ?_
        obtain ⟨u, k, rfl⟩ := operator_same ho hs
        split
        · next shape axis hshape haxis =>
          split
          · next sh vals sizeMax hidx hsize =>
            exact ⟨rfl, ht, _, rfl, ur, p, u, k, axis, shape, sh, vals, sizeMax, rfl, rfl, Bool.eq_false_iff.mpr hflag,
              Nat.le_of_not_gt hax, haxis, Nat.le_of_not_gt hsh, hshape, hidx, hsize, rfl⟩
          · exact ⟨rfl, ht, .inl rfl⟩
          · exact ⟨rfl, ht, .inr rfl⟩
        · exact ⟨rfl, ht, .inl rfl⟩
    · cases c <;> first | exact absurd rfl hc | exact .none
  | _ => exact .none

theorem tensorOp_error {f : Rat → Rat → Rat} {a b : Tensor Rat} {e : PyErr} (h : tensorOp f a b = .error e) :
    e = .valueError := by
  unfold tensorOp at h
  split at h <;> cases h
  rfl

/-- the angles of a rotation, or of the rotation under a transpose: `left.angles` / `left.operator.angles` -/
def rotAngles (o : Op) : Tensor Rat :=
  match o with
  | .wrap _ _ o' => anglesOf o'
  | _ => anglesOf o

/-- the angles of the product of two rotations or transposed rotations: R(a) R(b) = R(a+b), R(a) R(b)ᵀ = R(a-b),
R(a)ᵀ R(b) = R(b-a), R(a)ᵀ R(b)ᵀ = R(-a-b) -/
def rotProdAngles (l r : Op) : Except PyErr (Tensor Rat) :=
  if l.isQURot then
    (if r.isQURot then tensorOp (· + ·) (rotAngles l) (rotAngles r) else tensorOp (· - ·) (rotAngles l) (rotAngles r))
  else
    (if r.isQURot then tensorOp (· - ·) (rotAngles r) (rotAngles l)
      else tensorOp (· - ·) ((rotAngles l).map (- ·)) (rotAngles r))

theorem quRotationRule_answer (l r : Op) :
    Answer (fun new => (l.isQURot || l.isQURotT) = true ∧ (r.isQURot || r.isQURotT) = true ∧
        ∃ a, new = [mkQURot a (Op.inS r)] ∧ rotProdAngles l r = .ok a)
      (fun e => e = .valueError) (quRotationRule.fire l r) := by
  refine .guard fun hl => .guard fun hr => ?_
  dsimp only
  split
  · next e he => split at he <;> split at he <;> exact tensorOp_error he
  · next a ha => exact ⟨hl, hr, a, rfl, ha⟩

theorem quRotationHWPRule_answer (l r : Op) :
    Answer (fun new => (l.isQURot || l.isQURotT) = true ∧ r.isHWP = true ∧
        new = [r, l.operator?.getD (.wrap 0 .qurotT l)])
      (fun _ => False) (quRotationHWPRule.fire l r) := by
  refine .guard fun hl => .guard fun hr => ?_
  cases l <;> exact ⟨hl, hr, rfl⟩

theorem linearPolarizerHWPRule_answer (l r : Op) :
    Answer (fun new => l.isPolarizer = true ∧ r.isHWP = true ∧ new = [l]) (fun _ => False)
      (linearPolarizerHWPRule.fire l r) := by
  refine .ite (fun hc => ?_) fun _ => .none
  exact ⟨(Bool.and_eq_true_iff.mp hc).1, (Bool.and_eq_true_iff.mp hc).2, rfl⟩

/-- `isinstance(x, AbstractBlockOperator)`-like test: `x` holds a container of operators -/
def isCont : Op → Bool
  | .cont .. => true
  | _ => false

/-- what a block rule raises: the exception of one of the block products or of the inner `red` on the fresh
container -/
def BlockErr (red : Op → Except PyErr Op) (e : PyErr) : Prop :=
  (∃ ps : List (Op × Op), (ps.mapM fun p => pyMatmul p.1 p.2) = .error e) ∨
    ∃ k td prods, red (.cont 0 k td prods) = .error e

/-- a block rule fires on two containers of its classes over the same pytree, when every slot-wise product
`l @ r` and the `reduce()` of their container succeed -/
theorem blockRule_answer (red : Op → Except PyErr Op) (name : String) (lk rk res : ContCls) (l r : Op) :
    Answer (fun new => isCont l = true ∧ isCont r = true ∧ ∃ c', new = [c'] ∧
        ∃ ul ur td lops rops prods, l = .cont ul lk td lops ∧ r = .cont ur rk td rops ∧
          lops.length = rops.length ∧
          (lops.zip rops).mapM (fun (p : Op × Op) => pyMatmul p.1 p.2) = .ok prods ∧
          red (.cont 0 res td prods) = .ok c')
      (fun e => isCont l = true ∧ isCont r = true ∧ BlockErr red e) ((blockRule red name lk rk res).fire l r) := by
  simp only [blockRule]
  split
  · next ul lk' ltd lops ur rk' rtd rops =>
    refine .ite (fun hk => .ite (fun _ => .none) fun hc => ?_) fun _ => .none
    simp only [Bool.and_eq_true, beq_iff_eq] at hk
    simp only [Bool.or_eq_true, bne_iff_ne, ne_eq, not_or, Decidable.not_not] at hc
    obtain ⟨rfl, rfl⟩ := hk
    obtain ⟨rfl, hlen⟩ := hc
    refine .bind (fun prods hp => .bind (fun c hc' => ?_) fun e he => ⟨rfl, rfl, .inr ⟨_, _, _, he⟩⟩)
      fun e he => ⟨rfl, rfl, .inl ⟨_, he⟩⟩
    exact ⟨rfl, rfl, c, rfl, ul, ur, ltd, lops, rops, prods, rfl, rfl, hlen, hp, hc'⟩
  · exact .none

theorem moveAxisInverseRule_none {l r : Op} (h : l.isMoveAxis = false ∨ r.isMoveAxis = false) :
    moveAxisInverseRule.fire l r = .ok none :=
  (moveAxisInverseRule_answer l r).eq_none (fun _ ⟨_, _, _, _, _, hl, hr, _⟩ => by
    subst hl hr
    rcases h with h | h <;> cases h) nofun

theorem reshapeInverseRule_none {l r : Op}
    (h : (l.isRavelOrReshape = false ∧ l.isReshapeT = false) ∨ (r.isRavelOrReshape = false ∧ r.isReshapeT = false)) :
    reshapeInverseRule.fire l r = .ok none :=
  (reshapeInverseRule_answer l r).eq_none (fun _ ⟨_, hΦ⟩ => by
    rcases hΦ with ⟨hl, u, rfl⟩ | ⟨hr, u, rfl⟩ <;> rcases h with ⟨h1, h2⟩ | ⟨h1, h2⟩
    · exact nomatch hl.symm.trans h1
    · cases h2
    · cases h2
    · exact nomatch hr.symm.trans h1) nofun

theorem packUnpackRule_none {l r : Op} (h : l.isPack = false ∨ r.isTransposeOperator = false) :
    packUnpackRule.fire l r = .ok none :=
  (packUnpackRule_answer l r).eq_none
    (fun _ ⟨_, hp, ht, _⟩ => h.elim (fun h => nomatch hp.symm.trans h) fun h => nomatch ht.symm.trans h) nofun

theorem blockRule_none (red : Op → Except PyErr Op) (name : String) (lk rk res : ContCls) {l r : Op}
    (h : isCont l = false ∨ isCont r = false) : (blockRule red name lk rk res).fire l r = .ok none :=
  have hno : ¬ (isCont l = true ∧ isCont r = true) :=
    fun ⟨hl, hr⟩ => h.elim (fun h => nomatch hl.symm.trans h) fun h => nomatch hr.symm.trans h
  (blockRule_answer red name lk rk res l r).eq_none (fun _ h => hno ⟨h.1, h.2.1⟩) fun _ h => hno ⟨h.1, h.2.1⟩

theorem indexTransposeRule_none {l r : Op} (h : l.isIndex = false ∨ r.isTransposeOperator = false) :
    indexTransposeRule.fire l r = .ok none :=
  (indexTransposeRule_answer l r).eq_none (fun _ ⟨_, ht, _, _, _, _, hl, _⟩ =>
    h.elim (fun h => by subst hl; cases h) fun h => nomatch ht.symm.trans h) nofun

theorem transposeIndexRule_none {l r : Op} (h : r.isIndex = false ∨ l.isTransposeOperator = false) :
    transposeIndexRule.fire l r = .ok none :=
  have hno : ¬ (r.isIndex = true ∧ l.isTransposeOperator = true) :=
    fun ⟨hr, ht⟩ => h.elim (fun h => nomatch hr.symm.trans h) fun h => nomatch ht.symm.trans h
  (transposeIndexRule_answer l r).eq_none (fun _ h => hno ⟨h.1, h.2.1⟩) fun _ h => hno ⟨h.1, h.2.1⟩

/-- the rules left once the structural ones decline (`fireFirst_rules`): the inverse rule and the three polarimetry
rules -/
def stokesRules : List BRule :=
  [inverseBinaryRule, quRotationRule, quRotationHWPRule, linearPolarizerHWPRule].map dropIdentities

/-- **the structural rules decline** a pair whose classes they do not match: the registry then acts as the inverse
rule followed by the three polarimetry rules.  One hypothesis per structural rule, in registry order: move-axis pair
(`hma`), reshape pair (`hre`), pack/unpack (`hpk`), the four block rules (`hct`), index ∘ transpose (`hit`),
transpose ∘ index (`hti`); each says that one operand is not of the class the rule tests.  On constructor terms
every hypothesis is `.inl rfl` or `.inr rfl`. -/
theorem fireFirst_rules (red : Op → Except PyErr Op) {l r : Op}
    (hma : l.isMoveAxis = false ∨ r.isMoveAxis = false)
    (hre : (l.isRavelOrReshape = false ∧ l.isReshapeT = false) ∨ (r.isRavelOrReshape = false ∧ r.isReshapeT = false))
    (hpk : l.isPack = false ∨ r.isTransposeOperator = false)
    (hct : isCont l = false ∨ isCont r = false)
    (hit : l.isIndex = false ∨ r.isTransposeOperator = false)
    (hti : r.isIndex = false ∨ l.isTransposeOperator = false) :
    fireFirst (reductionCfg red).rules l r = fireFirst stokesRules l r := by
  have hb := fun name lk rk res => dropIdentities_none (blockRule_none red name lk rk res hct)
  simp only [reductionCfg, binaryRules, stokesRules, List.map]
  cases h : (dropIdentities inverseBinaryRule).fire l r with
  | error e => simp only [fireFirst, h]
  | ok o =>
    cases o with
    | some new => simp only [fireFirst, h]
    | none =>
      rw [fireFirst_cons_none _ h, fireFirst_cons_none _ h,
        fireFirst_cons_none _ (dropIdentities_none (moveAxisInverseRule_none hma)),
        fireFirst_cons_none _ (dropIdentities_none (reshapeInverseRule_none hre)),
        fireFirst_cons_none _ (dropIdentities_none (packUnpackRule_none hpk)),
        fireFirst_cons_none _ (hb ..), fireFirst_cons_none _ (hb ..), fireFirst_cons_none _ (hb ..),
        fireFirst_cons_none _ (hb ..),
        fireFirst_cons_none _ (dropIdentities_none (indexTransposeRule_none hit)),
        fireFirst_cons_none _ (dropIdentities_none (transposeIndexRule_none hti))]

theorem scan_stop {O E} (c : Cfg O E) (fuel : Nat) (ops : List O) (i : Nat) (h : ¬ i + 1 < ops.length) :
    scan c (fuel + 1) ops i = .ok (some ops) := by
  rw [scan, dif_neg h]

-- the bounds of `ops[i]` and `ops[i + 1]` are written out: the default tactic finds them, but slowly
theorem scan_advance {O E} (c : Cfg O E) (fuel : Nat) (ops : List O) (i : Nat) (h : i + 1 < ops.length)
    (hf : fireFirst c.rules (ops[i]'(Nat.lt_of_succ_lt h)) (ops[i + 1]'h) = .ok none) :
    scan c (fuel + 1) ops i = scan c fuel ops (i + 1) := by
  rw [scan, dif_pos h, hf]

theorem scan_fire {O E} (c : Cfg O E) (fuel : Nat) (ops : List O) (i : Nat) (h : i + 1 < ops.length)
    {new : List O} (hf : fireFirst c.rules (ops[i]'(Nat.lt_of_succ_lt h)) (ops[i + 1]'h) = .ok (some new))
    (hh : new.any c.isHom = false) :
    scan c (fuel + 1) ops i = scan c fuel (splice ops i new) (i - 1) := by
  rw [scan, dif_pos h, hf]
  simp only [hh, Bool.false_eq_true, if_false]

theorem scan_fire_hom {O E} (c : Cfg O E) (fuel : Nat) (ops : List O) (i : Nat) (h : i + 1 < ops.length)
    {new : List O} (hf : fireFirst c.rules (ops[i]'(Nat.lt_of_succ_lt h)) (ops[i + 1]'h) = .ok (some new))
    (hh : new.any c.isHom = true) :
    scan c (fuel + 1) ops i = scan c fuel (c.homRule (splice ops i new)) 0 := by
  rw [scan, dif_pos h, hf]
  simp only [hh, if_true]

/-- `AlgebraicReductionRule.apply` over a scan whose result is known at every fuel of the form `fuel + 32`: the fuel
it gives the scan is `scanFuel n = 8 (n+2)² + 32`, and `32` is that constant term -/
theorem algebraicReduction_of_scan (red : Op → Except PyErr Op) {ops ops2 res : List Op} (hlen : 2 ≤ ops.length)
    (hpre : homothetyRule (identityRule ops) = ops2) (hres : res ≠ [])
    (hs : ∀ fuel, scan (reductionCfg red) (fuel + 32) ops2 0 = .ok (some res)) :
    algebraicReduction red ops = .ok res := by
  unfold algebraicReduction
  rw [if_neg (by omega), hpre]
  simp only [scanFuel, hs]
  cases res with
  | nil => exact absurd rfl hres
  | cons a as => rfl

theorem algebraicReduction_ok {red : Op → Except PyErr Op} {ops res : List Op}
    (h : algebraicReduction red ops = .ok res) :
    (ops.length < 2 ∧ res = ops) ∨
    (2 ≤ ops.length ∧ ∃ r,
      scan (reductionCfg red) (scanFuel (homothetyRule (identityRule ops)).length)
        (homothetyRule (identityRule ops)) 0 = .ok (some r) ∧
      ((r = [] ∧ res = [mkIdentity (inSLast ops)]) ∨ (r ≠ [] ∧ res = r))) := by
  unfold algebraicReduction at h
  split at h
  · rename_i hlen
    cases h
    exact .inl ⟨hlen, rfl⟩
  · rename_i hlen
    refine .inr ⟨by omega, ?_⟩
    simp only [] at h
    split at h
    · cases h
    · cases h
    · rename_i r hscan
      refine ⟨r, hscan, ?_⟩
      cases r with
      | nil => cases h; exact .inl ⟨rfl, rfl⟩
      | cons a as => cases h; exact .inr ⟨List.cons_ne_nil _ _, rfl⟩

theorem algebraicReduction_error {red : Op → Except PyErr Op} {ops : List Op} {e : PyErr}
    (h : algebraicReduction red ops = .error e) :
    scan (reductionCfg red) (scanFuel (homothetyRule (identityRule ops)).length)
        (homothetyRule (identityRule ops)) 0 = .error e ∨
      (scan (reductionCfg red) (scanFuel (homothetyRule (identityRule ops)).length)
        (homothetyRule (identityRule ops)) 0 = .ok none ∧ e = .fuel) := by
  unfold algebraicReduction at h
  split at h
  · cases h
  · dsimp only at h
    split at h
    · next he => cases h; exact .inl he
    · next hn => cases h; exact .inr ⟨hn, rfl⟩
    · split at h <;> cases h

theorem reduce_comp (fuel u : Nat) (ops : List Op) :
    reduce (fuel + 1) (.comp u ops) = (do
      let ops' ← ops.mapM (reduce fuel)
      let res ← algebraicReduction (reduce fuel) ops'
      match res with
      | [] => pure (mkIdentity (Op.inS (.comp u ops)))
      | [x] => pure x
      | _ => pure (mkComp res)) := rfl

end Furax
