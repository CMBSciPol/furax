/-
Soundness of `reduce` (FuraxModel/Reduce.lean), by induction on the fuel:

  on a well-formed expression (`WTExpr`), whenever `reduce fuel o = .ok r`, the result `r` is well formed, has
  the structures of `o` and denotes the same map on the input space of `o`.

Compositions go through `OpSem.algebraicReduction_sound_on` (FuraxProofs/Lemmas/ScanOn.lean) with the thirteen
binary rules (`binaryRules_sound`, FuraxProofs/Lemmas/RuleSound.lean); the recursive call `red := reduce fuel`
the block rules make is sound by the induction hypothesis, which is exactly `RedSound A laws (reduce fuel)`.
Sums and block containers need the laws collected in `ContainerLaws`.
-/
import FuraxProofs.Lemmas.RuleSound
import FuraxProofs.Lemmas.ReduceEval
namespace Furax
open Op

/-- slot-wise: `os'[i]` has the structures of `os[i]` and the same denotation on its input space -/
def CongRel {V : Type} (A : ArithSem V) : List Op → List Op → Prop
  | [], [] => True
  | o :: os, o' :: os' =>
    (Op.inS o' = Op.inS o ∧ Op.outS o' = Op.outS o ∧ ∀ x, A.mem (Op.inS o) x → A.den o' x = A.den o x) ∧
      CongRel A os os'
  | _, _ => False

/-- **What `reduce` needs of the denotation of containers and of the three leaf classes that override
`reduce()`.**  Semantic statements about `A.den`, discharged in FuraxProofs/Sem/ListModel.lean
(`ListSem.listContainerLaws`).  (The corresponding facts for sums — congruence, a one-operand sum denotes its
operand — follow from `ArithSem.add_law` and are proved below.) -/
structure ContainerLaws {V : Type} (A : ArithSem V) (laws : RuleLaws A) : Prop where
  /-- congruence of the block operators: replacing every (well-formed) block by a well-formed one with the same
  structures and the same denotation on its input space does not change the denotation (nor does the Python
  identity of the object) -/
  cont_congr : ∀ u u' k td ops ops', k ≠ .add → ops ≠ [] →
    WTList A.invertible laws.leafOK ops → WTList A.invertible laws.leafOK ops' →
    ContOK k td ops → CongRel A ops ops' →
    ∀ x, A.mem (Op.inS (.cont u k td ops)) x → A.den (.cont u' k td ops') x = A.den (.cont u k td ops) x
  /-- `BlockDiagonalOperator.reduce`: a block diagonal of identities is the identity -/
  blockdiag_identities : ∀ u td ops, ops ≠ [] → td.numLeaves = ops.length →
    (∀ o ∈ ops, o.isIdentity = true) →
    ∀ x, A.mem (Struct.nest td (inSList ops)) x → A.den (.cont u .blockDiag td ops) x = x
  /-- `IndexOperator.reduce`: an index operator that indexes no axis is the identity -/
  index_noaxes : ∀ u p, laws.leafOK .index p → (indexedAxes p.idx).length = 0 →
    p.outS = p.inS ∧ ∀ x, A.mem p.inS x → A.den (.leaf u .index p) x = x
  /-- `AbstractRavelOrReshapeOperator.reduce`: a ravel/reshape with equal structures is the identity -/
  reshape_id : ∀ u c p, (c = .ravel ∨ c = .reshape) → laws.leafOK c p → p.outS = p.inS →
    ∀ x, A.mem p.inS x → A.den (.leaf u c p) x = x

/-! ### what `reduce` returns, constructor by constructor

The equations are the ones Lean derives from the definition (`reduce.eq_2` … `reduce.eq_9`), under names.  The
number `N` of `reduce.eq_N` follows the order of the match arms of `reduce` (FuraxModel/Reduce.lean) and changes when
the arms are reordered, which is why the numbered equations are used only in this section. -/

theorem reduce_wrap (fuel u : Nat) (k : WrapCls) (o : Op) : reduce (fuel + 1) (.wrap u k o) = .ok (.wrap u k o) :=
  reduce.eq_6 fuel u k o

theorem reduce_leaf_index (fuel u : Nat) (p : Params) :
    reduce (fuel + 1) (.leaf u .index p) =
      if (indexedAxes p.idx).length == 0 then .ok (mkIdentity p.inS) else .ok (.leaf u .index p) :=
  reduce.eq_2 fuel u p

theorem reduce_leaf_reshape (fuel u : Nat) {c : LeafCls} (hc : c = .ravel ∨ c = .reshape) (p : Params) :
    reduce (fuel + 1) (.leaf u c p) =
      if p.outS == p.inS then .ok (mkIdentity p.inS) else .ok (.leaf u c p) := by
  rcases hc with rfl | rfl
  · exact reduce.eq_3 fuel u p
  · exact reduce.eq_4 fuel u p

/-- only `IndexOperator` and `AbstractRavelOrReshapeOperator` among the leaves override `reduce()` -/
theorem reduce_leaf_other (fuel u : Nat) {c : LeafCls} (h1 : c ≠ .index) (h2 : ¬(c = .ravel ∨ c = .reshape))
    (p : Params) : reduce (fuel + 1) (.leaf u c p) = .ok (.leaf u c p) :=
  reduce.eq_5 fuel u c p h1 (fun h => h2 (.inl h)) (fun h => h2 (.inr h))

/-- `CompositionOperator.reduce`: reduce the operands, run the algebraic reduction, and pack what is left -/
theorem reduce_comp_ok {fuel u : Nat} {ops : List Op} {r : Op} (h : reduce (fuel + 1) (.comp u ops) = .ok r) :
    ∃ ops' res, ops.mapM (reduce fuel) = .ok ops' ∧ algebraicReduction (reduce fuel) ops' = .ok res ∧
      ((res = [] ∧ r = mkIdentity (Op.inS (.comp u ops))) ∨ res = [r] ∨ (∃ y z rest, res = y :: z :: rest) ∧ r = mkComp res) := by
  rw [reduce_comp] at h
  obtain ⟨ops', hm, h⟩ := except_bind_eq_ok h
  obtain ⟨res, ha, h⟩ := except_bind_eq_ok h
  refine ⟨ops', res, hm, ha, ?_⟩
  match res, h with
  | [], h => cases h; exact .inl ⟨rfl, rfl⟩
  | [y], h => cases h; exact .inr (.inl rfl)
  | y :: z :: rest, h => cases h; exact .inr (.inr ⟨⟨y, z, rest, rfl⟩, rfl⟩)

/-- `AdditionOperator.reduce`: reduce the operands; a sum of one operand is that operand -/
theorem reduce_add_ok {fuel u : Nat} {td : TreeDef} {ops : List Op} {r : Op}
    (h : reduce (fuel + 1) (.cont u .add td ops) = .ok r) :
    ∃ ops', ops.mapM (reduce fuel) = .ok ops' ∧ (ops' = [r] ∨ r = .cont 0 .add td ops') := by
  rw [reduce.eq_8] at h
  obtain ⟨ops', hm, h⟩ := except_bind_eq_ok h
  refine ⟨ops', hm, ?_⟩
  split at h <;> cases h
  · exact .inl rfl
  · exact .inr rfl

/-- `AbstractBlockOperator.reduce`: reduce the blocks; `BlockDiagonalOperator.reduce`: a block diagonal of
identities is an identity -/
theorem reduce_block_ok {fuel u : Nat} {k : ContCls} (hk : k ≠ .add) {td : TreeDef} {ops : List Op} {r : Op}
    (h : reduce (fuel + 1) (.cont u k td ops) = .ok r) :
    ∃ ops', ops.mapM (reduce fuel) = .ok ops' ∧
      ((k = .blockDiag ∧ (∀ o ∈ ops', o.isIdentity = true) ∧ r = mkIdentity (Op.inS (.cont u k td ops))) ∨
        r = .cont 0 k td ops') := by
  rw [reduce.eq_9 fuel u k td ops hk] at h
  obtain ⟨ops', hm, h⟩ := except_bind_eq_ok h
  refine ⟨ops', hm, ?_⟩
  split at h <;> cases h
  · rename_i hc
    rw [Bool.and_eq_true, beq_iff_eq, List.all_eq_true] at hc
    exact .inl ⟨hc.1, hc.2, rfl⟩
  · exact .inr rfl

section
variable {V : Type} (A : ArithSem V) (laws : RuleLaws A)

/-- `o'` has the structures of `o` and the same denotation on its input space: what `RedSound` says of a result
besides its well-formedness, and what `CongRel` says slot by slot -/
def SameDen (o o' : Op) : Prop :=
  Op.inS o' = Op.inS o ∧ Op.outS o' = Op.outS o ∧ ∀ x, A.mem (Op.inS o) x → A.den o' x = A.den o x

theorem SameDen.refl (o : Op) : SameDen A o o := ⟨rfl, rfl, fun _ _ => rfl⟩

variable {A} in
theorem CongRel.induction {motive : (l l' : List Op) → CongRel A l l' → Prop} (nil : motive [] [] trivial)
    (cons : ∀ o o' os os' (hd : SameDen A o o') h, motive os os' h → motive (o :: os) (o' :: os') ⟨hd, h⟩) :
    ∀ l l' h, motive l l' h
  | [], [], _ => nil
  | o :: os, o' :: os', h => cons o o' os os' h.1 h.2 (CongRel.induction nil cons os os' h.2)
  | [], _ :: _, h | _ :: _, [], h => h.elim

theorem CongRel_structs (ops ops' : List Op) (h : CongRel A ops ops') :
    inSList ops' = inSList ops ∧ outSList ops' = outSList ops ∧ ops'.length = ops.length := by
  induction ops, ops', h using CongRel.induction with
  | nil => exact ⟨rfl, rfl, rfl⟩
  | cons o o' os os' hd _ ih =>
    exact ⟨by rw [inSList, inSList, hd.1, ih.1], by rw [outSList, outSList, hd.2.1, ih.2.1],
      by rw [List.length_cons, List.length_cons, ih.2.2]⟩

/-- a slot-wise congruent chain is typed alike and denotes the same map -/
theorem CongRel_WT (ops ops' : List Op) (h : CongRel A ops ops') (s t : Struct)
    (hok : ∀ o ∈ ops, StructOK o) (hwt : A.toOpSem.toSem.WT ops s t) :
    A.toOpSem.toSem.WT ops' s t ∧
    ∀ x, A.mem s x → A.toOpSem.toSem.app ops' x = A.toOpSem.toSem.app ops x := by
  induction ops, ops', h using CongRel.induction generalizing t with
  | nil => exact ⟨hwt, fun _ _ => rfl⟩
  | cons o o' os os' hd _ ih =>
    have hok' := (List.forall_mem_cons.mp hok).2
    obtain ⟨hw, ha⟩ := ih _ hok' hwt.2
    refine ⟨⟨hd.2.1.trans hwt.1, (hd.1 ▸ hw : A.toOpSem.toSem.WT os' s (Op.inS o'))⟩, fun x hx => ?_⟩
    -- `app os x` lies in the input space of `o`, where `o'` agrees with it
    exact (congrArg (A.den o') (ha x hx)).trans (hd.2.2 _ (A.toOpSem.toSem.WT_mem _ _ _ hok' hwt.2 x hx))

/-- the operands of a sum are evaluated at the same point -/
theorem CongRel_map (ops ops' : List Op) (h : CongRel A ops ops') (x : V)
    (hx : ∀ o ∈ ops, A.mem (Op.inS o) x) :
    ops'.map (fun o => A.den o x) = ops.map (fun o => A.den o x) := by
  induction ops, ops', h using CongRel.induction with
  | nil => rfl
  | cons o o' os os' hd _ ih =>
    obtain ⟨hxo, hxs⟩ := List.forall_mem_cons.mp hx
    rw [List.map_cons, List.map_cons, hd.2.2 x hxo, ih hxs]

/-- `ops.mapM red` for a sound `red` -/
theorem mapM_red (red : Op → Except PyErr Op) (hred : RedSound A laws red) (ops ops' : List Op)
    (hw : ∀ o ∈ ops, laws.WT o) (h : ops.mapM red = .ok ops') :
    CongRel A ops ops' ∧ ∀ o ∈ ops', laws.WT o := by
  induction ops generalizing ops' with
  | nil => cases except_mapM_nil_ok h; exact ⟨trivial, nofun⟩
  | cons o os ih =>
    obtain ⟨r, rs, hr, hrs, rfl⟩ := except_mapM_cons_ok h
    obtain ⟨hwo, hws⟩ := List.forall_mem_cons.mp hw
    obtain ⟨hw', hsame⟩ := hred o r hwo hr
    obtain ⟨hrel, hws'⟩ := ih rs hws hrs
    exact ⟨⟨hsame, hrel⟩, List.forall_mem_cons.mpr ⟨hw', hws'⟩⟩

theorem ContOK_congr (k : ContCls) (td : TreeDef) (ops ops' : List Op) (h : ContOK k td ops)
    (hi : inSList ops' = inSList ops) (ho : outSList ops' = outSList ops)
    (hl : ops'.length = ops.length) : ContOK k td ops' := by
  refine ⟨hl ▸ h.1, ?_⟩
  have h2 := h.2
  cases k
  · exact fun o hm => ⟨allIn_congr ops ops' hi (fun o hm => (h2 o hm).1) o hm,
      allOut_congr ops ops' ho (fun o hm => (h2 o hm).2) o hm⟩
  · exact allOut_congr ops ops' ho h2
  · trivial
  · exact allIn_congr ops ops' hi h2

theorem cont_structs_congr (u u' : Nat) (k : ContCls) (td : TreeDef) (ops ops' : List Op)
    (hi : inSList ops' = inSList ops) (ho : outSList ops' = outSList ops) :
    Op.inS (.cont u' k td ops') = Op.inS (.cont u k td ops) ∧
    Op.outS (.cont u' k td ops') = Op.outS (.cont u k td ops) := by
  cases k <;> simp only [Op.inS, Op.outS, inSHead_headD, outSHead_headD, hi, ho, and_self]

theorem all_identity_square (ops : List Op) (h : ∀ o ∈ ops, o.isIdentity = true) :
    outSList ops = inSList ops := by
  induction ops with
  | nil => rfl
  | cons o os ih =>
    obtain ⟨ho, hos⟩ := List.forall_mem_cons.mp h
    rw [outSList, inSList, ← OpSem.identity_square o ho, ih hos]

/-! ### `reduce` is sound, constructor by constructor

`ih` is the soundness of the recursive calls, with one unit of fuel less. -/

theorem reduce_leaf_sound (extra : ContainerLaws A laws) (n u : Nat) (c : LeafCls) (p : Params) (r : Op)
    (hw : laws.WT (.leaf u c p)) (h : reduce (n + 1) (.leaf u c p) = .ok r) :
    laws.WT r ∧ SameDen A (.leaf u c p) r := by
  by_cases hidx : c = .index
  · subst hidx
    rw [reduce_leaf_index] at h
    split at h <;> cases h
    · rename_i h0
      obtain ⟨hs, hd⟩ := extra.index_noaxes u p hw (eq_of_beq h0)
      exact ⟨laws.WT_mkIdentity _, rfl, hs.symm, fun x hx => (A.mkIdentity_den _ x hx).trans (hd x hx).symm⟩
    · exact ⟨hw, SameDen.refl A _⟩
  by_cases hrv : c = .ravel ∨ c = .reshape
  · rw [reduce_leaf_reshape n u hrv] at h
    split at h <;> cases h
    · rename_i h0
      have hs : p.outS = p.inS := eq_of_beq h0
      have hout : Op.outS (.leaf u c p) = p.outS := by rcases hrv with rfl | rfl <;> rfl
      exact ⟨laws.WT_mkIdentity _, rfl, hs.symm.trans hout.symm,
        fun x hx => (A.mkIdentity_den _ x hx).trans (extra.reshape_id u c p hrv hw hs x hx).symm⟩
    · exact ⟨hw, SameDen.refl A _⟩
  · rw [reduce_leaf_other n u hidx hrv] at h
    cases h
    exact ⟨hw, SameDen.refl A _⟩

theorem reduce_comp_sound (n u : Nat) (ops : List Op) (r : Op) (ih : RedSound A laws (reduce n))
    (hw : laws.WT (.comp u ops)) (h : reduce (n + 1) (.comp u ops) = .ok r) :
    laws.WT r ∧ SameDen A (.comp u ops) r := by
  obtain ⟨hne, hws, hch⟩ := (WTExpr_comp_iff ..).mp hw
  obtain ⟨ops', res, hm, ha, hres⟩ := reduce_comp_ok h
  obtain ⟨hrel, hws'⟩ := mapM_red A laws (reduce n) ih ops ops' hws hm
  obtain ⟨hwt', happ'⟩ := CongRel_WT A ops ops' hrel _ _ (structOK_of_forall_WTExpr hws)
    ((Chain_iff_WT A.toOpSem ops hne).mp hch)
  obtain ⟨hpr, hwr, har⟩ := A.toOpSem.algebraicReduction_sound_on laws.WT laws.WT_structOK
    laws.WT_mkIdentity laws.WT_mkHomothety (reduce n) (binaryRules_sound A laws (reduce n) ih)
    ops' res _ _ hws' hwt' ha
  have hden : ∀ x, A.mem (inSLast ops) x → A.toOpSem.toSem.app res x = A.den (.comp u ops) x :=
    fun x hx => by rw [har x hx, happ' x hx, A.comp_law]
  -- `res` is typed from `inSLast ops` to `outSHead ops`, the structures of the composition
  rcases hres with ⟨rfl, rfl⟩ | rfl | ⟨⟨y, z, rest, rfl⟩, rfl⟩
  · exact ⟨laws.WT_mkIdentity _, rfl, hwr, fun x hx => (A.mkIdentity_den _ x hx).trans (hden x hx)⟩
  · exact ⟨hpr r (List.mem_singleton_self r), hwr.2.symm, hwr.1, hden⟩
  · obtain ⟨hc, h1, h2⟩ := (WT_iff_Chain A.toOpSem _ _ _ (List.cons_ne_nil _ _)).mp hwr
    exact ⟨WT_mkComp A laws _ (List.cons_ne_nil _ _) hpr hc, h1, h2,
      fun x hx => (A.comp_law ..).trans (hden x hx)⟩

theorem reduce_cont_sound (extra : ContainerLaws A laws) (n u : Nat) (k : ContCls) (td : TreeDef) (ops : List Op)
    (r : Op) (ih : RedSound A laws (reduce n)) (hw : laws.WT (.cont u k td ops))
    (h : reduce (n + 1) (.cont u k td ops) = .ok r) : laws.WT r ∧ SameDen A (.cont u k td ops) r := by
  obtain ⟨hne, hws, hok⟩ := (WTExpr_cont_iff ..).mp hw
  -- every branch reduces the operands first, and the container of the reduced operands fits together
  have hcont : ∀ ops', ops.mapM (reduce n) = .ok ops' → CongRel A ops ops' ∧ ops' ≠ [] ∧
      (∀ o ∈ ops', laws.WT o) ∧ inSList ops' = inSList ops ∧ outSList ops' = outSList ops ∧
      ops'.length = ops.length ∧ laws.WT (.cont 0 k td ops') ∧
      Op.inS (.cont 0 k td ops') = Op.inS (.cont u k td ops) ∧
      Op.outS (.cont 0 k td ops') = Op.outS (.cont u k td ops) := by
    intro ops' hm
    obtain ⟨hrel, hws'⟩ := mapM_red A laws (reduce n) ih ops ops' hws hm
    obtain ⟨hI, hO, hL⟩ := CongRel_structs A ops ops' hrel
    have hne' : ops' ≠ [] := fun h0 => hne (List.length_eq_zero_iff.mp (hL ▸ h0 ▸ rfl))
    exact ⟨hrel, hne', hws', hI, hO, hL,
      (WTExpr_cont_iff ..).mpr ⟨hne', hws', ContOK_congr k td ops ops' hok hI hO hL⟩,
      cont_structs_congr u 0 k td ops ops' hI hO⟩
  by_cases hk : k = .add
  · subst hk
    obtain ⟨ops', hm, hcase⟩ := reduce_add_ok h
    obtain ⟨hrel, -, hws', -, -, -, hwc, hsI, hsO⟩ := hcont ops' hm
    have hsum : ∀ x, A.mem (Op.inS (.cont u .add td ops)) x →
        A.den (.cont 0 .add td ops') x = A.den (.cont u .add td ops) x := by
      intro x hx
      rw [A.add_law, A.add_law, CongRel_map A ops ops' hrel x fun o ho => (hok.2 o ho).1 ▸ hx]
    rcases hcase with rfl | rfl
    · -- a sum of one operand denotes that operand
      refine ⟨hws' r (List.mem_singleton_self r), hsI, hsO, fun x hx => ?_⟩
      rw [← hsum x hx, A.add_law]
      exact (A.add_zero _).symm
    · exact ⟨hwc, hsI, hsO, hsum⟩
  · obtain ⟨ops', hm, hcase⟩ := reduce_block_ok hk h
    obtain ⟨hrel, hne', hws', hI, hO, hL, hwc, hsI, hsO⟩ := hcont ops' hm
    have hcong := extra.cont_congr u 0 k td ops ops' hk hne ((WTList_iff ..).mpr hws) ((WTList_iff ..).mpr hws')
      hok hrel
    rcases hcase with ⟨rfl, hall, rfl⟩ | rfl
    · -- a block diagonal of identities is square and denotes the identity
      refine ⟨laws.WT_mkIdentity _, rfl, ?_, fun x hx => ?_⟩
      · show Struct.nest td (inSList ops) = Struct.nest td (outSList ops)
        rw [← hO, all_identity_square ops' hall, hI]
      · rw [A.mkIdentity_den _ x hx, ← hcong x hx]
        exact (extra.blockdiag_identities 0 td ops' hne' (hL ▸ hok.1) hall x (hI ▸ hx)).symm
    · exact ⟨hwc, hsI, hsO, hcong⟩

/-- **`reduce` is sound on well-formed expressions**, for every amount of fuel. -/
theorem reduce_RedSound (extra : ContainerLaws A laws) : ∀ fuel, RedSound A laws (reduce fuel) := by
  intro fuel
  induction fuel with
  | zero => intro o r _ h; cases h
  | succ n ih =>
    intro o r hw h
    cases o with
    | leaf u c p => exact reduce_leaf_sound A laws extra n u c p r hw h
    | wrap u k o' => rw [reduce_wrap] at h; cases h; exact ⟨hw, SameDen.refl A _⟩
    | comp u ops => exact reduce_comp_sound A laws n u ops r ih hw h
    | cont u k td ops => exact reduce_cont_sound A laws extra n u k td ops r ih hw h

/-- **Soundness of `reduce`**: on a well-formed expression, the reduced expression is well formed, has the same
structures and the same denotation on the input space. -/
theorem reduce_sound (extra : ContainerLaws A laws) :
    ∀ fuel o r, WTExpr A.invertible laws.leafOK o → reduce fuel o = .ok r →
      WTExpr A.invertible laws.leafOK r ∧ Op.inS r = Op.inS o ∧ Op.outS r = Op.outS o ∧
      ∀ x, A.mem (Op.inS o) x → A.den r x = A.den o x :=
  fun fuel o r hw h => reduce_RedSound A laws extra fuel o r hw h

/-- the driver's entry point -/
theorem reduceTop_sound (extra : ContainerLaws A laws) (o r : Op) (hw : WTExpr A.invertible laws.leafOK o)
    (h : reduceTop o = .ok r) :
    WTExpr A.invertible laws.leafOK r ∧ Op.inS r = Op.inS o ∧ Op.outS r = Op.outS o ∧
    ∀ x, A.mem (Op.inS o) x → A.den r x = A.den o x :=
  reduce_sound A laws extra _ o r hw h

end

end Furax
