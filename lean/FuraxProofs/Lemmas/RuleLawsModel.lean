/-
Consistency witness for the hypotheses of `binaryRules_sound` / `reduce_sound`: an `ArithSem` together with
inhabitants of `RuleLaws` and `ContainerLaws`, so the theorems are not vacuous (unlike a formulation with rule
soundness on all operand pairs, `RuleSoundOn (fun _ => True)`, whose hypotheses would be contradictory:
`inverseBinaryRule_not_RuleSound`).

The witness is deliberately cheap and DEGENERATE: the denotation is the scalar model of
FuraxProofs/Lemmas/ScalarModel.lean (every operator is a linear map ℚ → ℚ) and every structure's value space is
`{0}`, where all linear maps agree.  It shows that the laws are jointly satisfiable and that `WTExpr` is
inhabited by every shape the rules match; the intended model (operators on flat real vectors assembled from the
executable kernels) instantiates the same laws in FuraxProofs/Sem/ListModel.lean.
-/
import FuraxProofs.Lemmas.ReduceSound
import FuraxProofs.Lemmas.ScalarModel
namespace Furax
open Op

theorem scalarDen_zero (o : Op) : scalarDen o 0 = 0 := by
  have := scalarDen_hom o 0 0
  simpa using this

def zeroOpSem : OpSem Rat where
  den := scalarDen
  mem := fun _ x => x = 0
  smul := fun a x => a * x
  honest := fun o x _ h => by subst h; exact scalarDen_zero o
  smul_one := scalarOpSem.smul_one
  smul_smul := scalarOpSem.smul_smul
  mem_smul := fun _ a x h => by subst h; simp
  identity_law := fun o h x _ => scalarOpSem.identity_law o h x trivial
  homothety_law := fun o h x _ => scalarOpSem.homothety_law o h x trivial
  homogeneous := fun o a x _ _ => scalarDen_hom o a x

theorem zeroApp_eq (ops : List Op) (x : Rat) : zeroOpSem.toSem.app ops x = scalarApp ops x := by
  induction ops with
  | nil => rfl
  | cons o os ih => simp only [Sem.app, scalarApp, ih]; rfl

/-- the scalar model with value space `{0}` and every operand declared invertible -/
def zeroArithSem : ArithSem Rat where
  toOpSem := zeroOpSem
  add := (· + ·)
  zero := 0
  add_assoc := scalarArithSem.add_assoc
  zero_add := scalarArithSem.zero_add
  comp_law := fun u ops x => by
    show scalarDen (.comp u ops) x = _
    rw [zeroApp_eq]; rfl
  add_law := fun u td ops x => scalarArithSem.add_law u td ops x
  add_zero := scalarArithSem.add_zero
  smul_sum := scalarArithSem.smul_sum
  invertible := fun _ => True
  inv_left := fun u k o _ _ _ x hx => by
    cases (hx : x = 0)
    show scalarDen _ (scalarDen o 0) = 0
    rw [scalarDen_zero, scalarDen_zero]
  inv_right := fun u k o _ _ _ x hx => by
    cases (hx : x = 0)
    show scalarDen o (scalarDen _ 0) = 0
    rw [scalarDen_zero, scalarDen_zero]

theorem zero_den (o : Op) : zeroArithSem.den o 0 = 0 := scalarDen_zero o

/-- a statement about the points of a value space has to be checked at `0` only; there every equation between
composites of operators holds, by `zero_den` -/
theorem zero_forall {s : Struct} {P : Rat → Prop} (h : P 0) : ∀ x, zeroArithSem.mem s x → P x :=
  fun x hx => (hx : x = 0) ▸ h

/-- leaf validity of the witness: just the structural facts two laws conclude.  Every other law concludes an
equation between values, which holds at `0` whatever the parameters; `moveaxis_pair` also concludes
`pl.outS = pr.inS` and `index_noaxes` (`ContainerLaws`) `p.outS = p.inS`, which the witness can only get from
`leafOK` — hence exactly these two clauses. -/
def zeroLeafOK (c : LeafCls) (p : Params) : Prop :=
  (c = .moveAxis → p.inS = p.outS) ∧ (c = .index → (indexedAxes p.idx).length = 0 → p.outS = p.inS)

theorem zeroLeafOK_of (c : LeafCls) (p : Params) (h1 : c ≠ .moveAxis) (h2 : c ≠ .index) : zeroLeafOK c p :=
  ⟨fun h => absurd h h1, fun h => absurd h h2⟩

def zeroRuleLaws : RuleLaws zeroArithSem where
  leafOK := zeroLeafOK
  ok_identity := fun _ => zeroLeafOK_of .identity _ nofun nofun
  ok_homothety := fun _ _ => zeroLeafOK_of .homothety _ nofun nofun
  qurot_inv := fun _ _ _ => trivial
  moveaxis_pair := fun ul pl ur pr hl hr _ _ hs =>
    ⟨by rw [← hl.1 rfl, hs, ← hr.1 rfl], zero_forall (by simp only [zero_den])⟩
  reshape_pair := fun u uo c p _ _ =>
    ⟨zero_forall (by simp only [zero_den]), zero_forall (by simp only [zero_den])⟩
  pack_pair := fun u uo p _ => zero_forall (by simp only [zero_den])
  index_pair := fun u uo p _ _ => zero_forall (by simp only [zero_den])
  index_mult := fun u uo p axis shape sh vals sizeMax _ _ _ _ _ _ _ _ =>
    ⟨zeroLeafOK_of .diagonal _ nofun nofun, zero_forall (by simp only [zero_den])⟩
  rot_rot := fun ul pl ur pr a _ _ _ _ => ⟨zeroLeafOK_of .qurot _ nofun nofun, zero_forall (by simp only [zero_den])⟩
  rot_rotT := fun ul pl uw ur pr a _ _ _ _ => ⟨zeroLeafOK_of .qurot _ nofun nofun, zero_forall (by simp only [zero_den])⟩
  rotT_rot := fun uw ul pl ur pr a _ _ _ _ => ⟨zeroLeafOK_of .qurot _ nofun nofun, zero_forall (by simp only [zero_den])⟩
  rotT_rotT := fun uw ul pl uw' ur pr a _ _ _ _ =>
    ⟨zeroLeafOK_of .qurot _ nofun nofun, zero_forall (by simp only [zero_den])⟩
  rot_hwp := fun uw ul pl ur pr _ _ _ => zero_forall (by simp only [zero_den])
  rotT_hwp := fun uw ul pl ur pr _ _ _ => zero_forall (by simp only [zero_den])
  polarizer_hwp := fun ul pl ur pr _ _ _ => zero_forall (by simp only [zero_den])
  block_law := fun lk rk res _ ul ur u td lops rops prods _ _ _ _ _ _ _ _ =>
    zero_forall (by simp only [zero_den])

theorem zeroContainerLaws : ContainerLaws zeroArithSem zeroRuleLaws where
  cont_congr := fun u u' k td ops ops' _ _ _ _ _ _ => zero_forall (by simp only [zero_den])
  blockdiag_identities := fun u td ops _ _ _ => zero_forall (by simp only [zero_den])
  index_noaxes := fun u p hp h0 => ⟨hp.2 rfl h0, zero_forall (by simp only [zero_den])⟩
  reshape_id := fun u c p _ _ _ => zero_forall (by simp only [zero_den])

/-- `WTExpr` is inhabited by the shapes the rules match: e.g. a rotation, its lazy transpose/inverse, and
their composition, which `reduce` rewrites soundly by `reduce_sound`. -/
example : zeroRuleLaws.WT
    (.comp 7 [.wrap 5 .qurotT (.leaf 3 .qurot { inS := default, outS := default }),
              .leaf 3 .qurot { inS := default, outS := default }]) :=
  have hp : zeroRuleLaws.leafOK .qurot { inS := default, outS := default } := zeroLeafOK_of .qurot _ nofun nofun
  (WTExpr_comp_iff ..).mpr ⟨nofun, forall_mem_pair (WT_qurotT _ zeroRuleLaws 5 3 _ hp) hp, rfl, trivial⟩

/-- … and `reduce` does rewrite it (to an identity), by kernel evaluation -/
example : (match reduceTop
      (.comp 7 [.wrap 5 .qurotT (.leaf 3 .qurot { inS := default, outS := default }),
                .leaf 3 .qurot { inS := default, outS := default }]) with
    | .ok r => r.isIdentity
    | _ => false) = true := by rfl

end Furax
