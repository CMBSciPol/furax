/-
Non-vacuity of the semantic frameworks `OpSem` / `ArithSem`: a concrete, non-trivial model over `V = ℚ`
(every structure is a single scalar): scalar operators multiply, identities and all other leaves act as the
identity, compositions compose, sums add.  All laws hold, so the theorems stated "for every `OpSem`" are not
vacuous; the intended model (operators on flat real vectors assembled from the executable kernels) is
FuraxProofs/Sem/ListModel.lean.
-/
import FuraxProofs.Lemmas.ArithSound
import Mathlib.Tactic.Ring
namespace Furax
open Op

mutual
def scalarDen : Op → Rat → Rat
  | .leaf _ .homothety p, x => p.vals.data.headD 1 * x
  | .leaf _ _ _, x => x
  | .wrap _ _ _, x => x
  | .comp _ ops, x => scalarApp ops x
  | .cont _ .add _ ops, x => scalarSum ops x
  | .cont _ _ _ _, x => x
def scalarApp : List Op → Rat → Rat
  | [], x => x
  | o :: os, x => scalarDen o (scalarApp os x)
def scalarSum : List Op → Rat → Rat
  | [], _ => 0
  | o :: os, x => scalarDen o x + scalarSum os x
end

mutual
theorem scalarDen_hom : ∀ (o : Op) (a x : Rat), scalarDen o (a * x) = a * scalarDen o x
  | .leaf _ c p, a, x => by
    cases c
    case homothety =>
      show _ * (a * x) = a * (_ * x)
      rw [← Rat.mul_assoc, Rat.mul_comm _ a, Rat.mul_assoc]
    all_goals rfl
  | .wrap _ _ _, a, x => rfl
  | .comp _ ops, a, x => scalarApp_hom ops a x
  | .cont _ k _ ops, a, x => by
    cases k
    case add => exact scalarSum_hom ops a x
    all_goals rfl
theorem scalarApp_hom : ∀ (ops : List Op) (a x : Rat), scalarApp ops (a * x) = a * scalarApp ops x
  | [], a, x => rfl
  | o :: os, a, x => by
    show scalarDen o (scalarApp os (a * x)) = a * scalarDen o (scalarApp os x)
    rw [scalarApp_hom os a x, scalarDen_hom o a _]
theorem scalarSum_hom : ∀ (ops : List Op) (a x : Rat), scalarSum ops (a * x) = a * scalarSum ops x
  | [], a, x => (Rat.mul_zero a).symm
  | o :: os, a, x => by
    show scalarDen o (a * x) + scalarSum os (a * x) = a * (scalarDen o x + scalarSum os x)
    rw [scalarDen_hom o a x, scalarSum_hom os a x, Rat.mul_add]
end

theorem scalarSum_eq (ops : List Op) (x : Rat) :
    scalarSum ops x = (ops.map (fun o => scalarDen o x)).foldr (· + ·) 0 := by
  induction ops with
  | nil => rfl
  | cons o os ih => exact congrArg (scalarDen o x + ·) ih

/-- the scalar model satisfies every law of `OpSem` … -/
def scalarOpSem : OpSem Rat where
  den := scalarDen
  mem := fun _ _ => True
  smul := fun a x => a * x
  honest := fun _ _ _ _ => trivial
  smul_one := fun x => by ring
  smul_smul := fun a b x => by ring
  mem_smul := fun _ _ _ _ => trivial
  identity_law := fun o h x _ => by
    cases o with
    | leaf u c p => cases c <;> simp_all [isIdentity, isLeafCls, scalarDen]
    | _ => simp [isIdentity, isLeafCls] at h
  homothety_law := fun o h x _ => by
    cases o with
    | leaf u c p => cases c <;> simp_all [isHomothety, isLeafCls, scalarDen, homValue]
    | _ => simp [isHomothety, isLeafCls] at h
  homogeneous := fun o a x _ _ => scalarDen_hom o a x

theorem scalarApp_eq (ops : List Op) (x : Rat) : scalarOpSem.toSem.app ops x = scalarApp ops x := by
  induction ops with
  | nil => rfl
  | cons o os ih => exact congrArg (scalarDen o) ih

/-- … and of `ArithSem` (no operand is declared invertible, so the inverse laws ask nothing) -/
def scalarArithSem : ArithSem Rat where
  toOpSem := scalarOpSem
  add := (· + ·)
  zero := 0
  add_assoc := Rat.add_assoc
  zero_add := Rat.zero_add
  comp_law := fun _ ops x => (scalarApp_eq ops x).symm
  add_law := fun _ _ ops x => scalarSum_eq ops x
  add_zero := Rat.add_zero
  smul_sum := fun a l => by
    induction l with
    | nil => exact Rat.mul_zero a
    | cons y ys ih => exact (Rat.mul_add a y _).trans (congrArg (a * y + ·) ih)
  invertible := fun _ => False
  inv_left := fun _ _ _ h => h.elim
  inv_right := fun _ _ _ h => h.elim

/-- it is not the trivial model: a scalar operator of value 3 maps 2 to 6 -/
example : scalarOpSem.den (mkHomothety 3 default) 2 = 6 := by decide +kernel

/-- **Structural well-formedness alone does not make the registered rules sound** (finding F13 in the scalar
model): `InverseBinaryRule` rewrites `InverseOperator(o) @ o` to the empty chain for every `o`, here the scalar
operator `o = 3·`, whose lazy inverse the scalar model (which declares no operand invertible) interprets as the
identity.  Both operands are structurally well formed and the pair is well typed, but the empty chain denotes
`x ↦ x`, not `x ↦ 3 x`.  Hence `Sem.RuleSound` (soundness on all `StructOK` operands) is still too strong for
the registry; the rules are sound on `WTExpr A.invertible …` operands (FuraxProofs/Lemmas/RuleSound.lean). -/
theorem scalar_inverseBinaryRule_not_RuleSound : ¬ scalarOpSem.toSem.RuleSound inverseBinaryRule := by
  intro h
  let o : Op := .leaf 1 .homothety { inS := default, outS := default, vals := Tensor.scalar 3 }
  have hok : StructOK (.wrap 2 .inverse o) :=
    (StructOK_wrap_iff _ _ _).mpr ⟨StructOK_leaf _ _ _, fun _ => ⟨rfl, trivial⟩, nofun, nofun, nofun⟩
  have hoko : StructOK o := StructOK_leaf _ _ _
  -- the rule fires (`rfl`), so soundness would give `1 = 3 * 1` at `x = 1`
  have := (h (.wrap 2 .inverse o) o [] hok hoko rfl rfl).2.2 1 trivial
  exact absurd this (by decide +kernel)

end Furax
