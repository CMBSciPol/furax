/-
Where the scalar factor ends up after `AlgebraicReductionRule.apply` (property C07: "... at most one scalar factor
remains, placed on the side with fewer elements"; the theorems of the property are in FuraxProofs/Props/C07Side.lean).

`apply_on_left` is recomputed by every call of `homothetyRule` from the CURRENT first/last operands, and between two
calls the binary rules rewrite the chain (possibly its two ends).  The loop invariant is

    the chain is typed `s → t`   ∧   `ScalarSide (t.size ≤ s.size) ops`

(`ScalarSide left ops`: no scalar operator at all, or exactly one, at the head when `left` and at the end
otherwise).  The second half survives every scalar-free rewrite for ANY fixed `left` (`ScalarSide_splice`); the
first half is what ties `left` to the current first/last operands when `homothetyRule` is called again
(`homothetyRule_ScalarSide`, from the closed form `homothetyRule_spec` of FuraxProofs/Lemmas/Nary.lean), and it
needs the binary rules to preserve the outer structures of the pair they rewrite (`RuleTypedOn`, the typing half
of `Sem.RuleSoundOn`).  Without it the statement is false in the model (`scalar_wrong_side_untyped_*`,
`scalar_wrong_side_illTyped` at the end of the file).
-/
import FuraxProofs.Lemmas.RuleLawsModel
namespace Furax
open Op OpSem

theorem valProd_cons_not {o : Op} (l : List Op) (h : o.isHomothety = false) :
    valProd (o :: l) = valProd l := by
  simp [valProd, h]

/-- **the chain contains no scalar operator, or exactly one: at its head when `left`, at its end otherwise** -/
def ScalarSide (left : Prop) (ops : List Op) : Prop :=
  NoHom ops ∨ ∃ h rest, h.isHomothety = true ∧ NoHom rest ∧
    ((left ∧ ops = h :: rest) ∨ (¬ left ∧ ops = rest ++ [h]))

theorem ScalarSide_of_NoHom (left : Prop) {ops : List Op} (h : NoHom ops) : ScalarSide left ops := .inl h

theorem ScalarSide_short (left : Prop) (ops : List Op) (h : ops.length < 2) : ScalarSide left ops := by
  match ops, h with
  | [], _ => exact .inl NoHom_nil
  | [o], _ =>
    by_cases hh : o.isHomothety = true
    · by_cases hl : left
      · exact .inr ⟨o, [], hh, NoHom_nil, .inl ⟨hl, rfl⟩⟩
      · exact .inr ⟨o, [], hh, NoHom_nil, .inr ⟨hl, rfl⟩⟩
    · exact .inl (by simpa [NoHom] using hh)

theorem ScalarSide.count_le {left : Prop} {ops : List Op} (h : ScalarSide left ops) :
    (ops.filter isHomothety).length ≤ 1 := by
  rcases h with h | ⟨x, rest, hx, hr, ⟨_, he⟩ | ⟨_, he⟩⟩
  · rw [NoHom_iff_filter.mp h]; exact Nat.zero_le 1
  · exact filter_hom_le_one hx hr (.inl he)
  · exact filter_hom_le_one hx hr (.inr he)

theorem ScalarSide.head {left : Prop} {ops : List Op} (h : ScalarSide left ops) (hl : left)
    (x : Op) (hx : x ∈ ops) (hh : x.isHomothety = true) : ops.head? = some x := by
  rcases h with h | ⟨y, rest, hy, hr, ⟨_, rfl⟩ | ⟨hn, _⟩⟩
  · simp [h x hx] at hh
  · rcases List.mem_cons.mp hx with rfl | hm
    · rfl
    · simp [hr x hm] at hh
  · exact absurd hl hn

theorem ScalarSide.last {left : Prop} {ops : List Op} (h : ScalarSide left ops) (hl : ¬ left)
    (x : Op) (hx : x ∈ ops) (hh : x.isHomothety = true) : ops.getLast? = some x := by
  rcases h with h | ⟨y, rest, hy, hr, ⟨hn, _⟩ | ⟨_, rfl⟩⟩
  · simp [h x hx] at hh
  · exact absurd hn hl
  · rcases List.mem_append.mp hx with hm | hm
    · simp [hr x hm] at hh
    · simp only [List.mem_singleton] at hm; subst hm; simp

theorem NoHom_ctx {a z new : List Op} {l r : Op} (h : NoHom (a ++ l :: r :: z)) (hn : NoHom new) :
    NoHom (a ++ new ++ z) := by
  obtain ⟨ha, hz⟩ := NoHom_append.mp h
  exact NoHom_append.mpr ⟨NoHom_append.mpr ⟨ha, hn⟩, (NoHom_cons.mp (NoHom_cons.mp hz).2).2⟩

/-- **Replacing an adjacent pair by a scalar-free chain keeps the invariant, for either side**: the scalar operator
is consumed (when it belongs to the rewritten pair) or stays at its end of the chain. -/
theorem ScalarSide_splice (left : Prop) (a : List Op) (l r : Op) (z new : List Op) (hn : NoHom new)
    (h : ScalarSide left (a ++ l :: r :: z)) : ScalarSide left (a ++ new ++ z) := by
  rcases h with h | ⟨x, rest, hx, hr, ⟨hl, he⟩ | ⟨hl, he⟩⟩
  · exact .inl (NoHom_ctx h hn)
  · cases a with
    | nil =>
      obtain ⟨rfl, rfl⟩ := List.cons.inj he
      exact .inl (NoHom_append.mpr ⟨hn, (NoHom_cons.mp hr).2⟩)
    | cons x' a' =>
      obtain ⟨rfl, rfl⟩ := List.cons.inj he
      exact .inr ⟨x', a' ++ new ++ z, hx, NoHom_ctx hr hn, .inl ⟨hl, rfl⟩⟩
  · rcases List.eq_nil_or_concat z with rfl | ⟨z', x', rfl⟩
    · have he' : (a ++ [l]) ++ [r] = rest ++ [x] := by simpa using he
      obtain ⟨rfl, -⟩ := List.append_inj' he' rfl
      rw [List.append_nil]
      exact .inl (NoHom_append.mpr ⟨(NoHom_append.mp hr).1, hn⟩)
    · have he' : (a ++ l :: r :: z') ++ [x'] = rest ++ [x] := by simpa using he
      obtain ⟨rfl, hxx⟩ := List.append_inj' he' rfl
      obtain rfl := (List.cons.inj hxx).1
      exact .inr ⟨x', a ++ new ++ z', hx, NoHom_ctx hr hn, .inr ⟨hl, by simp⟩⟩

/-- **`HomothetyRule.apply` establishes the invariant on a typed chain**, for the side given by the outer
structures of the chain (which are those of its current first and last operands) -/
theorem homothetyRule_ScalarSide (ops : List Op) (s t : Struct) (h : Typed ops s t) :
    ScalarSide (t.size ≤ s.size) (homothetyRule ops) := by
  rcases homothetyRule_spec ops with ⟨hn, he⟩ | ⟨hn, x, hh, _, _, he⟩
  · rw [he]; exact .inl hn
  obtain ⟨rfl, rfl⟩ := Typed_ends ops s t (fun h0 => hn (h0 ▸ NoHom_nil)) h
  rcases he with ⟨hs, _, he⟩ | ⟨hs, _, he⟩
  · exact .inr ⟨x, _, hh, NoHom_strip _, .inl ⟨hs, he⟩⟩
  · exact .inr ⟨x, _, hh, NoHom_strip _, .inr ⟨hs, he⟩⟩

/-- **The hypothesis on the binary rules**: on a well-typed adjacent pair of operands satisfying the invariant
`P`, the output of the rule satisfies `P` and is a chain typed between the outer structures of the pair — the
typing half of `Sem.RuleSoundOn` (FuraxProofs/Lemmas/Scan.lean), no semantics involved. -/
def RuleTypedOn {E} (P : Op → Prop) (ru : Rule Op E) : Prop :=
  ∀ l r new, P l → P r → ru.fire l r = .ok (some new) → Op.inS l = Op.outS r →
    (∀ o ∈ new, P o) ∧ Typed new (Op.inS r) (Op.outS l)

/-- it is soundness in the semantics `structSem`, where every chain denotes the identity of `Unit` -/
theorem RuleTypedOn.sound {E} {P : Op → Prop} {ru : Rule Op E} (h : RuleTypedOn P ru) :
    structSem.RuleSoundOn P ru :=
  fun l r new hl hr hf hlr =>
    let ⟨h1, h2⟩ := h l r new hl hr hf hlr
    ⟨h1, h2, fun _ _ => rfl⟩

/-- **The loop invariant of the scan.**  For every configuration whose scalar test and scalar relocation are
those of furax and whose rules are typed relative to `P`, every amount of fuel, every chain of operands satisfying
`P` typed `s → t` and every starting index: if the chain satisfies `ScalarSide (t.size ≤ s.size)`, so does the
result of the scan (which is again a chain of `P` operands typed `s → t`). -/
theorem scan_ScalarSide {E} (P : Op → Prop) (c : Cfg Op E)
    (hIs : c.isHom = isHomothety) (hRule : c.homRule = homothetyRule)
    (hr : ∀ ru ∈ c.rules, RuleTypedOn P ru) (hhom : ∀ v s, P (mkHomothety v s)) :
    ∀ fuel ops index res s t, (∀ o ∈ ops, P o) → Typed ops s t → ScalarSide (t.size ≤ s.size) ops →
      scan c fuel ops index = .ok (some res) →
      (∀ o ∈ res, P o) ∧ Typed res s t ∧ ScalarSide (t.size ≤ s.size) res := by
  intro fuel ops index res s t hP hwt hside hres
  -- a firing keeps the chain a typed chain of `P`-operands
  have hfire := fire_sound structSem P (fun _ _ => trivial) c.rules (fun ru hm => (hr ru hm).sound)
  refine scan_inv c (fun l => (∀ o ∈ l, P o) ∧ Typed l s t ∧ ScalarSide (t.size ≤ s.size) l) ?_ ?_
    fuel ops index res ⟨hP, hwt, hside⟩ hres
  · -- scalar-free rewrite: the side survives
    intro a l r z new ⟨hPl, hwl, hsl⟩ hf hany
    obtain ⟨hPs, hws, -⟩ := hfire a l r z new s t hPl hwl hf
    refine ⟨hPs, hws, ScalarSide_splice _ a l r z new (fun o ho => ?_) hsl⟩
    have := List.any_eq_false.mp hany o ho
    rw [hIs] at this
    simpa using this
  · -- a scalar operator was produced: `homothetyRule` re-establishes the side
    intro a l r z new ⟨hPl, hwl, _⟩ hf _
    obtain ⟨hPs, hws, -⟩ := hfire a l r z new s t hPl hwl hf
    rw [hRule]
    exact ⟨homothetyRule_forall P hhom _ hPs, Typed_homothetyRule _ _ _ hws, homothetyRule_ScalarSide _ _ _ hws⟩

theorem cfg_rules_typed (P : Op → Prop) (red : Op → Except PyErr Op)
    (hr : ∀ ru ∈ binaryRules red, RuleTypedOn P ru) :
    ∀ ru ∈ (reductionCfg red).rules, RuleTypedOn P ru := by
  intro ru hm l r new hl hr' hf hlr
  obtain ⟨ru0, hm0, rfl⟩ := List.mem_map.mp hm
  obtain ⟨new0, hf0, rfl⟩ := dropIdentities_fire hf
  obtain ⟨hp, hw⟩ := hr ru0 hm0 l r new0 hl hr' hf0 hlr
  exact ⟨fun o ho => hp o (identityRule_mem new0 o ho), Typed_identityRule _ _ _ hw⟩

/-- **Where the scalar ends up after `AlgebraicReductionRule.apply`.**  For every `red`, every chain `ops` (any
length) of operands satisfying an invariant `P` that the binary rules preserve together with the outer structures
of the pairs they rewrite (`RuleTypedOn`), typed `s → t`: the result is again such a chain, typed `s → t`, and it
contains no scalar operator or exactly one — at its head when `t.size ≤ s.size`, at its end otherwise.
(`t`, `s` are the output structure of the first and the input structure of the last operand, of the input chain
and of the result alike.) -/
theorem algebraicReduction_ScalarSide (P : Op → Prop) (red : Op → Except PyErr Op)
    (hr : ∀ ru ∈ binaryRules red, RuleTypedOn P ru)
    (hid : ∀ s, P (mkIdentity s)) (hhom : ∀ v s, P (mkHomothety v s))
    (ops res : List Op) (s t : Struct) (hP : ∀ o ∈ ops, P o) (hwt : Typed ops s t)
    (hres : algebraicReduction red ops = .ok res) :
    (∀ o ∈ res, P o) ∧ Typed res s t ∧ ScalarSide (t.size ≤ s.size) res := by
  rcases algebraicReduction_ok hres with ⟨hlen, rfl⟩ | ⟨hlen, r, hscan, hr'⟩
  · exact ⟨hP, hwt, ScalarSide_short _ _ hlen⟩
  have w1 := Typed_identityRule _ _ _ hwt
  obtain ⟨p3, w3, s3⟩ := scan_ScalarSide P (reductionCfg red) rfl rfl (cfg_rules_typed P red hr) hhom _ _ _ _ _ _
    (homothetyRule_forall P hhom _ fun o ho => hP o (identityRule_mem ops o ho)) (Typed_homothetyRule _ _ _ w1)
    (homothetyRule_ScalarSide _ _ _ w1) hscan
  rcases hr' with ⟨rfl, rfl⟩ | ⟨_, rfl⟩
  · -- the scan consumed the whole chain, so `s = t`; the chain's input structure is `s`
    obtain rfl : s = t := w3
    rw [(Typed_ends ops s s (by rintro rfl; simp at hlen) hwt).1]
    refine ⟨fun o ho => ?_, (Typed_cons ..).mpr ⟨rfl, rfl⟩, .inl fun o ho => ?_⟩
    · rw [List.mem_singleton.mp ho]; exact hid s
    · rw [List.mem_singleton.mp ho]; rfl
  · exact ⟨p3, w3, s3⟩

theorem binaryRules_typed {V : Type} (A : ArithSem V) (laws : RuleLaws A) (red : Op → Except PyErr Op)
    (hred : RedSound A laws red) : ∀ ru ∈ binaryRules red, RuleTypedOn laws.WT ru :=
  fun ru hm l r new hl hr hf hlr =>
    let ⟨h1, h2, _⟩ := binaryRules_sound A laws red hred ru hm l r new hl hr hf hlr
    ⟨h1, h2.typed⟩

/-! ### non-vacuity: `2·A·3·B`, kernel-evaluated -/

namespace ScalarSideEx

/-- a one-leaf structure with `n` elements -/
def sv (n : Nat) : Struct := ⟨[Tok.leaf], [⟨[n], .f64⟩]⟩

def dense (uid out inn : Nat) : Op := .leaf uid .dense { inS := sv inn, outS := sv out }
def hom (uid : Nat) (v : Rat) (n : Nat) : Op :=
  .leaf uid .homothety { inS := sv n, outS := sv n, vals := Tensor.scalar v }

/-- what the examples observe of a chain: per operand `(isHomothety, value, input size, output size)` -/
def view (ops : List Op) : List (Bool × Rat × Nat × Nat) :=
  ops.map fun o => (o.isHomothety, homValue o, o.inSize, o.outSize)

def viewR (r : Except PyErr (List Op)) : Option (List (Bool × Rat × Nat × Nat)) :=
  match r with
  | .ok res => some (view res)
  | .error _ => none

/-- tall: `A : 5 → 7`, `B : 3 → 5`; the chain `2·A·3·B` maps 3 elements to 7 -/
def tall : List Op := [hom 1 2 7, dense 2 7 5, hom 3 3 5, dense 4 5 3]
/-- wide: `A : 5 → 3`, `B : 7 → 5`; the chain `2·A·3·B` maps 7 elements to 3 -/
def wide : List Op := [hom 1 2 3, dense 2 3 5, hom 3 3 5, dense 4 5 7]

/-- `homothetyRule`, tall chain: one scalar `6` on the 3-element input side, at the END -/
example : view (homothetyRule tall) = [(false, 1, 5, 7), (false, 1, 3, 5), (true, 6, 3, 3)] := by decide +kernel
/-- `homothetyRule`, wide chain: one scalar `6` on the 3-element output side, at the HEAD -/
example : view (homothetyRule wide) = [(true, 6, 3, 3), (false, 1, 5, 3), (false, 1, 7, 5)] := by decide +kernel

/-- the full reduction, same chains -/
example : viewR (algebraicReduction (reduce 4) tall) =
    some [(false, 1, 5, 7), (false, 1, 3, 5), (true, 6, 3, 3)] := by decide +kernel
example : viewR (algebraicReduction (reduce 4) wide) =
    some [(true, 6, 3, 3), (false, 1, 5, 3), (false, 1, 7, 5)] := by decide +kernel

/-- the hypotheses of `C07.scalar_relocation_right` / `C07.scalar_relocation_left` hold on them -/
example : 2 ≤ tall.length ∧ tall.head? = some (hom 1 2 7) ∧ tall.getLast? = some (dense 4 5 3) ∧
    ¬ NoHom tall ∧ ¬ (hom 1 2 7).outSize ≤ (dense 4 5 3).inSize := by
  refine ⟨by decide, rfl, rfl, fun h => ?_, by decide⟩
  have := h (hom 1 2 7) (by simp [tall])
  simp [hom, isHomothety, isLeafCls] at this

example : 2 ≤ wide.length ∧ wide.head? = some (hom 1 2 3) ∧ wide.getLast? = some (dense 4 5 7) ∧
    ¬ NoHom wide ∧ (hom 1 2 3).outSize ≤ (dense 4 5 7).inSize := by
  refine ⟨by decide, rfl, rfl, fun h => ?_, by decide⟩
  have := h (hom 1 2 3) (by simp [wide])
  simp [hom, isHomothety, isLeafCls] at this

/-- the hypotheses of `C07.scalar_side_structural` (hence of `algebraicReduction_ScalarSide`) hold on them -/
theorem tall_ok : (∀ o ∈ tall, WTExpr (fun _ => True) zeroLeafOK o) ∧ Typed tall (sv 3) (sv 7) := by
  refine ⟨fun o ho => ?_, by simp [tall, hom, dense, Op.inS, Op.outS, squareLeaf]⟩
  simp only [tall, List.mem_cons, List.not_mem_nil, or_false] at ho
  rcases ho with rfl | rfl | rfl | rfl <;> simp [hom, dense, WTExpr, zeroLeafOK]

theorem wide_ok : (∀ o ∈ wide, WTExpr (fun _ => True) zeroLeafOK o) ∧ Typed wide (sv 7) (sv 3) := by
  refine ⟨fun o ho => ?_, by simp [wide, hom, dense, Op.inS, Op.outS, squareLeaf]⟩
  simp only [wide, List.mem_cons, List.not_mem_nil, or_false] at ho
  rcases ho with rfl | rfl | rfl | rfl <;> simp [hom, dense, WTExpr, zeroLeafOK]

/-- a chain on which binary rules fire at both ends and a scalar survives: `A⁻¹·A·2·B·R·Rᵀ` (tall `B`) -/
def busy : List Op :=
  [.wrap 6 .inverse (.leaf 5 .dense { inS := sv 7, outS := sv 7 }), .leaf 5 .dense { inS := sv 7, outS := sv 7 },
   hom 1 2 7, dense 2 7 3,
   .leaf 8 .qurot { inS := sv 3, outS := sv 3 }, .wrap 9 .qurotT (.leaf 8 .qurot { inS := sv 3, outS := sv 3 })]

example : viewR (algebraicReduction (reduce 4) busy) = some [(false, 1, 3, 7), (true, 2, 3, 3)] := by
  decide +kernel

theorem busy_ok : (∀ o ∈ busy, WTExpr (fun _ => True) zeroLeafOK o) ∧ Typed busy (sv 3) (sv 7) := by
  refine ⟨fun o ho => ?_, by simp [busy, hom, dense, Op.inS, Op.outS, squareLeaf]⟩
  simp only [busy, List.mem_cons, List.not_mem_nil, or_false] at ho
  rcases ho with rfl | rfl | rfl | rfl | rfl | rfl <;>
    simp [hom, dense, WTExpr, zeroLeafOK, WrapOK, WrapCls.isLazy, Op.inS, Op.outS, squareLeaf, isQURot, isLeafCls]

/-- the theorems apply to it: whatever the reduction returns has its scalar at the end (`7 ≤ 3` is false) -/
example (res : List Op) (h : algebraicReduction (reduce 4) busy = .ok res) :
    ScalarSide ((sv 7).size ≤ (sv 3).size) res :=
  (algebraicReduction_ScalarSide _ _
    (binaryRules_typed zeroArithSem zeroRuleLaws _ (reduce_RedSound _ _ zeroContainerLaws 4))
    zeroRuleLaws.WT_mkIdentity zeroRuleLaws.WT_mkHomothety busy res _ _ busy_ok.1 busy_ok.2 h).2.2

/-- the hypothesis `hr` of `algebraicReduction_ScalarSide` is satisfiable (with `P` the structural
well-formedness, `red := reduce fuel`) -/
example (fuel : Nat) : ∀ ru ∈ binaryRules (reduce fuel), RuleTypedOn (WTExpr (fun _ => True) zeroLeafOK) ru :=
  binaryRules_typed zeroArithSem zeroRuleLaws (reduce fuel) (reduce_RedSound _ _ zeroContainerLaws fuel)

/-! ### the typing hypothesis cannot be dropped (model only: operands no furax constructor builds)

`W := DiagonalInverseOperator(B)` of a NON-SQUARE `B : 5 → 1` (the real constructors refuse it: only a
`DiagonalOperator`, which is square, can be wrapped, and `InverseOperator.__init__` raises "Only square operators
can be inverted").  Every adjacent pair of the chains below has matching structures, but `InverseBinaryRule`
rewrites `B·W : 5 → 1` to the empty chain `5 → 5`, which changes an outer size of the chain without
`homothetyRule` being called again. -/

def B51 : Op := dense 20 1 5
def W55 : Op := .wrap 21 .diagInv B51

/-- `A·2·B·W` with `A : 1 → 3`: on input `first.outSize = 3 ≤ 5 = last.inSize`, the scalar is put at the head
(3 elements); the scan cancels `B·W`, the result is `2·A` with `first.outSize = 3 > 1 = last.inSize`: the scalar
stands at the head of the RESULT although the result's own ends prescribe the end (1 element). -/
def wrongForResult : List Op := [dense 22 3 1, hom 23 2 1, B51, W55]

theorem wrongForResult_adjacent : Chain wrongForResult := by
  simp [wrongForResult, Chain, dense, hom, B51, W55, Op.inS, Op.outS, squareLeaf]

theorem scalar_wrong_side_untyped_result :
    viewR (algebraicReduction (reduce 4) wrongForResult) = some [(true, 2, 3, 3), (false, 1, 1, 3)] := by
  decide +kernel

/-- `B·W·Q·H·C` with `Q := QURotationTransposeOperator(2·I₅)` (ill formed as well), `H` a half-wave plate on 5
elements, `C : 3 → 5`: on input `first.outSize = 1 ≤ 3 = last.inSize` (head prescribed); the scan cancels `B·W`,
then `Q·H → H·(2·I)` produces a scalar and `homothetyRule` is called on `[H, 2·I, C]`, whose ends now say
`5 > 3`: the scalar ends up LAST, against the side prescribed by the input chain. -/
def wrongForInput : List Op :=
  [B51, W55, .wrap 24 .qurotT (hom 25 2 5), .leaf 26 .hwp { inS := sv 5, outS := sv 5 }, dense 27 5 3]

theorem wrongForInput_adjacent : Chain wrongForInput := by
  simp [wrongForInput, Chain, dense, hom, B51, W55, Op.inS, Op.outS, squareLeaf]

theorem scalar_wrong_side_untyped_input :
    viewR (algebraicReduction (reduce 4) wrongForInput) =
      some [(false, 1, 5, 5), (false, 1, 3, 5), (true, 2, 3, 3)] := by
  decide +kernel

/-- The hypothesis `Chain ops` cannot be dropped either, even with well-formed operands: `A·2·D·D⁻¹` with
`A : 1 → 3`, the scalar on 1 element and `D` a diagonal operator on 5 elements (`2` and `D` do not fit; `@` refuses
to build this chain, `CompositionOperator([...])` and `AlgebraicReductionRule.apply` accept it).  Same outcome as
`wrongForResult`. -/
def illTyped : List Op :=
  [dense 22 3 1, hom 23 2 1, .leaf 30 .diagonal { inS := sv 5, outS := sv 5 },
   .wrap 31 .diagInv (.leaf 30 .diagonal { inS := sv 5, outS := sv 5 })]

theorem illTyped_operands_ok : ∀ o ∈ illTyped, WTExpr (fun _ => True) zeroLeafOK o := by
  intro o ho
  simp only [illTyped, List.mem_cons, List.not_mem_nil, or_false] at ho
  rcases ho with rfl | rfl | rfl | rfl <;>
    simp [hom, dense, WTExpr, zeroLeafOK, WrapOK, WrapCls.isLazy, Op.inS, Op.outS, squareLeaf]

theorem illTyped_not_Chain : ¬ Chain illTyped := by
  simp [illTyped, Chain, dense, hom, Op.inS, Op.outS, squareLeaf, sv]

theorem scalar_wrong_side_illTyped :
    viewR (algebraicReduction (reduce 4) illTyped) = some [(true, 2, 3, 3), (false, 1, 1, 3)] := by
  decide +kernel

/-- and the binary rules are indeed not typed on these operands: `InverseBinaryRule` on `B, W` -/
theorem inverseBinaryRule_not_typed : ¬ RuleTypedOn (fun _ => True) inverseBinaryRule := by
  intro h
  have hf : inverseBinaryRule.fire B51 W55 = .ok (some []) := by rfl
  have := (h B51 W55 [] trivial trivial hf (by decide)).2
  revert this
  simp [B51, W55, dense, Op.inS, Op.outS, sv, squareLeaf]

end ScalarSideEx

end Furax
