/-
Theorems about the generic scan of FuraxModel/Scan.lean (the loop of `AlgebraicReductionRule.apply`), and the
semantic framework they are stated in: `Sem` (a denotation of operators as typed maps, with `Sem.app` / `Sem.WT` for
chains), soundness of a rule and of a chain transformer on operands satisfying an invariant (`RuleSoundOn`,
`ListSoundOn`) and their instances for `Sem.ok` (`RuleSound`, `ListSound`).

A firing at the pair `ops[i]`, `ops[i+1]` rewrites the chain `a ++ l :: r :: z` to `a ++ new ++ z` (`splice_ctx`);
`scan_cases` lists the ways one iteration can go in these terms, and `scan_inv` is the induction over the loop for a
property of the chain that every firing preserves.  From it:

* `scan_sound_on`    — typed soundness relative to an invariant `P` of the operands: for ANY list of rules sound
                       on `P`-operands, ANY chain of `P`-operands, ANY starting index and ANY fuel, the result is a
                       chain of `P`-operands, well typed between the same structures, and denotes the same map;
                       `scan_sound` is the case `P := Sem.ok`;
* `scan_homCount`    — at most one scalar operator.

`scan_irreducible` (normal form: when the loop stops by itself, no adjacent pair of the result fires any rule) has
an induction of its own, since its invariant "every pair left of `index` is irreducible" mentions the index.

Core Lean only (no Mathlib).
-/
import FuraxModel.Scan
import FuraxProofs.Lemmas.ReduceEval
namespace Furax

/-- Semantics of operators as maps on a universal value space `V`, typed by structures `S`.

`ok o` is the well-formedness of the operator term `o` (for the furax operator tree: `StructOK`,
FuraxProofs/Lemmas/WellFormed.lean — what the Python constructors guarantee).  The law `honest` is demanded of
well-formed terms only: a faithful denotation (vectors of the declared sizes) cannot satisfy it for terms no
constructor can build (a composition whose adjacent structures do not match, …). -/
structure Sem (O V S : Type) where
  den : O → V → V
  inS : O → S
  outS : O → S
  mem : S → V → Prop
  ok : O → Prop
  honest : ∀ o x, ok o → mem (inS o) x → mem (outS o) (den o x)

namespace Sem
variable {O V S : Type} (sem : Sem O V S)

/-- `[a, b, c]` denotes `a ∘ b ∘ c` -/
def app : List O → V → V
  | [], x => x
  | o :: os, x => sem.den o (app os x)

/-- the chain maps structure `s` to structure `t`, adjacent structures matching -/
def WT : List O → S → S → Prop
  | [], s, t => s = t
  | o :: os, s, t => sem.outS o = t ∧ WT os s (sem.inS o)

theorem app_append (a b : List O) (x : V) : sem.app (a ++ b) x = sem.app a (sem.app b x) := by
  induction a with
  | nil => rfl
  | cons o os ih => simp [app, ih]

theorem WT_append (a b : List O) (s t : S) :
    sem.WT (a ++ b) s t ↔ ∃ m, sem.WT b s m ∧ sem.WT a m t := by
  induction a generalizing t with
  | nil => simp [WT]
  | cons o os ih =>
    simp only [List.cons_append, WT, ih]
    constructor
    · rintro ⟨h1, m, h2, h3⟩; exact ⟨m, h2, h1, h3⟩
    · rintro ⟨m, h2, h1, h3⟩; exact ⟨h1, m, h2, h3⟩

theorem WT_mem (ops : List O) (s t : S) (hok : ∀ o ∈ ops, sem.ok o) (h : sem.WT ops s t) (x : V)
    (hx : sem.mem s x) : sem.mem t (sem.app ops x) := by
  induction ops generalizing t with
  | nil => simp [WT] at h; subst h; exact hx
  | cons o os ih =>
    obtain ⟨h1, h2⟩ := h
    subst h1
    exact sem.honest o _ (hok o List.mem_cons_self) (ih _ (fun o' ho' => hok o' (List.mem_cons_of_mem _ ho')) h2)

/-- A rule is sound when, on every well-typed adjacent pair of well-formed (`ok`) operands it fires on, its
output consists of well-formed operands, is well typed between the same structures and denotes the same map.
(This is `RuleSoundOn sem.ok`.) -/
def RuleSound {E} (ru : Rule O E) : Prop :=
  ∀ l r new, sem.ok l → sem.ok r → ru.fire l r = .ok (some new) → sem.inS l = sem.outS r →
    (∀ o ∈ new, sem.ok o) ∧ sem.WT new (sem.inS r) (sem.outS l) ∧
    ∀ x, sem.mem (sem.inS r) x → sem.app new x = sem.den l (sem.den r x)

/-- a chain transformer (the scalar relocation) that preserves well-formedness of the operands, typing and
denotation (this is `ListSoundOn sem.ok`) -/
def ListSound (f : List O → List O) : Prop :=
  ∀ ops s t, (∀ o ∈ ops, sem.ok o) → sem.WT ops s t →
    (∀ o ∈ f ops, sem.ok o) ∧ sem.WT (f ops) s t ∧ ∀ x, sem.mem s x → sem.app (f ops) x = sem.app ops x

/-- soundness of a binary rule on operands satisfying the invariant `P` (which the rule must preserve).

`RuleSound` asks this of all pairs of well-formed (`ok`, for the operator tree: `StructOK`) operands.  For the
registered furax rules that is too strong: several of them are only correct on operands that passed their
constructor's validation (`InverseBinaryRule` fires on `InverseOperator(o), o` for ANY `o` and returns the empty
chain, which denotes another map when `o` is singular — `scalar_inverseBinaryRule_not_RuleSound` in
FuraxProofs/Lemmas/ScalarModel.lean; asked of ALL pairs, `P := fun _ => True`, it fails on typing alone, for
`o, DiagonalInverseOperator(o)` with a non-square `o` — `inverseBinaryRule_not_RuleSound` in
FuraxProofs/Lemmas/RuleSound.lean).  Hence the invariant
`P`, which every rule has to preserve and which has to imply well-formedness wherever the law `honest` is
needed. -/
def RuleSoundOn {E} (P : O → Prop) (ru : Rule O E) : Prop :=
  ∀ l r new, P l → P r → ru.fire l r = .ok (some new) → sem.inS l = sem.outS r →
    (∀ o ∈ new, P o) ∧ sem.WT new (sem.inS r) (sem.outS l) ∧
    ∀ x, sem.mem (sem.inS r) x → sem.app new x = sem.den l (sem.den r x)

/-- a chain transformer that preserves the invariant, typing and denotation -/
def ListSoundOn (P : O → Prop) (f : List O → List O) : Prop :=
  ∀ ops s t, (∀ o ∈ ops, P o) → sem.WT ops s t →
    (∀ o ∈ f ops, P o) ∧ sem.WT (f ops) s t ∧ ∀ x, sem.mem s x → sem.app (f ops) x = sem.app ops x

end Sem

theorem splice_ctx {O} (ops : List O) (i : Nat) (h : i + 1 < ops.length) :
    ∃ a z, ops = a ++ ops[i]'(Nat.lt_of_succ_lt h) :: ops[i+1]'h :: z ∧ a.length = i ∧
      ∀ new, splice ops i new = a ++ new ++ z := by
  refine ⟨ops.take i, ops.drop (i + 2), ?_, List.length_take_of_le (Nat.le_of_lt (Nat.lt_of_succ_lt h)), fun _ => rfl⟩
  rw [← List.drop_eq_getElem_cons h, ← List.drop_eq_getElem_cons (Nat.lt_of_succ_lt h), List.take_append_drop]

theorem ctx_sound {O V S} (sem : Sem O V S) (a : List O) (l r : O) (z new : List O) (s t : S)
    (hokz : ∀ o ∈ z, sem.ok o) (hwt : sem.WT (a ++ l :: r :: z) s t)
    (hnew : sem.inS l = sem.outS r → sem.WT new (sem.inS r) (sem.outS l) ∧
      ∀ x, sem.mem (sem.inS r) x → sem.app new x = sem.den l (sem.den r x)) :
    sem.inS l = sem.outS r ∧ sem.WT (a ++ new ++ z) s t ∧
    ∀ x, sem.mem s x → sem.app (a ++ new ++ z) x = sem.app (a ++ l :: r :: z) x := by
  obtain ⟨m, ⟨hl, hr, hz⟩, ha⟩ := (sem.WT_append ..).mp hwt
  obtain ⟨hnwt, hnapp⟩ := hnew hr.symm
  refine ⟨hr.symm, (sem.WT_append ..).mpr ⟨_, hz, (sem.WT_append ..).mpr ⟨_, hl ▸ hnwt, ha⟩⟩, fun x hx => ?_⟩
  simp only [Sem.app_append, Sem.app]
  rw [hnapp _ (sem.WT_mem z _ _ hokz hz x hx)]

theorem splice_sound {O V S} (sem : Sem O V S) (ops : List O) (index : Nat) (new : List O) (s t : S)
    (h : index + 1 < ops.length) (hok : ∀ o ∈ ops, sem.ok o) (hwt : sem.WT ops s t)
    (hnew : sem.inS ops[index] = sem.outS ops[index+1] →
      sem.WT new (sem.inS ops[index+1]) (sem.outS ops[index]) ∧
      ∀ x, sem.mem (sem.inS ops[index+1]) x →
        sem.app new x = sem.den ops[index] (sem.den ops[index+1] x)) :
    sem.WT (splice ops index new) s t ∧
    ∀ x, sem.mem s x → sem.app (splice ops index new) x = sem.app ops x := by
  obtain ⟨a, z, hops, -, hsp⟩ := splice_ctx ops index h
  have hokz : ∀ o ∈ z, sem.ok o := fun o ho => hok o (by rw [hops]; simp [ho])
  rw [hops] at hwt
  obtain ⟨-, hw, ha⟩ := ctx_sound sem a _ _ z new s t hokz hwt hnew
  rw [hsp]
  exact ⟨hw, fun x hx => (ha x hx).trans (by rw [← hops])⟩

/-- **One iteration** at an index `i` that has a pair, `l = ops[i]` and `r = ops[i+1]` in `ops = a ++ l :: r :: z`: the loop
raises the exception of a rule, advances, or fires a rule and goes on from `a ++ new ++ z` — one step back, or from
the start after the scalar relocation. -/
theorem scan_cases {O E} (c : Cfg O E) (fuel : Nat) (ops : List O) (i : Nat) (h : i + 1 < ops.length) :
    ∃ a l r z, ops = a ++ l :: r :: z ∧ a.length = i ∧ l = ops[i]'(Nat.lt_of_succ_lt h) ∧ r = ops[i+1]'h ∧
      (∀ new, splice ops i new = a ++ new ++ z) ∧
      ((∃ e, fireFirst c.rules l r = .error e ∧ scan c (fuel + 1) ops i = .error e) ∨
       (fireFirst c.rules l r = .ok none ∧ scan c (fuel + 1) ops i = scan c fuel ops (i + 1)) ∨
       (∃ new, fireFirst c.rules l r = .ok (some new) ∧ new.any c.isHom = false ∧
         scan c (fuel + 1) ops i = scan c fuel (a ++ new ++ z) (i - 1)) ∨
       (∃ new, fireFirst c.rules l r = .ok (some new) ∧ new.any c.isHom = true ∧
         scan c (fuel + 1) ops i = scan c fuel (c.homRule (a ++ new ++ z)) 0)) := by
  obtain ⟨a, z, hops, ha, hsp⟩ := splice_ctx ops i h
  refine ⟨a, _, _, z, hops, ha, rfl, rfl, hsp, ?_⟩
  cases hf : fireFirst c.rules (ops[i]'(Nat.lt_of_succ_lt h)) (ops[i+1]'h) with
  | error e => exact .inl ⟨e, rfl, by rw [scan, dif_pos h, hf]⟩
  | ok o =>
    cases o with
    | none => exact .inr (.inl ⟨rfl, scan_advance c fuel ops i h hf⟩)
    | some new =>
      cases hh : new.any c.isHom with
      | false => exact .inr (.inr (.inl ⟨new, rfl, hh, hsp new ▸ scan_fire c fuel ops i h hf hh⟩))
      | true => exact .inr (.inr (.inr ⟨new, rfl, hh, hsp new ▸ scan_fire_hom c fuel ops i h hf hh⟩))

/-- **Invariants of the loop.**  A property of the chain that every firing preserves — through the rewrite of
`a ++ l :: r :: z` to `a ++ new ++ z`, followed by the scalar relocation when `new` contains a scalar operator —
holds of the result, for every amount of fuel and every starting index. -/
theorem scan_inv {O E} (c : Cfg O E) (I : List O → Prop)
    (step : ∀ a l r z new, I (a ++ l :: r :: z) → fireFirst c.rules l r = .ok (some new) →
      new.any c.isHom = false → I (a ++ new ++ z))
    (restart : ∀ a l r z new, I (a ++ l :: r :: z) → fireFirst c.rules l r = .ok (some new) →
      new.any c.isHom = true → I (c.homRule (a ++ new ++ z))) :
    ∀ fuel ops i res, I ops → scan c fuel ops i = .ok (some res) → I res := by
  intro fuel
  induction fuel with
  | zero => intro ops i res _ h; cases h
  | succ n ih =>
    intro ops i res hI hres
    by_cases h : i + 1 < ops.length
    · obtain ⟨a, l, r, z, rfl, -, -, -, -, hc⟩ := scan_cases c n ops i h
      rcases hc with ⟨_, -, e⟩ | ⟨-, e⟩ | ⟨new, hf, hh, e⟩ | ⟨new, hf, hh, e⟩ <;> rw [e] at hres
      · cases hres
      · exact ih _ _ _ hI hres
      · exact ih _ _ _ (step a l r z new hI hf hh) hres
      · exact ih _ _ _ (restart a l r z new hI hf hh) hres
    · rw [scan_stop c n ops i h] at hres
      cases hres
      exact hI

theorem fire_sound {O V S E} (sem : Sem O V S) (P : O → Prop) (hPok : ∀ o, P o → sem.ok o) (rules : List (Rule O E))
    (hr : ∀ ru ∈ rules, sem.RuleSoundOn P ru) (a : List O) (l r : O) (z new : List O) (s t : S)
    (hP : ∀ o ∈ a ++ l :: r :: z, P o) (hwt : sem.WT (a ++ l :: r :: z) s t)
    (hf : fireFirst rules l r = .ok (some new)) :
    (∀ o ∈ a ++ new ++ z, P o) ∧ sem.WT (a ++ new ++ z) s t ∧
    ∀ x, sem.mem s x → sem.app (a ++ new ++ z) x = sem.app (a ++ l :: r :: z) x := by
  obtain ⟨ru, hmem, hfire⟩ := fireFirst_some _ _ _ _ hf
  obtain ⟨hPa, hPl, hPr, hPz⟩ : (∀ o ∈ a, P o) ∧ P l ∧ P r ∧ ∀ o ∈ z, P o := by
    simpa only [List.forall_mem_append, List.forall_mem_cons] using hP
  have hrule := hr ru hmem l r new hPl hPr hfire
  obtain ⟨hlr, hws⟩ := ctx_sound sem a l r z new s t (fun o ho => hPok o (hPz o ho)) hwt fun hlr => (hrule hlr).2
  exact ⟨List.forall_mem_append.mpr ⟨List.forall_mem_append.mpr ⟨hPa, (hrule hlr).1⟩, hPz⟩, hws⟩

/-- **Typed soundness of the scan relative to an invariant** of the operands, for every rule list, chain, index
and amount of fuel. -/
theorem scan_sound_on {O V S E} (sem : Sem O V S) (P : O → Prop) (hPok : ∀ o, P o → sem.ok o) (c : Cfg O E)
    (hr : ∀ ru ∈ c.rules, sem.RuleSoundOn P ru) (hh : sem.ListSoundOn P c.homRule) :
    ∀ fuel ops index res s t, (∀ o ∈ ops, P o) → sem.WT ops s t →
      scan c fuel ops index = .ok (some res) →
      (∀ o ∈ res, P o) ∧ sem.WT res s t ∧ ∀ x, sem.mem s x → sem.app res x = sem.app ops x := by
  intro fuel ops index res s t hP hwt hres
  -- the invariant: a chain of `P`-operands from `s` to `t` that denotes what `ops` denotes
  refine scan_inv c (fun l => (∀ o ∈ l, P o) ∧ sem.WT l s t ∧ ∀ x, sem.mem s x → sem.app l x = sem.app ops x)
    ?_ ?_ fuel ops index res ⟨hP, hwt, fun _ _ => rfl⟩ hres
  · intro a l r z new ⟨hPl, hwl, hal⟩ hf _
    obtain ⟨hPs, hws, has⟩ := fire_sound sem P hPok c.rules hr a l r z new s t hPl hwl hf
    exact ⟨hPs, hws, fun x hx => (has x hx).trans (hal x hx)⟩
  · intro a l r z new ⟨hPl, hwl, hal⟩ hf _
    obtain ⟨hPs, hws, has⟩ := fire_sound sem P hPok c.rules hr a l r z new s t hPl hwl hf
    obtain ⟨hP', hw', ha'⟩ := hh _ _ _ hPs hws
    exact ⟨hP', hw', fun x hx => ((ha' x hx).trans (has x hx)).trans (hal x hx)⟩

/-- **Typed soundness of the scan**, for every rule list, chain of well-formed operands, index and amount of
fuel. -/
theorem scan_sound {O V S E} (sem : Sem O V S) (c : Cfg O E)
    (hr : ∀ ru ∈ c.rules, sem.RuleSound ru) (hh : sem.ListSound c.homRule) :
    ∀ fuel ops index res s t, (∀ o ∈ ops, sem.ok o) → sem.WT ops s t →
      scan c fuel ops index = .ok (some res) →
      (∀ o ∈ res, sem.ok o) ∧ sem.WT res s t ∧ ∀ x, sem.mem s x → sem.app res x = sem.app ops x :=
  scan_sound_on sem sem.ok (fun _ h => h) c hr hh

/-- no adjacent pair fires a rule -/
def Irreducible {O E} (c : Cfg O E) (ops : List O) : Prop :=
  ∀ i (h : i + 1 < ops.length), fireFirst c.rules ops[i] ops[i+1] = .ok none

/-- every adjacent pair strictly left of `index` is irreducible -/
def IrrBelow {O E} (c : Cfg O E) (ops : List O) (index : Nat) : Prop :=
  ∀ i (h : i + 1 < ops.length), i < index → fireFirst c.rules ops[i] ops[i+1] = .ok none

theorem splice_getElem_lt {O} (ops : List O) (index : Nat) (new : List O) (i : Nat)
    (hi : i < index) (h1 : index ≤ ops.length) (h2 : i < (splice ops index new).length) :
    (splice ops index new)[i] = ops[i]'(by omega) := by
  have : i < (ops.take index).length := by rw [List.length_take_of_le h1]; exact hi
  simp only [splice, List.append_assoc]
  rw [List.getElem_append_left this, List.getElem_take]

/-- **Normal form**: when the loop stops by itself the result is irreducible, from any state satisfying
the loop invariant (in particular from `index = 0`). -/
theorem scan_irreducible {O E} (c : Cfg O E) :
    ∀ fuel ops index res, IrrBelow c ops index → scan c fuel ops index = .ok (some res) →
      Irreducible c res := by
  intro fuel
  induction fuel with
  | zero => intro ops index res _ h; cases h
  | succ n ih =>
    intro ops index res hinv hres
    by_cases h : index + 1 < ops.length
    · obtain ⟨a, l, r, z, -, rfl, rfl, rfl, hsp, hc⟩ := scan_cases c n ops index h
      rcases hc with ⟨_, -, e⟩ | ⟨hf, e⟩ | ⟨new, -, -, e⟩ | ⟨new, -, -, e⟩ <;> rw [e] at hres
      · cases hres
      · refine ih _ _ res (fun k hk hlt => ?_) hres
        by_cases hEq : k = a.length
        · subst hEq; exact hf
        · exact hinv k hk (by omega)
      · -- the pairs left of `a.length - 1` are those of `ops`
        rw [← hsp] at hres
        refine ih _ _ res (fun k hk hlt => ?_) hres
        have hk1 : k + 1 < a.length := by omega
        have ha : a.length ≤ ops.length := Nat.le_of_lt (Nat.lt_of_succ_lt h)
        rw [splice_getElem_lt ops _ new k (Nat.lt_of_succ_lt hk1) ha (Nat.lt_of_succ_lt hk),
          splice_getElem_lt ops _ new (k + 1) hk1 ha hk]
        exact hinv k (Nat.lt_trans hk1 (Nat.lt_of_succ_lt h)) (Nat.lt_of_succ_lt hk1)
      · exact ih _ 0 res (fun _ _ hlt => absurd hlt (Nat.not_lt_zero _)) hres
    · rw [scan_stop c n ops index h] at hres
      cases hres
      exact fun i hi => hinv i hi (by omega)

/-- number of operands the configuration classifies as scalar operators -/
def homCount {O E} (c : Cfg O E) (ops : List O) : Nat := (ops.filter c.isHom).length

theorem homCount_append {O E} (c : Cfg O E) (a b : List O) :
    homCount c (a ++ b) = homCount c a + homCount c b := by
  simp [homCount, List.filter_append]

theorem homCount_ctx_le {O E} (c : Cfg O E) (a : List O) (l r : O) (z new : List O)
    (hn : new.any c.isHom = false) : homCount c (a ++ new ++ z) ≤ homCount c (a ++ l :: r :: z) := by
  have h0 : homCount c new = 0 :=
    List.length_eq_zero_iff.mpr (List.filter_eq_nil_iff.mpr fun o ho => by simpa using List.any_eq_false.mp hn o ho)
  have hz : homCount c (l :: r :: z) = homCount c [l, r] + homCount c z := homCount_append c [l, r] z
  rw [homCount_append, homCount_append, h0, homCount_append, hz]
  omega

/-- If the scalar relocation always leaves at most one scalar operator, so does the whole scan. -/
theorem scan_homCount {O E} (c : Cfg O E) (hh : ∀ ops, homCount c (c.homRule ops) ≤ 1) :
    ∀ fuel ops index res, homCount c ops ≤ 1 → scan c fuel ops index = .ok (some res) →
      homCount c res ≤ 1 :=
  scan_inv c (fun l => homCount c l ≤ 1)
    (fun a l r z new hI _ hn => Nat.le_trans (homCount_ctx_le c a l r z new hn) hI)
    (fun _ _ _ _ _ _ _ _ => hh _)

end Furax
