/-
Soundness of `AlgebraicReductionRule.apply` relative to an invariant `P` of the operands of the chain, which every
rule has to preserve and which has to imply well-formedness (`Sem.RuleSoundOn`, `scan_sound_on`:
FuraxProofs/Lemmas/Scan.lean, where the reason for `P` is given).

`Sem.RuleSound` quantifies over all pairs `l r` of well-formed (`Sem.ok`, for the operator tree: `StructOK`)
operands: it is `RuleSoundOn sem.ok`, and the unrelativised `OpSem.algebraicReduction_sound` is the case
`P := StructOK`.  Soundness on ALL pairs is `RuleSoundOn (fun _ => True)`.
-/
import FuraxProofs.Lemmas.Nary
namespace Furax
open Op

namespace Sem
variable {O V S : Type} (sem : Sem O V S)

/-- `RuleSound` is soundness relative to the well-formedness `sem.ok` of the semantics -/
theorem RuleSound_iff_RuleSoundOn_ok {E} (ru : Rule O E) : sem.RuleSound ru ↔ sem.RuleSoundOn sem.ok ru :=
  Iff.rfl

theorem ListSound_iff_ListSoundOn_ok (f : List O → List O) : sem.ListSound f ↔ sem.ListSoundOn sem.ok f :=
  Iff.rfl

theorem RuleSoundOn_of_RuleSound {E} (ru : Rule O E) (h : sem.RuleSound ru) :
    sem.RuleSoundOn sem.ok ru := h

end Sem

namespace OpSem
variable {V : Type} (L : OpSem V)

theorem identityRule_sound_on (P : Op → Prop) (hPok : ∀ o, P o → StructOK o) :
    L.toSem.ListSoundOn P identityRule := by
  intro ops s t hP hwt
  exact ⟨fun o ho => hP o (identityRule_mem ops o ho),
    (L.identityRule_sound ops s t (fun o ho => hPok o (hP o ho)) hwt).2⟩

theorem homothetyRule_sound_on (P : Op → Prop) (hPok : ∀ o, P o → StructOK o)
    (hhom : ∀ v s, P (mkHomothety v s)) :
    L.toSem.ListSoundOn P homothetyRule := by
  intro ops s t hP hwt
  exact ⟨homothetyRule_forall P hhom ops hP, (L.homothetyRule_sound ops s t (fun o ho => hPok o (hP o ho)) hwt).2⟩

/-- the rules of the loop are the registered ones followed by the removal of identities, which keeps them sound -/
theorem cfg_rules_sound_on (P : Op → Prop) (hPok : ∀ o, P o → StructOK o) (red : Op → Except PyErr Op)
    (hr : ∀ ru ∈ binaryRules red, L.toSem.RuleSoundOn P ru) :
    ∀ ru ∈ (reductionCfg red).rules, L.toSem.RuleSoundOn P ru := by
  intro ru hm l r new hl hr' hf hlr
  obtain ⟨ru0, hm0, rfl⟩ := List.mem_map.mp hm
  obtain ⟨new0, hf0, rfl⟩ := dropIdentities_fire hf
  obtain ⟨hp, hw, ha⟩ := hr ru0 hm0 l r new0 hl hr' hf0 hlr
  obtain ⟨hp', hw', ha'⟩ := L.identityRule_sound_on P hPok _ _ _ hp hw
  exact ⟨hp', hw', fun x hx => (ha' x hx).trans (ha x hx)⟩

/-- **`AlgebraicReductionRule.apply` is sound relative to an invariant `P`** of the operands that implies
structural well-formedness, that the binary rules preserve and that identities and scalar operators satisfy; the
empty result becomes an identity on the chain's input structure. -/
theorem algebraicReduction_sound_on (P : Op → Prop) (hPok : ∀ o, P o → StructOK o)
    (hid : ∀ s, P (mkIdentity s))
    (hhom : ∀ v s, P (mkHomothety v s)) (red : Op → Except PyErr Op)
    (hr : ∀ ru ∈ binaryRules red, L.toSem.RuleSoundOn P ru)
    (ops res : List Op) (s t : Struct) (hP : ∀ o ∈ ops, P o) (hwt : L.toSem.WT ops s t)
    (hres : algebraicReduction red ops = .ok res) :
    (∀ o ∈ res, P o) ∧ L.toSem.WT res s t ∧
    ∀ x, L.mem s x → L.toSem.app res x = L.toSem.app ops x := by
  rcases algebraicReduction_ok hres with ⟨_, rfl⟩ | ⟨hlen, r, hscan, hr'⟩
  · exact ⟨hP, hwt, fun _ _ => rfl⟩
  obtain ⟨p1, w1, a1⟩ := L.identityRule_sound_on P hPok _ _ _ hP hwt
  obtain ⟨p2, w2, a2⟩ := L.homothetyRule_sound_on P hPok hhom _ _ _ p1 w1
  obtain ⟨p3, w3, a3⟩ := scan_sound_on L.toSem P hPok (reductionCfg red) (L.cfg_rules_sound_on P hPok red hr)
    (L.homothetyRule_sound_on P hPok hhom) _ _ _ _ _ _ p2 w2 hscan
  have hall : ∀ x, L.mem s x → L.toSem.app r x = L.toSem.app ops x :=
    fun x hx => by rw [a3 x hx, a2 x hx, a1 x hx]
  rcases hr' with ⟨rfl, rfl⟩ | ⟨_, rfl⟩
  · -- the scan consumed the whole chain, so `s = t`; the chain's input structure is `s`
    obtain rfl : s = t := w3
    rw [(Typed_ends ops s s (by rintro rfl; simp at hlen) hwt.typed).1]
    refine ⟨fun o ho => ?_, ⟨rfl, rfl⟩, fun x hx => (L.identity_law (mkIdentity s) rfl x hx).trans (hall x hx)⟩
    rw [List.mem_singleton.mp ho]
    exact hid s
  · exact ⟨p3, w3, hall⟩

theorem cfg_rules_sound (red : Op → Except PyErr Op)
    (hr : ∀ ru ∈ binaryRules red, L.toSem.RuleSound ru) :
    ∀ ru ∈ (reductionCfg red).rules, L.toSem.RuleSound ru :=
  L.cfg_rules_sound_on StructOK (fun _ h => h) red hr

/-- **`AlgebraicReductionRule.apply` is sound** for every chain of structurally well-formed operands, provided
every binary rule of the registry is (`RuleSound`). -/
theorem algebraicReduction_sound (red : Op → Except PyErr Op)
    (hr : ∀ ru ∈ binaryRules red, L.toSem.RuleSound ru)
    (ops res : List Op) (s t : Struct) (hok : ∀ o ∈ ops, StructOK o) (hwt : L.toSem.WT ops s t)
    (hres : algebraicReduction red ops = .ok res) :
    (∀ o ∈ res, StructOK o) ∧ L.toSem.WT res s t ∧
    ∀ x, L.mem s x → L.toSem.app res x = L.toSem.app ops x :=
  L.algebraicReduction_sound_on StructOK (fun _ h => h) StructOK_mkIdentity StructOK_mkHomothety red hr
    ops res s t hok hwt hres

end OpSem
end Furax
