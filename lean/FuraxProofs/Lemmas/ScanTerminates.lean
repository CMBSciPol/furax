/-
Termination of the generic scan of FuraxModel/Scan.lean (the loop of `AlgebraicReductionRule.apply`).

The soundness theorems (Lemmas/Scan.lean, Lemmas/ScanOn.lean) are all conditional on `scan … = .ok (some r)`.
Here: the fuel is never exhausted, provided the rule set carries

* a FIRING measure `μ : List O → Nat` that every firing strictly decreases (measured on the chain AFTER the
  loop's post-processing: `splice`, and `homRule` when the output contains a scalar operator), and
* a RESTART measure `ν : List O → Nat` that no firing increases and every firing that restarts the index at 0
  strictly decreases (`ν := μ` always qualifies, `scan_terminates_of_measure`),

and provided no firing lengthens the chain.  The number of loop iterations from `(ops, index)` is then at most

    scanBound (μ ops) (ν ops) ops.length index = 2 * μ ops + ν ops * ops.length + (ops.length - index) + 1

(each firing is followed by at most one step back, so it costs at most two iterations; each restart costs at
most `length` further advances; the remaining advances are at most `length - index`; one more unit of fuel is
needed to observe the exit).

Core Lean only (no Mathlib).
-/
import FuraxProofs.Lemmas.Scan
namespace Furax

/-- the measure hypotheses of the termination theorem -/
structure Cfg.Decreasing {O E} (c : Cfg O E) (μ ν : List O → Nat) : Prop where
  /-- a firing whose output has no scalar operator: the index steps back by one -/
  step : ∀ (ops : List O) (i : Nat) (h : i + 1 < ops.length) (new : List O),
    fireFirst c.rules ops[i] ops[i+1] = .ok (some new) → new.any c.isHom = false →
    μ (splice ops i new) < μ ops ∧ ν (splice ops i new) ≤ ν ops ∧ (splice ops i new).length ≤ ops.length
  /-- a firing whose output has a scalar operator: `homRule` is applied and the index restarts at 0 -/
  restart : ∀ (ops : List O) (i : Nat) (h : i + 1 < ops.length) (new : List O),
    fireFirst c.rules ops[i] ops[i+1] = .ok (some new) → new.any c.isHom = true →
    μ (c.homRule (splice ops i new)) < μ ops ∧ ν (c.homRule (splice ops i new)) < ν ops ∧
      (c.homRule (splice ops i new)).length ≤ ops.length

/-- the explicit bound on the number of iterations (plus one, to observe the exit) -/
def scanBound (m n len index : Nat) : Nat := 2 * m + n * len + (len - index) + 1

/-- **Termination of the scan**, any start index: with at least `scanBound` fuel the loop does not run out of
fuel (it returns a chain, or the exception of a rule). -/
theorem scan_terminates {O E} (c : Cfg O E) (μ ν : List O → Nat) (hc : c.Decreasing μ ν) :
    ∀ (fuel : Nat) (ops : List O) (index : Nat),
      scanBound (μ ops) (ν ops) ops.length index ≤ fuel → scan c fuel ops index ≠ .ok none := by
  intro fuel
  induction fuel with
  | zero => intro ops index h; simp [scanBound] at h
  | succ fuel ih =>
    intro ops index hb
    simp only [scanBound] at hb ih
    by_cases h : index + 1 < ops.length
    · obtain ⟨a, l, r, z, -, rfl, rfl, rfl, hsp, hcs⟩ := scan_cases c fuel ops index h
      rcases hcs with ⟨_, -, e⟩ | ⟨-, e⟩ | ⟨new, hf, hh, e⟩ | ⟨new, hf, hh, e⟩ <;> rw [e] <;> try rw [← hsp]
      · simp
      · exact ih _ _ (by omega)
      · obtain ⟨h1, h2, h3⟩ := hc.step ops _ h new hf hh
        have := Nat.mul_le_mul h2 h3
        exact ih _ _ (by omega)
      · obtain ⟨h1, h2, h3⟩ := hc.restart ops _ h new hf hh
        -- the restart may cost `length` further advances, paid for by the decrease of `ν`
        have : (ν (c.homRule (splice ops a.length new)) + 1) * ops.length ≤ ν ops * ops.length :=
          Nat.mul_le_mul_right _ h2
        have := Nat.mul_le_mul_left (ν (c.homRule (splice ops a.length new))) h3
        rw [Nat.succ_mul] at *
        exact ih _ _ (by omega)
    · rw [scan_stop c fuel ops index h]
      simp

/-- the same with a single measure: `ν := μ` -/
theorem scan_terminates_of_measure {O E} (c : Cfg O E) (μ : List O → Nat)
    (hfire : ∀ (ops : List O) (i : Nat) (h : i + 1 < ops.length) (new : List O),
      fireFirst c.rules ops[i] ops[i+1] = .ok (some new) →
      let ops' := if new.any c.isHom then c.homRule (splice ops i new) else splice ops i new
      μ ops' < μ ops ∧ ops'.length ≤ ops.length)
    (fuel : Nat) (ops : List O) (index : Nat)
    (hf : 2 * μ ops + μ ops * ops.length + (ops.length - index) + 1 ≤ fuel) :
    scan c fuel ops index ≠ .ok none := by
  refine scan_terminates c μ μ ⟨?_, ?_⟩ fuel ops index hf
  · intro ops i h new hf hany
    have := hfire ops i h new hf
    simp only [hany] at this
    exact ⟨this.1, Nat.le_of_lt this.1, this.2⟩
  · intro ops i h new hf hany
    have := hfire ops i h new hf
    simp only [hany] at this
    exact ⟨this.1, this.1, this.2⟩

theorem scan_terminates_cases {O E} (c : Cfg O E) (μ ν : List O → Nat) (hc : c.Decreasing μ ν)
    (fuel : Nat) (ops : List O) (index : Nat) (hf : scanBound (μ ops) (ν ops) ops.length index ≤ fuel) :
    (∃ r, scan c fuel ops index = .ok (some r)) ∨ (∃ e, scan c fuel ops index = .error e) := by
  have := scan_terminates c μ ν hc fuel ops index hf
  match h : scan c fuel ops index with
  | .ok (some r) => exact .inl ⟨r, rfl⟩
  | .ok none => exact absurd h this
  | .error e => exact .inr ⟨e, rfl⟩

theorem scan_error {O E} (c : Cfg O E) : ∀ (fuel : Nat) (ops : List O) (index : Nat) (e : E),
    scan c fuel ops index = .error e → ∃ l r, fireFirst c.rules l r = .error e := by
  intro fuel
  induction fuel with
  | zero => intro ops index e h; cases h
  | succ fuel ih =>
    intro ops index e h
    by_cases hlt : index + 1 < ops.length
    · obtain ⟨a, l, r, z, -, -, -, -, -, hcs⟩ := scan_cases c fuel ops index hlt
      rcases hcs with ⟨_, hf, e'⟩ | ⟨-, e'⟩ | ⟨_, -, -, e'⟩ | ⟨_, -, -, e'⟩ <;> rw [e'] at h
      · cases h; exact ⟨l, r, hf⟩
      all_goals exact ih _ _ _ h
    · rw [scan_stop c fuel ops index hlt] at h
      cases h

end Furax
