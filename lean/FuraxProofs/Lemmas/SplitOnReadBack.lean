/-
`String.splitOn` on the strings that `_get_transposed_subscripts` prints: the parser `Einsum.parseSubscripts`
(`subscripts.split(',')` then `.split('->')`) reads back the three terms of `l ++ "," ++ r ++ "->" ++ o`
whenever the terms contain neither `,` nor `-` (letters, dots and blanks do not).

`String.splitOn` is defined by well-founded recursion on byte positions (`String.splitOnAux`) and does not reduce
in the kernel; Batteries has the `…_of_valid` lemmas for `get` / `next` / `extract` / `atEnd` at the byte position
`utf8Len cs` of `ofList (cs ++ cs')` (its own file ends on `-- TODO: splitOn`).  The facts needed here are
proved from them by unfolding the equation of `splitOnAux` (`splitOnAux_at`):
  * `splitOnAux_skip`  : characters other than the first character of the separator are skipped;
  * `splitOnAux_rest`  : once no first character of the separator is left, the rest is the last piece;
  * `splitOn_comma`, `splitOn_arrow` : one occurrence of `","` / `"->"`.
-/
import FuraxModel.Einsum
import Batteries.Data.String.Lemmas
namespace Furax
namespace Einsum
open String

/-- the positions `i + c` that `next` produces -/
private theorem next_at (l : List Char) (c : Char) (r : List Char) :
    Pos.Raw.next (ofList (l ++ c :: r)) ⟨utf8Len l⟩ = ⟨utf8Len (l ++ [c])⟩ := by
  rw [next_of_valid]; simp

private theorem atEnd_end (l : List Char) :
    Pos.Raw.atEnd (ofList l) ⟨utf8Len l⟩ = true := by
  have := (atEnd_of_valid l []).2 rfl
  rwa [List.append_nil] at this

/-- the equation of `splitOnAux` at the position of `c` in `pre ++ c :: r`, the operations on the scanned string
evaluated: `c` is compared with the character of the separator at `j` -/
private theorem splitOnAux_at (sep : String) (b j : Pos.Raw) (acc : List String) (pre : List Char) (c : Char)
    (r : List Char) :
    splitOnAux (ofList (pre ++ c :: r)) sep b ⟨utf8Len pre⟩ j acc =
      if c = Pos.Raw.get sep j then
        if Pos.Raw.atEnd sep (Pos.Raw.next sep j) = true then
          splitOnAux (ofList (pre ++ c :: r)) sep ⟨utf8Len (pre ++ [c])⟩ ⟨utf8Len (pre ++ [c])⟩ 0
            (Pos.Raw.extract (ofList (pre ++ c :: r)) b
              ((⟨utf8Len (pre ++ [c])⟩ : Pos.Raw).unoffsetBy (Pos.Raw.next sep j)) :: acc)
        else splitOnAux (ofList (pre ++ c :: r)) sep b ⟨utf8Len (pre ++ [c])⟩ (Pos.Raw.next sep j) acc
      else splitOnAux (ofList (pre ++ c :: r)) sep b
        (Pos.Raw.next (ofList (pre ++ c :: r)) ((⟨utf8Len pre⟩ : Pos.Raw).unoffsetBy j)) 0 acc := by
  have hend : ¬ Pos.Raw.atEnd (ofList (pre ++ c :: r)) ⟨utf8Len pre⟩ = true := by
    rw [atEnd_of_valid]; exact List.cons_ne_nil c r
  rw [String.splitOnAux.eq_1, if_neg hend, get_of_valid, next_at]
  simp only [List.headD_cons, beq_iff_eq]

/-- **scanning**: characters other than the first character `c0` of the separator are skipped -/
theorem splitOnAux_skip (sep : String) (c0 : Char) (hsep : Pos.Raw.get sep 0 = c0) (b : Pos.Raw) (acc : List String)
    (r : List Char) : ∀ m pre : List Char, c0 ∉ m →
      splitOnAux (ofList (pre ++ m ++ r)) sep b ⟨utf8Len pre⟩ 0 acc
        = splitOnAux (ofList (pre ++ m ++ r)) sep b ⟨utf8Len (pre ++ m)⟩ 0 acc
  | [], pre, _ => by rw [List.append_nil]
  | c :: m, pre, hc => by
    have hc0 : c ≠ c0 := fun h => hc (by simp [h])
    have ih := splitOnAux_skip sep c0 hsep b acc r m (pre ++ [c]) fun h => hc (by simp [h])
    simp only [List.append_assoc, List.cons_append, List.nil_append] at ih ⊢
    rw [splitOnAux_at, hsep, if_neg hc0]
    exact (congrArg (splitOnAux _ sep b · 0 acc) (next_at pre c (m ++ r))).trans ih

/-- **the tail**: if `c0` does not occur in `r`, scanning `r` finds nothing and the piece that began at `l` ends the
list -/
theorem splitOnAux_rest (sep : String) (c0 : Char) (hsep : Pos.Raw.get sep 0 = c0) (l m r : List Char)
    (acc : List String) (hr : c0 ∉ r) :
    splitOnAux (ofList (l ++ m ++ r)) sep ⟨utf8Len l⟩ ⟨utf8Len (l ++ m)⟩ 0 acc = acc.reverse ++ [ofList (m ++ r)] := by
  have h1 := splitOnAux_skip sep c0 hsep ⟨utf8Len l⟩ acc [] r (l ++ m) hr
  rw [List.append_nil] at h1
  rw [h1, String.splitOnAux.eq_1, if_pos (atEnd_end _)]
  have h2 := extract_of_valid l (m ++ r) []
  simp only [utf8Len_append, List.append_nil, List.append_assoc] at h2 ⊢
  rw [h2]; simp

/-- one `","` -/
theorem splitOn_comma (a b : List Char) (ha : ',' ∉ a) (hb : ',' ∉ b) :
    (ofList (a ++ ',' :: b)).splitOn "," = [ofList a, ofList b] := by
  have hsep : Pos.Raw.get "," 0 = ',' := by decide
  have h1 := splitOnAux_skip "," ',' hsep 0 [] (',' :: b) a [] ha
  simp only [List.nil_append] at h1
  unfold String.splitOn
  rw [if_neg (by decide)]
  refine h1.trans ?_
  rw [splitOnAux_at, if_pos hsep.symm, if_pos (by decide)]
  have hx : Pos.Raw.extract (ofList (a ++ ',' :: b)) 0
      ((⟨utf8Len (a ++ [','])⟩ : Pos.Raw).unoffsetBy (Pos.Raw.next "," 0)) = ofList a := by
    have := extract_of_valid [] a (',' :: b)
    have hn : Pos.Raw.next "," 0 = ⟨1⟩ := by decide
    simpa [hn, Pos.Raw.unoffsetBy, Char.utf8Size] using this
  rw [hx]
  have := splitOnAux_rest "," ',' hsep (a ++ [',']) [] b [ofList a] hb
  simpa [List.append_assoc] using this

/-- one `"->"`, the pieces free of `-` -/
theorem splitOn_arrow (a b : List Char) (ha : '-' ∉ a) (hb : '-' ∉ b) :
    (ofList (a ++ '-' :: '>' :: b)).splitOn "->" = [ofList a, ofList b] := by
  have hsep : Pos.Raw.get "->" 0 = '-' := by decide
  have h1 := splitOnAux_skip "->" '-' hsep 0 [] ('-' :: '>' :: b) a [] ha
  simp only [List.nil_append] at h1
  unfold String.splitOn
  rw [if_neg (by decide)]
  refine h1.trans ?_
  have hn : Pos.Raw.next "->" 0 = ⟨1⟩ := by decide
  rw [splitOnAux_at, if_pos hsep.symm, if_neg (by decide), hn, List.append_cons a '-' ('>' :: b), splitOnAux_at,
    if_pos (by decide), if_pos (by decide)]
  have hx : Pos.Raw.extract (ofList (a ++ ['-'] ++ '>' :: b)) 0
      ((⟨utf8Len (a ++ ['-'] ++ ['>'])⟩ : Pos.Raw).unoffsetBy (Pos.Raw.next "->" ⟨1⟩)) = ofList a := by
    have := extract_of_valid [] a ('-' :: '>' :: b)
    have hn2 : Pos.Raw.next "->" ⟨1⟩ = ⟨2⟩ := by decide
    simpa [hn2, Pos.Raw.unoffsetBy, Char.utf8Size] using this
  rw [hx]
  have := splitOnAux_rest "->" '-' hsep (a ++ ['-'] ++ ['>']) [] b [ofList a] hb
  simpa [List.append_assoc] using this

/-- **read-back**: `_parse_subscripts` returns the three terms of `l,r->o` when they contain neither `,` nor `-` -/
theorem parseSubscripts_readback (l r o : List Char) (hl : ',' ∉ l) (hr : ',' ∉ r) (ho : ',' ∉ o)
    (hr' : '-' ∉ r) (ho' : '-' ∉ o) :
    parseSubscripts (ofList l ++ "," ++ ofList r ++ "->" ++ ofList o) = .ok (ofList l, ofList r, ofList o) := by
  have hs : ofList l ++ "," ++ ofList r ++ "->" ++ ofList o = ofList (l ++ ',' :: (r ++ '-' :: '>' :: o)) := by
    apply String.toList_injective
    simp
  have hrest : ',' ∉ r ++ '-' :: '>' :: o := by simp [hr, ho]
  unfold parseSubscripts
  rw [hs, splitOn_comma l _ hl hrest]
  simp only
  rw [splitOn_arrow r o hr' ho']

/-- the read-back with ONE decidable hypothesis, for concrete strings (`by decide +kernel`) -/
theorem parseSubscripts_of_terms (s l r o : String)
    (h : s = l ++ "," ++ r ++ "->" ++ o ∧ ((l.toList ++ r.toList ++ o.toList).all fun c => c != ',') = true ∧
      ((r.toList ++ o.toList).all fun c => c != '-') = true) :
    parseSubscripts s = .ok (l, r, o) := by
  obtain ⟨rfl, hc, hd⟩ := h
  simp only [List.all_eq_true, List.mem_append, bne_iff_ne] at hc hd
  have := parseSubscripts_readback l.toList r.toList o.toList (fun h => hc _ (.inl (.inl h)) rfl)
    (fun h => hc _ (.inl (.inr h)) rfl) (fun h => hc _ (.inr h) rfl) (fun h => hd _ (.inl h) rfl)
    (fun h => hd _ (.inr h) rfl)
  rwa [String.ofList_toList, String.ofList_toList, String.ofList_toList] at this

/-- the default subscripts of a dense operator -/
example : parseSubscripts "ij...,j...->i..." = .ok ("ij...", "j...", "i...") :=
  parseSubscripts_of_terms _ _ _ _ (by decide +kernel)

end Einsum
end Furax
