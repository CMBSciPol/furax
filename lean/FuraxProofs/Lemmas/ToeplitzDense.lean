/-
`dense_symmetric_band_toeplitz` (FuraxModel/Toeplitz.lean: `denseStep`, `denseFlat`, `denseEntry`,
`applyDense`) against the specification `toep`: the scatter into the flat `n²` array produces exactly
the symmetric band Toeplitz matrix, for every `n ≥ 1` and every `h ≥ 0` (including `h ≥ n`).
-/
import FuraxModel.Toeplitz
import FuraxProofs.Lemmas.ToeplitzSums
namespace Furax.Toeplitz
open Finset

/-! The `t`-th position of a diagonal is `t·(n+1)` past its start, i.e. `t` rows down and `t` columns right; which entry
`(r, c)` it is follows from `flat_inj`. -/

/-- upper diagonals (`j ≥ 0`): `j + t·(n+1)` with `t < n − j` hits `(r, c)` iff `c = r + j` -/
theorem hit_upper (n j r c : Nat) (hc : c < n) :
    (∃ t, t < n - j ∧ j + t * (n + 1) = r * n + c) ↔ c = r + j := by
  constructor
  · rintro ⟨t, ht, he⟩
    have := flat_inj (by omega) hc (show t * n + (t + j) = r * n + c by rw [← he, Nat.mul_succ]; omega)
    omega
  · intro h
    exact ⟨r, by omega, by rw [Nat.mul_succ]; omega⟩

/-- lower diagonals (`j = −a < 0`): `n·a + t·(n+1)` with `t < n + a` hits `(r, c)` iff `r = c + a`; the positions
with `t ≥ n − a` lie beyond the last row -/
theorem hit_lower (n a r c : Nat) (hr : r < n) (hc : c < n) :
    (∃ t, t < n + a ∧ n * a + t * (n + 1) = r * n + c) ↔ r = c + a := by
  constructor
  · rintro ⟨t, _, he⟩
    have e : (a + t) * n + t = r * n + c := by rw [← he, Nat.mul_succ, Nat.add_mul, Nat.mul_comm n a]; omega
    have ht : t < n := by
      by_contra hn
      have := Nat.mul_le_mul_right n (Nat.le_of_not_lt hn)
      have := flat_lt hr hc
      rw [Nat.add_mul] at e
      omega
    have := flat_inj ht hc e
    omega
  · rintro rfl
    exact ⟨c, by omega, by rw [Nat.mul_succ, Nat.add_mul, Nat.mul_comm n a]; omega⟩

theorem any_range_iff (m : Nat) (f : Nat → Nat) (p : Nat) :
    ((List.range m).any (fun t => f t == p) = true) ↔ ∃ t, t < m ∧ f t = p := by
  simp [List.any_eq_true, List.mem_range]

section Scatter
variable {α : Type}

/-- one update of the loop at an in-range position: it writes iff `c + h = r + jj`, i.e. `c − r = j`,
and then the value written is `band |r − c|` -/
theorem denseStep_entry (n h : Nat) (band : Nat → α) (jj : Nat) (old : Nat → α) (r c : Nat)
    (hr : r < n) (hc : c < n) :
    denseStep n h band jj old (r * n + c) =
      if c + h = r + jj then band (dist r c) else old (r * n + c) := by
  unfold denseStep
  by_cases hj : h ≤ jj
  · simp only [if_pos hj, any_range_iff, hit_upper n (jj - h) r c hc]
    exact ite_congr (propext (by omega)) (fun _ => congrArg band (dist_eq_iff.2 (by omega)).symm) fun _ => rfl
  · simp only [if_neg hj, any_range_iff, hit_lower n (h - jj) r c hr hc]
    exact ite_congr (propext (by omega)) (fun _ => congrArg band (dist_eq_iff.2 (by omega)).symm) fun _ => rfl

/-- the flat array after the first `m` updates: at most one update touches a given position, so the
order of the updates is irrelevant -/
theorem denseFold_entry [Zero α] (n h : Nat) (band : Nat → α) (m r c : Nat) (hr : r < n) (hc : c < n) :
    (List.range m).foldl (fun acc jj => denseStep n h band jj acc) (fun _ => (0 : α)) (r * n + c) =
      if r ≤ c + h ∧ c + h < r + m then band (dist r c) else 0 := by
  induction m with
  | zero => exact (if_neg (by omega)).symm
  | succ m ih =>
    rw [List.range_succ, List.foldl_append, List.foldl_cons, List.foldl_nil, denseStep_entry n h band m _ r c hr hc, ih]
    by_cases h1 : c + h = r + m
    · rw [if_pos h1, if_pos (by omega)]
    · rw [if_neg h1]
      exact if_congr (by omega) rfl rfl

/-- **the scattered matrix is the symmetric band Toeplitz matrix**, for every `n` and every number of
bands (also `h ≥ n`) -/
theorem dense_entry [Zero α] (n h : Nat) (band : Nat → α) (r c : Nat) (hr : r < n) (hc : c < n) :
    denseEntry n h band r c = if dist r c ≤ h then band (dist r c) else 0 := by
  unfold denseEntry denseFlat
  rw [denseFold_entry n h band (2 * h + 1) r c hr hc]
  exact if_congr (by rw [dist_le_iff]; omega) rfl rfl

theorem dense_symm [Zero α] (n h : Nat) (band : Nat → α) (r c : Nat) (hr : r < n) (hc : c < n) :
    denseEntry n h band r c = denseEntry n h band c r := by
  rw [dense_entry n h band r c hr hc, dense_entry n h band c r hc hr, dist_comm r c]

end Scatter

/-- **the dense method computes the banded product** -/
theorem applyDense_eq {α : Type} [CommRing α] (h l : Nat) (band x : Nat → α) (i : Nat) (hi : i < l) :
    applyDense h l band x i = toep h l band x i := by
  unfold applyDense toep
  rw [sumRange_eq, sumRange_eq]
  exact sum_congr rfl fun j hj => by rw [dense_entry l h band i j hi (mem_range.1 hj)]

end Furax.Toeplitz
