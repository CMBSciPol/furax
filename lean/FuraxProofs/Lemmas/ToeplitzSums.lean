/-
Toeplitz kernels of FuraxModel/Toeplitz.lean against the specification `toep`:
direct convolution, single-FFT circular convolution and overlap-save, for every `n`, `K = h + 1`
and every FFT size `F ≥ 2K − 1`.

All three read the signal through a zero-padded window (`padBoth`, `padRight`, `xpad`); each window is `xpad`
up to a shift, `lin` is the convolution written with `xpad`, and `lin_eq_toep` is the only place where the
convolution is compared with the specification.
-/
import FuraxModel.Toeplitz
import Mathlib.Algebra.BigOperators.Group.Finset.Basic
import Mathlib.Algebra.BigOperators.Intervals
import Mathlib.Algebra.BigOperators.Ring.Finset
import Mathlib.Tactic.Ring
import Mathlib.Tactic.Linarith
namespace Furax

/-! ### the row-major position `b * l + i` of entry `i < l` of row `b` -/

theorem flat_lt {m l b i : Nat} (hb : b < m) (hi : i < l) : b * l + i < m * l :=
  calc b * l + i < b * l + l := Nat.add_lt_add_left hi _
    _ = (b + 1) * l := (Nat.succ_mul b l).symm
    _ ≤ m * l := Nat.mul_le_mul_right l hb

theorem flat_div {l i : Nat} (b : Nat) (hi : i < l) : (b * l + i) / l = b :=
  Nat.div_eq_of_lt_le (Nat.le_add_right _ _) (flat_lt (Nat.lt_succ_self b) hi)

theorem flat_mod {l i : Nat} (b : Nat) (hi : i < l) : (b * l + i) % l = i := by
  rw [Nat.mul_add_mod', Nat.mod_eq_of_lt hi]

/-- a position determines its row and its column -/
theorem flat_inj {l a i b j : Nat} (hi : i < l) (hj : j < l) (h : a * l + i = b * l + j) : a = b ∧ i = j :=
  ⟨by rw [← flat_div a hi, h, flat_div b hj], by rw [← flat_mod a hi, h, flat_mod b hj]⟩

namespace Toeplitz
open Finset
variable {α : Type} [CommRing α]

theorem sumRange_zero (f : Nat → α) : sumRange 0 f = 0 := rfl

theorem sumRange_succ (n : Nat) (f : Nat → α) : sumRange (n + 1) f = sumRange n f + f n := by
  unfold sumRange
  rw [List.range_succ, List.foldl_append]
  rfl

/-- the executable `sumRange` is the `Finset` sum over `range n` -/
theorem sumRange_eq (n : Nat) (f : Nat → α) : sumRange n f = ∑ k ∈ range n, f k := by
  induction n with
  | zero => rfl
  | succ m ih => rw [sumRange_succ, ih, sum_range_succ]

theorem dist_spec (i j : Nat) : i + dist i j = j ∨ j + dist i j = i := by
  unfold dist
  split
  · exact Or.inl (Nat.add_sub_cancel' ‹_›)
  · exact Or.inr (Nat.add_sub_cancel' (Nat.le_of_not_le ‹_›))

/-- `dist i j` is the `d` with `i + d = j` or `j + d = i`: the form linear arithmetic reads -/
theorem dist_eq_iff {i j d : Nat} : dist i j = d ↔ i + d = j ∨ j + d = i := by
  have := dist_spec i j
  omega

theorem dist_le_iff {i j h : Nat} : dist i j ≤ h ↔ i ≤ j + h ∧ j ≤ i + h := by
  have := dist_spec i j
  omega

/-- the specification is symmetric: `T[i,j] = T[j,i]` -/
theorem dist_comm (i j : Nat) : dist i j = dist j i :=
  dist_eq_iff.2 (dist_spec j i).symm

omit [CommRing α] in
/-- position `k` of the kernel `[b_h … b_1 b_0 b_1 … b_h]` holds `b_|k−h|` -/
theorem kernOf_eq (h : Nat) (band : Nat → α) (k : Nat) : kernOf h band k = band (dist k h) := by
  unfold kernOf dist
  split <;> rfl

theorem padBoth_eq_xpad (h l : Nat) (x : Nat → α) (v : Nat) : padBoth h l x v = xpad h l x (v + h) := by
  unfold padBoth xpad
  exact ite_congr (propext (by omega)) (fun _ => by congr 1; omega) fun _ => rfl

theorem padRight_eq_xpad (h l : Nat) (x : Nat → α) (v : Nat) : padRight l x v = xpad h l x (v + 2 * h) := by
  unfold padRight xpad
  exact ite_congr (propext (by omega)) (fun _ => by congr 1; omega) fun _ => rfl

theorem xpad_eq_zero (h l : Nat) (x : Nat → α) (v : Nat) (hv : v < 2 * h ∨ 2 * h + l ≤ v) : xpad h l x v = 0 :=
  if_neg (by omega)

/-- `xpad` read `k` places to the left of `u + 2h`: the signal at `u − k`, zero outside `[0, l)` -/
theorem xpad_sub (h l : Nat) (x : Nat → α) (u k : Nat) (hk : k ≤ 2 * h) :
    xpad h l x (u + 2 * h - k) = if k ≤ u ∧ u < k + l then x (u - k) else 0 := by
  unfold xpad
  exact ite_congr (propext (by omega)) (fun _ => by congr 1; omega) fun _ => rfl

/-- only the `2h + 1` kernel positions contribute to the circular convolution -/
theorem circ_eq (F h : Nat) (kern xb : Nat → α) (t : Nat) (hF : 2 * h + 1 ≤ F) :
    circ F h kern xb t = ∑ k ∈ range (2 * h + 1), kern k * xb ((t + F - k) % F) := by
  unfold circ
  have hz : ∀ k ∈ range F, k ∉ range (2 * h + 1) →
      (if k ≤ 2 * h then kern k else 0) * xb ((t + F - k) % F) = 0 := fun k _ hk => by
    rw [if_neg (by rw [mem_range] at hk; omega), zero_mul]
  rw [sumRange_eq, ← sum_subset (range_subset_range.2 hF) hz]
  exact sum_congr rfl fun k hk => by rw [if_pos (by rw [mem_range] at hk; omega)]

/-- no wrap-around when the kernel position does not pass the start of the block -/
theorem wrap_sub {F a k : Nat} (hk : k ≤ a) (ha : a - k < F) : (a + F - k) % F = a - k := by
  rw [show a + F - k = a - k + F by omega, Nat.add_mod_right, Nat.mod_eq_of_lt ha]

/-- full linear convolution of the kernel with the zero-extended signal, in overlap-save coordinates -/
def lin (h l : Nat) (kern x : Nat → α) (u : Nat) : α :=
  ∑ k ∈ range (2 * h + 1), kern k * xpad h l x (u + 2 * h - k)

/-- inside a block there is no wrap-around: reading the circular convolution at offsets `≥ 2h` gives the
linear convolution, for every FFT size `F ≥ 2h + 1` -/
theorem ovsY_eq_lin (F h l : Nat) (kern x : Nat → α) (hF : 2 * h + 1 ≤ F) (u : Nat)
    (hu : u / (F - 2 * h) < nblock F h l) :
    ovsY F h l kern x u = lin h l kern x u := by
  unfold ovsY lin
  simp only [hu, if_true]
  rw [circ_eq F h kern _ _ hF]
  refine sum_congr rfl fun k hk => ?_
  rw [mem_range] at hk
  have hmod : u % (F - 2 * h) < F - 2 * h := Nat.mod_lt _ (Nat.sub_pos_of_lt hF)
  have hdm := Nat.div_add_mod' u (F - 2 * h)
  rw [wrap_sub (by omega) (by omega)]
  congr 2
  omega

/-- the linear convolution read at offset `h` is the banded Toeplitz product -/
theorem lin_eq_toep (h l : Nat) (band x : Nat → α) (i : Nat) (hi : i < l) :
    lin h l (kernOf h band) x (i + h) = toep h l band x i := by
  unfold lin toep
  rw [sumRange_eq]
  have hL : ∀ k ∈ range (2 * h + 1), kernOf h band k * xpad h l x (i + h + 2 * h - k) =
      if k ≤ i + h ∧ i + h < k + l then band (dist k h) * x (i + h - k) else 0 := fun k hk => by
    rw [xpad_sub h l x (i + h) k (by rw [mem_range] at hk; omega), kernOf_eq, mul_ite, mul_zero]
  have hR : ∀ j ∈ range l, (if dist i j ≤ h then band (dist i j) else 0) * x j =
      if dist i j ≤ h then band (dist i j) * x j else 0 := fun j _ => by rw [ite_mul, zero_mul]
  rw [sum_congr rfl hL, sum_congr rfl hR, ← sum_filter, ← sum_filter]
  -- `k ↦ i + h − k` exchanges the kernel positions that contribute with the columns that contribute
  refine sum_nbij' (fun k => i + h - k) (fun j => i + h - j) ?_ ?_ ?_ ?_ ?_
  · intro k hk; simp only [mem_filter, mem_range, dist_le_iff] at hk ⊢; omega
  · intro j hj; simp only [mem_filter, mem_range, dist_le_iff] at hj ⊢; omega
  · intro k hk; simp only [mem_filter, mem_range] at hk; omega
  · intro j hj; simp only [mem_filter, mem_range, dist_le_iff] at hj; omega
  · intro k hk; simp only [mem_filter, mem_range] at hk
    have := dist_spec k h
    rw [dist_eq_iff.2 (by omega : i + dist k h = i + h - k ∨ i + h - k + dist k h = i)]

/-- the blocks the loop computes cover every position that is read back -/
theorem block_in_range (F h l i : Nat) (hF : 2 * h + 1 ≤ F) (hi : i < l) :
    (i + h) / (F - 2 * h) < nblock F h l :=
  calc (i + h) / (F - 2 * h) < (i + h) / (F - 2 * h) + 1 := Nat.lt_succ_self _
    _ = (i + h + (F - 2 * h)) / (F - 2 * h) := (Nat.add_div_right _ (Nat.sub_pos_of_lt hF)).symm
    _ ≤ nblock F h l := Nat.div_le_div_right (by omega)

/-- **overlap-save computes the banded product**, for every length, band count and `F ≥ 2K − 1` -/
theorem overlapSave_eq (F h l : Nat) (band x : Nat → α) (hF : 2 * h + 1 ≤ F) (i : Nat) (hi : i < l) :
    applyOverlapSave F h l band x i = toep h l band x i := by
  unfold applyOverlapSave
  rw [ovsY_eq_lin F h l _ x hF _ (block_in_range F h l i hF hi), lin_eq_toep h l band x i hi]

/-- **direct convolution computes the banded product** -/
theorem direct_eq (h l : Nat) (band x : Nat → α) (i : Nat) (hi : i < l) :
    applyDirect h l band x i = toep h l band x i := by
  rw [← lin_eq_toep h l band x i hi]
  unfold applyDirect lin
  rw [sumRange_eq]
  refine sum_congr rfl fun k hk => ?_
  rw [mem_range] at hk
  rw [padBoth_eq_xpad, show i + 2 * h - k + h = i + h + 2 * h - k by omega]

/-- **the single-FFT method computes the banded product**: the circular wrap-around only ever reads the
`2h` zeros appended to the signal -/
theorem fft_eq (h l : Nat) (band x : Nat → α) (i : Nat) (hi : i < l) :
    applyFft h l band x i = toep h l band x i := by
  rw [← lin_eq_toep h l band x i hi]
  unfold applyFft lin
  rw [circ_eq _ h _ _ _ (by omega)]
  refine sum_congr rfl fun k hk => ?_
  rw [mem_range] at hk
  rw [padRight_eq_xpad h]
  by_cases hki : k ≤ i + h
  · rw [wrap_sub hki (by omega), show i + h - k + 2 * h = i + h + 2 * h - k by omega]
  · rw [Nat.mod_eq_of_lt (by omega), xpad_eq_zero _ _ _ _ (Or.inr (by omega)),
      xpad_eq_zero _ _ _ _ (Or.inl (by omega))]

/-- **T is symmetric**: `⟨T x, y⟩ = ⟨x, T y⟩`, for every band array, every half band width (also `h ≥ l`) and
every length -/
theorem toep_adjoint (h l : Nat) (band x y : Nat → α) :
    ∑ i ∈ range l, toep h l band x i * y i = ∑ i ∈ range l, x i * toep h l band y i := by
  simp only [toep, sumRange_eq, mul_sum, sum_mul]
  rw [sum_comm]
  refine sum_congr rfl fun j _ => sum_congr rfl fun i _ => ?_
  rw [dist_comm i j]
  ring

end Toeplitz
end Furax
