/-
`op.T` (FuraxModel/Dual.lean, `transposeOp`) is the adjoint.

Without semantics: the declared structures of `op.T` are those of `op`, swapped (`transpose_structure`); double
transposition at the level of forms (`transpose_transpose_wrap`); `op.T` of a structurally well-formed expression is
structurally well formed (`transpose_StructOK`).
With ANY semantics that has an additive pairing (`AdjCore`; `AdjSem` = `ArithSem` + pairing projects onto it):
adjointness of the leaves and wrappers (`LeafAdjoint`; the leaf facts are in FuraxProofs/Props/C03.lean) propagates
through compositions and sums of any length and arbitrary nestings of the two (`transpose_adjoint`), for
structurally well-formed expressions (`StructOK`: the law `honest` of `AdjCore` is demanded of those only, so that
faithful denotations inhabit it).  The laws are hypotheses (structure fields), never axioms.
-/
import FuraxModel.Dual
import FuraxProofs.Lemmas.ArithSound
import Batteries.Data.List.Basic
namespace Furax
open Op

/-- `Op.induction` and `Op.induction_list` at once, for a statement about expressions proved together with one about
lists of operands -/
theorem Op.induction_both {P : Op → Prop} {Q : List Op → Prop} (leaf : ∀ u c p, P (.leaf u c p))
    (wrap : ∀ u k o, P o → P (.wrap u k o)) (comp : ∀ u ops, Q ops → P (.comp u ops))
    (cont : ∀ u k td ops, Q ops → P (.cont u k td ops)) (nil : Q []) (cons : ∀ o os, P o → Q os → Q (o :: os)) :
    (∀ o, P o) ∧ ∀ ops, Q ops :=
  ⟨Op.induction leaf wrap comp cont nil cons, Op.induction_list leaf wrap comp cont nil cons⟩

mutual
/-- What the encoder must guarantee for `op.T` to have swapped structures: a leaf of a class whose
`transpose` is `lambda self: self` is square.  Nothing is needed of wrappers (their structures are defined
from their operand's, and so are those of their transposes), nor of the number of operands of a composite. -/
def Op.WFT : Op → Prop
  | .leaf _ c p => isSymmetricLeaf c = true → p.inS = p.outS
  | .wrap _ _ _ => True
  | .comp _ ops => Op.WFTList ops
  | .cont _ _ _ ops => Op.WFTList ops
def Op.WFTList : List Op → Prop
  | [] => True
  | o :: os => o.WFT ∧ Op.WFTList os
end

theorem WFTList_iff (ops : List Op) : WFTList ops ↔ ∀ o ∈ ops, o.WFT := by
  induction ops with
  | nil => simp [WFTList]
  | cons o os ih => simp [WFTList, ih]

/-- the class of the transposed container: rows become columns -/
def ContCls.dual : ContCls → ContCls
  | .add => .add
  | .blockRow => .blockCol
  | .blockCol => .blockRow
  | .blockDiag => .blockDiag

theorem transposeOp_comp_ok {u : Nat} {ops : List Op} {t : Op} (h : transposeOp (.comp u ops) = .ok t) :
    ∃ ts, transposeList ops = .ok ts ∧ t = .comp 0 ts.reverse := by
  simp only [transposeOp] at h
  split at h
  · exact ⟨_, ‹_›, (Except.ok.inj h).symm⟩
  · cases h

theorem transposeOp_cont_ok {u : Nat} {k : ContCls} {td : TreeDef} {ops : List Op} {t : Op}
    (h : transposeOp (.cont u k td ops) = .ok t) :
    ∃ ts, transposeList ops = .ok ts ∧ t = .cont 0 k.dual td ts := by
  simp only [transposeOp] at h
  split at h
  · refine ⟨_, ‹_›, ?_⟩
    cases h
    cases k <;> rfl
  · cases h

theorem transposeList_nil_ok {ts : List Op} (h : transposeList [] = .ok ts) : ts = [] :=
  (Except.ok.inj h).symm

theorem transposeList_cons_ok {o : Op} {os ts : List Op} (h : transposeList (o :: os) = .ok ts) :
    ∃ t ts', transposeOp o = .ok t ∧ transposeList os = .ok ts' ∧ ts = t :: ts' := by
  simp only [transposeList] at h
  split at h
  · exact ⟨_, _, ‹_›, ‹_›, (Except.ok.inj h).symm⟩
  · cases h
  · cases h

/-- `TransposeOperator.transpose` (and its subclasses): the operand itself -/
theorem transpose_wrap_operand (u : Nat) (k : WrapCls) (o : Op)
    (hk : k = .transpose ∨ k = .reshapeT ∨ k = .qurotT ∨ k = .obsT) :
    transposeOp (.wrap u k o) = .ok o := by
  rcases hk with rfl | rfl | rfl | rfl <;> rfl

/-- `DiagonalInverseOperator` is symmetric: returns itself -/
theorem transpose_diagInv (u : Nat) (o : Op) :
    transposeOp (.wrap u .diagInv o) = .ok (.wrap u .diagInv o) := rfl

/-- `@symmetric` / `@diagonal` leaves return themselves (the same object: the uid is kept) -/
theorem transpose_symmetric_leaf (u : Nat) (c : LeafCls) (p : Params) (h : isSymmetricLeaf c = true) :
    transposeOp (.leaf u c p) = .ok (.leaf u c p) := by
  simp only [transposeOp, h, if_true]

/-- the leaf classes whose transpose is a (dedicated or generic) lazy wrapper around the leaf -/
def isWrappedLeaf (c : LeafCls) : Bool := !isSymmetricLeaf c && c != .moveAxis && c != .dense

/-- the wrapper class `transposeOp` puts around a leaf of class `c` -/
def transposeWrapper : LeafCls → WrapCls
  | .ravel | .reshape => .reshapeT
  | .qurot => .qurotT
  | .obsMatrix => .obsT
  | _ => .transpose

theorem transpose_wrapped_leaf (u : Nat) (c : LeafCls) (p : Params) (hc : isWrappedLeaf c = true) :
    transposeOp (.leaf u c p) = .ok (.wrap 0 (transposeWrapper c) (.leaf u c p)) := by
  cases c
  case identity | homothety | diagonal | hwp | toeplitz | moveAxis | dense => exact absurd hc (by decide)
  all_goals rfl

theorem transposeWrapper_cases (c : LeafCls) : transposeWrapper c = .transpose ∨ transposeWrapper c = .reshapeT ∨
    transposeWrapper c = .qurotT ∨ transposeWrapper c = .obsT := by
  unfold transposeWrapper
  split <;> simp

theorem leafCls_cases (c : LeafCls) :
    isSymmetricLeaf c = true ∨ isWrappedLeaf c = true ∨ c = .moveAxis ∨ c = .dense := by
  unfold isWrappedLeaf
  cases isSymmetricLeaf c <;> by_cases h1 : c = .moveAxis <;> by_cases h2 : c = .dense <;> simp [h1, h2]

/-- **the three forms of the transpose of a leaf**: the leaf itself, a transpose wrapper around it, or a new leaf of
the same class (move-axis, dense) with swapped structures -/
theorem transposeOp_leaf_ok {u : Nat} {c : LeafCls} {p : Params} {t : Op} (h : transposeOp (.leaf u c p) = .ok t) :
    (isSymmetricLeaf c = true ∧ t = .leaf u c p) ∨
    (isWrappedLeaf c = true ∧ t = .wrap 0 (transposeWrapper c) (.leaf u c p)) ∨
    ((c = .moveAxis ∨ c = .dense) ∧ ∃ p', t = .leaf 0 c p' ∧ p'.inS = p.outS ∧ p'.outS = p.inS) := by
  rcases leafCls_cases c with hs | hc | rfl | rfl
  · rw [transpose_symmetric_leaf u c p hs] at h
    exact .inl ⟨hs, (Except.ok.inj h).symm⟩
  · rw [transpose_wrapped_leaf u c p hc] at h
    exact .inr (.inl ⟨hc, (Except.ok.inj h).symm⟩)
  · simp only [transposeOp, isSymmetricLeaf, Bool.false_eq_true, if_false, Except.ok.injEq] at h
    exact .inr (.inr ⟨.inl rfl, _, h.symm, rfl, rfl⟩)
  · simp only [transposeOp, isSymmetricLeaf, Bool.false_eq_true, if_false] at h
    split at h
    · exact .inr (.inr ⟨.inr rfl, _, (Except.ok.inj h).symm, rfl, rfl⟩)
    · cases h

theorem inSLast_eq : ∀ (l : List Op), inSLast l = ((l.map Op.inS).getLast?).getD default
  | [] => by simp [inSLast]
  | [o] => by simp [inSLast]
  | _ :: o :: os => by
      simp only [inSLast]
      rw [inSLast_eq (o :: os)]
      simp [List.getLast?_cons_cons]

/-- the structures of `t` are those of `o`, swapped -/
def Swapped (o t : Op) : Prop := Op.inS t = Op.outS o ∧ Op.outS t = Op.inS o

theorem Swapped.lists {ops ts : List Op} (h : List.Forall₂ Swapped ops ts) :
    ts.length = ops.length ∧ inSList ts = outSList ops ∧ outSList ts = inSList ops := by
  induction h with
  | nil => exact ⟨rfl, rfl, rfl⟩
  | cons h _ ih => simp [inSList, outSList, h.1, h.2, ih]

theorem transpose_structure_both :
    (∀ o t : Op, o.WFT → transposeOp o = .ok t → Swapped o t) ∧
    ∀ ops ts : List Op, WFTList ops → transposeList ops = .ok ts → List.Forall₂ Swapped ops ts := by
  refine Op.induction_both (fun u c p t hw h => ?_) (fun u k o _ t _ h => ?_) (fun u ops ih t hw h => ?_)
    (fun u k td ops ih t hw h => ?_) (fun ts _ h => ?_) (fun o os ih ihs ts hw h => ?_)
  · rcases transposeOp_leaf_ok h with ⟨hs, rfl⟩ | ⟨_, rfl⟩ | ⟨hc, p', rfl, h1, h2⟩
    · simp [Swapped, Op.inS, Op.outS, hw hs]
    · rcases transposeWrapper_cases c with hk | hk | hk | hk <;> rw [hk] <;> exact ⟨rfl, rfl⟩
    · rcases hc with rfl | rfl <;> exact ⟨h1, h2⟩
  · cases k <;> simp only [transposeOp, Except.ok.injEq] at h <;> subst h <;> exact ⟨rfl, rfl⟩
  · obtain ⟨ts, hts, rfl⟩ := transposeOp_comp_ok h
    obtain ⟨_, hin, hout⟩ := Swapped.lists (ih ts hw hts)
    exact ⟨by rw [Op.inS, Op.outS, inSLast_eq, List.map_reverse, List.getLast?_reverse, ← List.headD_eq_head?_getD,
        ← inSList_def, hin, ← outSHead_headD],
      by rw [Op.inS, Op.outS, outSHead_headD, outSList_def, List.map_reverse, List.headD_eq_head?_getD,
        List.head?_reverse, ← outSList_def, hout, inSList_def, ← inSLast_eq]⟩
  · obtain ⟨ts, hts, rfl⟩ := transposeOp_cont_ok h
    obtain ⟨_, hin, hout⟩ := Swapped.lists (ih ts hw hts)
    have hhi : inSHead ts = outSHead ops := by rw [inSHead_headD, outSHead_headD, hin]
    have hho : outSHead ts = inSHead ops := by rw [inSHead_headD, outSHead_headD, hout]
    cases k <;> simp only [Swapped, ContCls.dual, Op.inS, Op.outS, hin, hout, hhi, hho, and_self]
  · rw [transposeList_nil_ok h]
    exact .nil
  · obtain ⟨t, ts', ht, hts, rfl⟩ := transposeList_cons_ok h
    exact .cons (ih t hw.1 ht) (ihs ts' hw.2 hts)

/-- **Structures are swapped**: `op.T.in_structure() == op.out_structure()` and
`op.T.out_structure() == op.in_structure()`, for every expression. -/
theorem transpose_structure : ∀ (o t : Op), o.WFT → transposeOp o = .ok t →
    Op.inS t = Op.outS o ∧ Op.outS t = Op.inS o :=
  transpose_structure_both.1

theorem transposeList_swapped : ∀ (ops ts : List Op), WFTList ops → transposeList ops = .ok ts →
    List.Forall₂ Swapped ops ts :=
  transpose_structure_both.2

/-- ravel, reshape, rotation, observation matrix and every generic leaf (index, pack, polarizer, broadcast
diagonal, opaque): `op.T.T` is the very same operand object -/
theorem transpose_transpose_leaf (u : Nat) (c : LeafCls) (p : Params) (hc : isWrappedLeaf c = true) :
    (transposeOp (.leaf u c p)).bind transposeOp = .ok (.leaf u c p) := by
  rw [transpose_wrapped_leaf u c p hc]
  exact transpose_wrap_operand 0 _ _ (transposeWrapper_cases c)

/-- when `ints` is `[source, destination]` (what the encoder produces) the parameters are unchanged -/
theorem transpose_transpose_moveAxis' (u : Nat) (p : Params) (src dst : List Int) (h : p.ints = [src, dst]) :
    (transposeOp (.leaf u .moveAxis p)).bind transposeOp = .ok (.leaf 0 .moveAxis p) := by
  cases p
  cases h
  rfl

/-- **Double transposition of every wrapper and leaf form** (dense leaves excepted: their subscripts are
rewritten by `Einsum.transposedSubscripts`). -/
theorem transpose_transpose_wrap :
    (∀ u k o, (k = .transpose ∨ k = .reshapeT ∨ k = .qurotT ∨ k = .obsT) → transposeOp (.wrap u k o) = .ok o) ∧
    (∀ u c p, (c = .ravel ∨ c = .reshape ∨ c = .qurot ∨ c = .obsMatrix ∨ c = .index ∨ c = .pack ∨
        c = .polarizer ∨ c = .broadcastDiagonal ∨ c = .opaque) →
      (transposeOp (.leaf u c p)).bind transposeOp = .ok (.leaf u c p)) ∧
    (∀ u c p, isSymmetricLeaf c = true → transposeOp (.leaf u c p) = .ok (.leaf u c p)) ∧
    (∀ u o, transposeOp (.wrap u .diagInv o) = .ok (.wrap u .diagInv o)) ∧
    (∀ u o, (transposeOp (.wrap u .inverse o)).bind transposeOp = .ok (.wrap u .inverse o)) ∧
    (∀ u p, ∃ p', (transposeOp (.leaf u .moveAxis p)).bind transposeOp = .ok (.leaf 0 .moveAxis p') ∧
      p'.inS = p.inS ∧ p'.outS = p.outS ∧ p'.ints = [p.ints.getD 0 [], p.ints.getD 1 []]) := by
  refine ⟨transpose_wrap_operand, ?_, transpose_symmetric_leaf, transpose_diagInv, fun _ _ => rfl,
    fun u p => ⟨{ p with ints := [p.ints.getD 0 [], p.ints.getD 1 []] }, rfl, rfl, rfl, rfl⟩⟩
  intro u c p hc
  apply transpose_transpose_leaf
  rcases hc with rfl | rfl | rfl | rfl | rfl | rfl | rfl | rfl | rfl <;> rfl

/-- reversing a chain and swapping the structures of every operand gives a chain -/
theorem Chain_reverse_of_swapped (ops ts : List Op) (hsw : List.Forall₂ Swapped ops ts)
    (hc : Chain ops) : Chain ts.reverse := by
  induction hsw with
  | nil => trivial
  | @cons o t os ts' h hrest ih =>
    rw [List.reverse_cons]
    cases hrest with
    | nil => simp [Chain]
    | @cons o' t' os' ts'' h' hrest' =>
      refine Chain_append _ _ (by simp) (by simp) (ih hc.2) trivial ?_
      rw [List.reverse_cons, ArithSem.inSLast_singleton_append]
      exact h'.1.trans (hc.1.symm.trans h.2.symm)

/-- the wrapper `transposeOp` puts around a leaf is one its constructor accepts -/
theorem wrapOK_transposeWrapper (u : Nat) (c : LeafCls) (p : Params) :
    WrapOK (fun _ => True) (transposeWrapper c) (.leaf u c p) := by
  unfold transposeWrapper
  split <;> simp [WrapOK, WrapCls.isLazy, isQURot, isRavelOrReshape, isLeafCls, Op.inS, Op.outS, squareLeaf]

theorem transpose_StructOK_both :
    (∀ o t : Op, StructOK o → o.WFT → transposeOp o = .ok t → StructOK t) ∧
    ∀ ops ts : List Op, (∀ o ∈ ops, StructOK o) → WFTList ops → transposeList ops = .ok ts → ∀ t ∈ ts, StructOK t := by
  refine Op.induction_both (fun u c p t _ _ h => ?_) (fun u k o _ t hok _ h => ?_) (fun u ops ih t hok hw h => ?_)
    (fun u k td ops ih t hok hw h => ?_) (fun ts _ _ h => ?_) (fun o os ih ihs ts hok hw h => ?_)
  · rcases transposeOp_leaf_ok h with ⟨_, rfl⟩ | ⟨_, rfl⟩ | ⟨_, p', rfl, _⟩
    · exact StructOK_leaf _ _ _
    · exact (StructOK_wrap_iff _ _ _).mpr ⟨StructOK_leaf _ _ _, wrapOK_transposeWrapper u c p⟩
    · exact StructOK_leaf _ _ _
  · obtain ⟨hoko, _⟩ := (StructOK_wrap_iff u k o).mp hok
    cases k <;> simp only [transposeOp, Except.ok.injEq] at h <;> subst h
    case inverse => exact (StructOK_wrap_iff _ _ _).mpr ⟨hok, by simp [WrapOK, WrapCls.isLazy]⟩
    case diagInv => exact hok
    all_goals exact hoko
  · obtain ⟨ts, hts, rfl⟩ := transposeOp_comp_ok h
    obtain ⟨hne, hoks, hch⟩ := (StructOK_comp_iff u ops).mp hok
    have hsw := transposeList_swapped ops ts hw hts
    refine (StructOK_comp_iff _ _).mpr ⟨fun h0 => hne ?_, fun t ht => ih ts hoks hw hts t (List.mem_reverse.mp ht),
      Chain_reverse_of_swapped ops ts hsw hch⟩
    rw [List.reverse_eq_nil_iff] at h0
    subst h0
    cases hsw
    rfl
  · obtain ⟨ts, hts, rfl⟩ := transposeOp_cont_ok h
    obtain ⟨hne, hoks, hc⟩ := (StructOK_cont_iff u k td ops).mp hok
    obtain ⟨hl, hin, hout⟩ := Swapped.lists (transposeList_swapped ops ts hw hts)
    refine (StructOK_cont_iff _ _ _ _).mpr ⟨?_, ih ts hoks hw hts, by rw [hl]; exact hc.1, ?_⟩
    · rintro rfl
      exact hne (List.length_eq_zero_iff.mp hl.symm)
    · have h2 := hc.2
      cases k
      · exact fun t ht => ⟨allIn_of_allOut ops ts hin (fun o ho => (h2 o ho).2) t ht,
          allOut_of_allIn ops ts hout (fun o ho => (h2 o ho).1) t ht⟩
      · exact allIn_of_allOut ops ts hin h2
      · trivial
      · exact allOut_of_allIn ops ts hout h2
  · rw [transposeList_nil_ok h]
    exact fun t ht => nomatch ht
  · obtain ⟨t, ts', ht, hts, rfl⟩ := transposeList_cons_ok h
    rw [List.forall_mem_cons] at hok ⊢
    exact ⟨ih t hok.1 hw.1 ht, ihs ts' hok.2 hw.2 hts⟩

/-- **`op.T` of a structurally well-formed expression is structurally well formed** (every class: the dedicated
transpose wrappers wrap an operand of their class, the reversed chain of the transposes is a chain, the dual
container of the transposes satisfies the dual constraint). -/
theorem transpose_StructOK : ∀ (o t : Op), StructOK o → o.WFT → transposeOp o = .ok t → StructOK t :=
  transpose_StructOK_both.1

/-! The induction is carried out over `AdjCore`, the minimal set of laws it uses: a denotation that is honest on
structurally well-formed operators (`StructOK`), the laws of the two composites (`comp_law`, `add_law`) and a
pairing additive in each argument.  `AdjSem` (the structure
extending `ArithSem`) projects onto it (`AdjSem.toCore`), and the `AdjSem` statements are corollaries.
`AdjCore` is inhabited (`AdjCore.unitModel`), so the statements over it are not vacuous; `Lemmas/ScalarModel.lean`
exhibits a non-trivial inhabitant of `OpSem` and `ArithSem`. -/

/-- Semantics with a pairing: the laws used by the adjointness induction, and nothing else. -/
structure AdjCore (V R : Type) [Add R] [Zero R] where
  den : Op → V → V
  mem : Struct → V → Prop
  /-- a structurally well-formed operator maps its input space into its output space -/
  honest : ∀ o x, StructOK o → mem (Op.inS o) x → mem (Op.outS o) (den o x)
  add : V → V → V
  zero : V
  /-- `CompositionOperator.mv` applies the operands from the last to the first -/
  comp_law : ∀ u ops x, den (.comp u ops) x = (Sem.mk den Op.inS Op.outS mem StructOK honest).app ops x
  /-- `AdditionOperator.mv` adds the results of its operand leaves -/
  add_law : ∀ u td ops x, den (.cont u .add td ops) x = (ops.map (fun o => den o x)).foldr add zero
  dot : V → V → R
  dot_add_left : ∀ x y z, dot (add x y) z = dot x z + dot y z
  dot_zero_left : ∀ z, dot zero z = 0
  dot_add_right : ∀ x y z, dot x (add y z) = dot x y + dot x z
  dot_zero_right : ∀ x, dot x zero = 0

/-- `ArithSem` plus a pairing `⟨·,·⟩ : V → V → R`, additive in each argument. -/
structure AdjSem (V R : Type) [Add R] [Zero R] extends ArithSem V where
  dot : V → V → R
  dot_add_left : ∀ x y z, dot (add x y) z = dot x z + dot y z
  dot_zero_left : ∀ z, dot zero z = 0
  dot_add_right : ∀ x y z, dot x (add y z) = dot x y + dot x z
  dot_zero_right : ∀ x, dot x zero = 0

/-- a chain is well typed between `s` and `t` (`Sem.WT` without the semantics) -/
def chainWT : List Op → Struct → Struct → Prop
  | [], s, t => s = t
  | o :: os, s, t => Op.outS o = t ∧ chainWT os s (Op.inS o)

/-- `Sem.WT` only looks at the structures: with those of `Op` it is `chainWT`, whatever the semantics (for
`structSem` it is `Typed`, FuraxProofs/Lemmas/Nary.lean) -/
theorem Sem.WT_iff_chainWT {V : Type} (S : Sem Op V Struct) (hin : S.inS = Op.inS) (hout : S.outS = Op.outS)
    (ops : List Op) (s t : Struct) : S.WT ops s t ↔ chainWT ops s t := by
  induction ops generalizing t with
  | nil => rfl
  | cons o os ih => simp only [Sem.WT, chainWT, hin, hout, ih]

theorem chainWT_iff {V : Type} (L : OpSem V) (ops : List Op) (s t : Struct) :
    L.toSem.WT ops s t ↔ chainWT ops s t :=
  L.toSem.WT_iff_chainWT rfl rfl ops s t

/-- a leaf or a wrapper (an operator that is neither a composition nor a container) -/
def Op.isAtom : Op → Bool
  | .leaf .. | .wrap .. => true
  | _ => false

/-- `transposeList` pairs every operand with its own transpose -/
theorem transposeList_forall₂ : ∀ (ops ts : List Op), transposeList ops = .ok ts →
    List.Forall₂ (fun o t => transposeOp o = .ok t) ops ts
  | [], ts, h => by rw [transposeList_nil_ok h]; exact .nil
  | o :: os, ts, h => by
      obtain ⟨t, ts', ht, hts, rfl⟩ := transposeList_cons_ok h
      exact .cons ht (transposeList_forall₂ os ts' hts)

/-- expressions built from leaves, wrappers, compositions and sums (no block container) -/
inductive Frag : Op → Prop
  | leaf (u : Nat) (c : LeafCls) (p : Params) : Frag (.leaf u c p)
  | wrap (u : Nat) (k : WrapCls) (o : Op) : Frag (.wrap u k o)
  | comp (u : Nat) (ops : List Op) : (∀ o ∈ ops, Frag o) → Frag (.comp u ops)
  | add (u : Nat) (td : TreeDef) (ops : List Op) : (∀ o ∈ ops, Frag o) → Frag (.cont u .add td ops)

mutual
/-- every composition inside is well typed between its own structures; the operands of every sum inside
share their input and output structures -/
def Op.WTAll : Op → Prop
  | .leaf .. => True
  | .wrap .. => True
  | .comp _ ops => chainWT ops (inSLast ops) (outSHead ops) ∧ Op.WTAllList ops
  | .cont _ k _ ops =>
    (k = .add → ∀ o ∈ ops, Op.inS o = inSHead ops ∧ Op.outS o = outSHead ops) ∧ Op.WTAllList ops
def Op.WTAllList : List Op → Prop
  | [] => True
  | o :: os => o.WTAll ∧ Op.WTAllList os
end

namespace AdjCore
variable {V R : Type} [Add R] [Zero R] (C : AdjCore V R)

def toSem : Sem Op V Struct := ⟨C.den, Op.inS, Op.outS, C.mem, StructOK, C.honest⟩

@[simp] theorem toSem_inS (o : Op) : C.toSem.inS o = Op.inS o := rfl
@[simp] theorem toSem_outS (o : Op) : C.toSem.outS o = Op.outS o := rfl
@[simp] theorem toSem_den (o : Op) : C.toSem.den o = C.den o := rfl
@[simp] theorem toSem_mem (s : Struct) : C.toSem.mem s = C.mem s := rfl

theorem WT_iff (ops : List Op) (s t : Struct) : C.toSem.WT ops s t ↔ chainWT ops s t :=
  C.toSem.WT_iff_chainWT rfl rfl ops s t

/-- `⟨o x, y⟩ = ⟨x, t y⟩` for every `x` of the input structure and `y` of the output structure of `o` -/
def IsAdjointOn (o t : Op) : Prop :=
  ∀ x y, C.mem (Op.inS o) x → C.mem (Op.outS o) y → C.dot (C.den o x) y = C.dot x (C.den t y)

/-- every leaf and every wrapper transposes to its adjoint (the leaf facts, kernel by kernel, are in
FuraxProofs/Props/C03.lean) -/
def LeafAdjoint : Prop :=
  ∀ o t, o.isAtom = true → transposeOp o = .ok t → C.IsAdjointOn o t

/-- the induction behind `transpose_adjoint_comp`: `⟨(o₁∘…∘oₙ) x, y⟩ = ⟨x, (tₙ∘…∘t₁) y⟩` -/
theorem adjoint_chain (s : Struct) {ops ts : List Op} (hadj : List.Forall₂ C.IsAdjointOn ops ts) :
    ∀ (t : Struct), (∀ o ∈ ops, StructOK o) → (∀ t' ∈ ts, StructOK t') → C.toSem.WT ops s t →
    List.Forall₂ Swapped ops ts → ∀ x y, C.mem s x → C.mem t y →
      C.dot (C.toSem.app ops x) y = C.dot x (C.toSem.app ts.reverse y) := by
  induction hadj with
  | nil => exact fun _ _ _ _ _ _ _ _ _ => rfl
  | @cons o t0 os ts' ha _ ih =>
    rintro _ hok hokt ⟨rfl, h2⟩ (_ | ⟨hs, hsw⟩) x y hx hy
    rw [List.forall_mem_cons] at hok hokt
    have hm : C.mem (Op.inS o) (C.toSem.app os x) := C.toSem.WT_mem _ _ _ hok.2 h2 x hx
    have hy' : C.mem (Op.inS o) (C.den t0 y) := by
      rw [← hs.2]
      exact C.honest t0 y hokt.1 (by rw [hs.1]; exact hy)
    rw [List.reverse_cons, Sem.app_append]
    simp only [Sem.app, toSem_den]
    rw [ha _ _ hm hy]
    exact ih _ hok.2 hokt.2 h2 hsw x _ hx hy'

/-- **Adjoint of a composition of any length**: if every operand of a chain of structurally well-formed
operands, well typed between the structures of the composition, is paired with its adjoint by `transposeList`,
then the reversed chain of the transposes is the adjoint of the composition. -/
theorem transpose_adjoint_comp (u : Nat) (ops ts : List Op) (hok : ∀ o ∈ ops, StructOK o)
    (hwt : C.toSem.WT ops (Op.inS (.comp u ops)) (Op.outS (.comp u ops)))
    (hw : WFTList ops) (hT : transposeList ops = .ok ts)
    (hadj : List.Forall₂ C.IsAdjointOn ops ts) :
    C.IsAdjointOn (.comp u ops) (.comp 0 ts.reverse) := by
  intro x y hx hy
  rw [C.comp_law, C.comp_law]
  exact C.adjoint_chain _ hadj _ hok (transpose_StructOK_both.2 ops ts hok hw hT) hwt
    (transposeList_swapped ops ts hw hT) x y hx hy

theorem transpose_adjoint_comp' (u : Nat) (ops ts : List Op) (s t : Struct)
    (hne : ops ≠ []) (hok : ∀ o ∈ ops, StructOK o) (hwt : C.toSem.WT ops s t)
    (hw : WFTList ops) (hT : transposeList ops = .ok ts)
    (hadj : List.Forall₂ C.IsAdjointOn ops ts) :
    C.IsAdjointOn (.comp u ops) (.comp 0 ts.reverse) := by
  obtain ⟨rfl, rfl⟩ := Typed_ends ops s t hne ((structSem.WT_iff_chainWT rfl rfl _ _ _).2 ((C.WT_iff _ _ _).1 hwt))
  exact C.transpose_adjoint_comp u ops ts hok hwt hw hT hadj

theorem adjoint_sum (ops ts : List Op) (hadj : List.Forall₂ C.IsAdjointOn ops ts)
    (x y : V) (hm : ∀ o ∈ ops, C.mem (Op.inS o) x ∧ C.mem (Op.outS o) y) :
    C.dot ((ops.map (fun o => C.den o x)).foldr C.add C.zero) y =
      C.dot x ((ts.map (fun t => C.den t y)).foldr C.add C.zero) := by
  induction hadj with
  | nil => simp [C.dot_zero_left, C.dot_zero_right]
  | @cons o t os ts' ha _ ih =>
    simp only [List.map_cons, List.foldr_cons]
    rw [C.dot_add_left, C.dot_add_right, ih (fun o' ho' => hm o' (by simp [ho'])),
      ha x y (hm o (by simp)).1 (hm o (by simp)).2]

/-- **Adjoint of a sum of any length**: if the operands share their input and output structures and each is
paired with its adjoint, the sum of the transposes is the adjoint of the sum. -/
theorem transpose_adjoint_add (u : Nat) (td : TreeDef) (ops ts : List Op)
    (hsame : ∀ o ∈ ops, Op.inS o = inSHead ops ∧ Op.outS o = outSHead ops)
    (hadj : List.Forall₂ C.IsAdjointOn ops ts) :
    C.IsAdjointOn (.cont u .add td ops) (.cont 0 .add td ts) := by
  intro x y hx hy
  rw [C.add_law, C.add_law]
  simp only [Op.inS, Op.outS] at hx hy
  refine C.adjoint_sum ops ts hadj x y (fun o ho => ?_)
  rw [(hsame o ho).1, (hsame o ho).2]
  exact ⟨hx, hy⟩

theorem transpose_adjoint_both (C : AdjCore V R) (hL : C.LeafAdjoint) :
    (∀ o t : Op, Frag o → StructOK o → o.WTAll → o.WFT → transposeOp o = .ok t → C.IsAdjointOn o t) ∧
    ∀ ops ts : List Op, (∀ o ∈ ops, Frag o) → (∀ o ∈ ops, StructOK o) → WTAllList ops → WFTList ops →
      transposeList ops = .ok ts → List.Forall₂ C.IsAdjointOn ops ts := by
  refine Op.induction_both (fun u c p t _ _ _ _ h => hL _ t rfl h) (fun u k o _ t _ _ _ _ h => hL _ t rfl h)
    (fun u ops ih t hf hok hwt hw h => ?_) (fun u k td ops ih t hf hok hwt hw h => ?_) (fun ts _ _ _ _ h => ?_)
    (fun o os ih ihs ts hf hok hwt hw h => ?_)
  · obtain ⟨ts, hts, rfl⟩ := transposeOp_comp_ok h
    cases hf with
    | comp _ _ hfl =>
      have hoks := ((StructOK_comp_iff u ops).mp hok).2.1
      exact C.transpose_adjoint_comp u ops ts hoks ((C.WT_iff _ _ _).2 hwt.1) hw hts (ih ts hfl hoks hwt.2 hw hts)
  · obtain ⟨ts, hts, rfl⟩ := transposeOp_cont_ok h
    cases hf with
    | add _ _ _ hfl =>
      have hoks := ((StructOK_cont_iff u .add td ops).mp hok).2.1
      exact C.transpose_adjoint_add u td ops ts (hwt.1 rfl) (ih ts hfl hoks hwt.2 hw hts)
  · rw [transposeList_nil_ok h]
    exact .nil
  · obtain ⟨t, ts', ht, hts, rfl⟩ := transposeList_cons_ok h
    rw [List.forall_mem_cons] at hf hok
    exact .cons (ih t hf.1 hok.1 hwt.1 hw.1 ht) (ihs ts' hf.2 hok.2 hwt.2 hw.2 hts)

/-- **`op.T` is the adjoint of `op`** for every structurally well-formed expression built from leaves, wrappers,
compositions and sums, nested to any depth, as soon as it is for the leaves and the wrappers. -/
theorem transpose_adjoint (C : AdjCore V R) (hL : C.LeafAdjoint) : ∀ (o t : Op),
    Frag o → StructOK o → o.WTAll → o.WFT → transposeOp o = .ok t → C.IsAdjointOn o t :=
  (transpose_adjoint_both C hL).1

theorem transpose_adjoint_list (C : AdjCore V R) (hL : C.LeafAdjoint) : ∀ (ops ts : List Op),
    (∀ o ∈ ops, Frag o) → (∀ o ∈ ops, StructOK o) → WTAllList ops → WFTList ops →
    transposeList ops = .ok ts → List.Forall₂ C.IsAdjointOn ops ts :=
  (transpose_adjoint_both C hL).2

theorem WTAll_of_StructOK_both :
    (∀ o : Op, StructOK o → o.WTAll) ∧ ∀ ops : List Op, (∀ o ∈ ops, StructOK o) → WTAllList ops := by
  refine Op.induction_both (fun _ _ _ _ => trivial) (fun _ _ _ _ _ => trivial) (fun u ops ih h => ?_)
    (fun u k td ops ih h => ?_) (fun _ => trivial) (fun o os ih ihs h => ?_)
  · obtain ⟨hne, hoks, hch⟩ := (StructOK_comp_iff u ops).mp h
    exact ⟨(structSem.WT_iff_chainWT rfl rfl _ _ _).1 (Typed_of_Chain ops hne hch), ih hoks⟩
  · obtain ⟨_, hoks, hc⟩ := (StructOK_cont_iff u k td ops).mp h
    refine ⟨?_, ih hoks⟩
    rintro rfl
    exact hc.2
  · rw [List.forall_mem_cons] at h
    exact ⟨ih h.1, ihs h.2⟩

/-- structural well-formedness implies the typing conditions `WTAll` of the adjointness induction -/
theorem WTAll_of_StructOK : ∀ (o : Op), StructOK o → o.WTAll := WTAll_of_StructOK_both.1

theorem WTAllList_of_StructOK : ∀ (ops : List Op), (∀ o ∈ ops, StructOK o) → WTAllList ops :=
  WTAll_of_StructOK_both.2

/-- **`op.T` is the adjoint of `op`**, with structural well-formedness as the only typing hypothesis -/
theorem transpose_adjoint_of_StructOK (C : AdjCore V R) (hL : C.LeafAdjoint) (o t : Op)
    (hf : Frag o) (hok : StructOK o) (hw : o.WFT) (h : transposeOp o = .ok t) : C.IsAdjointOn o t :=
  transpose_adjoint C hL o t hf hok (WTAll_of_StructOK o hok) hw h

/-- the laws of `AdjCore` are consistent (one-point value space) -/
def unitModel : AdjCore Unit Nat where
  den := fun _ _ => ()
  mem := fun _ _ => True
  honest := fun _ _ _ _ => True.intro
  add := fun _ _ => ()
  zero := ()
  comp_law := fun _ _ _ => rfl
  add_law := fun _ _ _ _ => rfl
  dot := fun _ _ => 0
  dot_add_left := fun _ _ _ => rfl
  dot_zero_left := fun _ => rfl
  dot_add_right := fun _ _ _ => rfl
  dot_zero_right := fun _ => rfl

end AdjCore

section Adjoint
variable {V R : Type} [Add R] [Zero R]

/-- the laws of `AdjSem` that the adjointness induction uses -/
def AdjSem.toCore (A : AdjSem V R) : AdjCore V R where
  den := A.den
  mem := A.mem
  honest := A.honest
  add := A.add
  zero := A.zero
  comp_law := A.comp_law
  add_law := A.add_law
  dot := A.dot
  dot_add_left := A.dot_add_left
  dot_zero_left := A.dot_zero_left
  dot_add_right := A.dot_add_right
  dot_zero_right := A.dot_zero_right

/-- `⟨o x, y⟩ = ⟨x, t y⟩` for every `x` of the input structure and `y` of the output structure of `o` -/
def IsAdjointOn (A : AdjSem V R) (o t : Op) : Prop :=
  ∀ x y, A.mem (Op.inS o) x → A.mem (Op.outS o) y → A.dot (A.den o x) y = A.dot x (A.den t y)

/-- every leaf and every wrapper transposes to its adjoint (the leaf facts, kernel by kernel, are in
FuraxProofs/Props/C03.lean) -/
def LeafAdjoint (A : AdjSem V R) : Prop :=
  ∀ o t, o.isAtom = true → transposeOp o = .ok t → IsAdjointOn A o t

theorem isAdjointOn_iff_core (A : AdjSem V R) (o t : Op) :
    IsAdjointOn A o t ↔ A.toCore.IsAdjointOn o t := Iff.rfl

theorem leafAdjoint_iff_core (A : AdjSem V R) : LeafAdjoint A ↔ A.toCore.LeafAdjoint := Iff.rfl

theorem transpose_adjoint_comp (A : AdjSem V R) (u : Nat) (ops ts : List Op) (hok : ∀ o ∈ ops, StructOK o)
    (hwt : A.toOpSem.toSem.WT ops (Op.inS (.comp u ops)) (Op.outS (.comp u ops)))
    (hw : WFTList ops) (hT : transposeList ops = .ok ts)
    (hadj : List.Forall₂ (IsAdjointOn A) ops ts) :
    IsAdjointOn A (.comp u ops) (.comp 0 ts.reverse) :=
  A.toCore.transpose_adjoint_comp u ops ts hok hwt hw hT hadj

theorem transpose_adjoint_comp' (A : AdjSem V R) (u : Nat) (ops ts : List Op) (s t : Struct)
    (hne : ops ≠ []) (hok : ∀ o ∈ ops, StructOK o) (hwt : A.toOpSem.toSem.WT ops s t)
    (hw : WFTList ops) (hT : transposeList ops = .ok ts)
    (hadj : List.Forall₂ (IsAdjointOn A) ops ts) :
    IsAdjointOn A (.comp u ops) (.comp 0 ts.reverse) :=
  A.toCore.transpose_adjoint_comp' u ops ts s t hne hok hwt hw hT hadj

theorem transpose_adjoint_add (A : AdjSem V R) (u : Nat) (td : TreeDef) (ops ts : List Op)
    (hsame : ∀ o ∈ ops, Op.inS o = inSHead ops ∧ Op.outS o = outSHead ops)
    (hadj : List.Forall₂ (IsAdjointOn A) ops ts) :
    IsAdjointOn A (.cont u .add td ops) (.cont 0 .add td ts) :=
  A.toCore.transpose_adjoint_add u td ops ts hsame hadj

/-- **`op.T` is the adjoint of `op`** on the fragment leaves / wrappers / compositions / sums, for structurally
well-formed expressions -/
theorem transpose_adjoint (A : AdjSem V R) (hL : LeafAdjoint A) (o t : Op)
    (hf : Frag o) (hok : StructOK o) (hwt : o.WTAll) (hw : o.WFT) (h : transposeOp o = .ok t) :
    IsAdjointOn A o t :=
  AdjCore.transpose_adjoint A.toCore hL o t hf hok hwt hw h

end Adjoint

/-! ### the hypotheses are satisfiable on a nested expression

`Index ∘ (Diagonal + Opaque⁻¹ ∘ Homothety)` from a 2-vector to a 3-vector: it is in the fragment, structurally
well formed, well formed for transposition, and its transpose is `(Diagonal + Homothety ∘ Transpose(Opaque⁻¹)) ∘ Transpose(Index)`. -/

private def sA : Struct := ⟨[], [⟨[2], .f64⟩]⟩
private def sB : Struct := ⟨[], [⟨[3], .f64⟩]⟩
private def exOp : Op :=
  .comp 1 [.leaf 2 .index { inS := sA, outS := sB },
    .cont 3 .add [.leaf, .leaf] [.leaf 4 .diagonal { inS := sA, outS := sA },
      .comp 5 [.wrap 6 .inverse (.leaf 7 .opaque { inS := sA, outS := sA }),
        .leaf 8 .homothety { inS := sA, outS := sA }]]]
private def exOpT : Op :=
  .comp 0 [.cont 0 .add [.leaf, .leaf] [.leaf 4 .diagonal { inS := sA, outS := sA },
      .comp 0 [.leaf 8 .homothety { inS := sA, outS := sA },
        .wrap 0 .transpose (.wrap 6 .inverse (.leaf 7 .opaque { inS := sA, outS := sA }))]],
    .wrap 0 .transpose (.leaf 2 .index { inS := sA, outS := sB })]

private theorem forall_mem_pair {P : Op → Prop} {a b : Op} : (∀ o ∈ [a, b], P o) ↔ P a ∧ P b := by simp

private theorem exOp_ok :
    Frag exOp ∧ StructOK exOp ∧ exOp.WTAll ∧ exOp.WFT ∧ transposeOp exOp = .ok exOpT := by
  have hok : StructOK exOp := by
    simp [exOp, StructOK, WTExpr, WTList, Chain, WrapOK, ContOK, WrapCls.isLazy, TreeDef.numLeaves, Op.inS,
      Op.outS, inSLast, outSHead, inSHead, squareLeaf, sA]
  refine ⟨?_, hok, AdjCore.WTAll_of_StructOK _ hok, ?_, rfl⟩
  · exact .comp _ _ (forall_mem_pair.mpr ⟨.leaf .., .add _ _ _ (forall_mem_pair.mpr ⟨.leaf ..,
      .comp _ _ (forall_mem_pair.mpr ⟨.wrap .., .leaf ..⟩)⟩)⟩)
  · simp [exOp, Op.WFT, Op.WFTList, isSymmetricLeaf]

/-- hence, in any model where leaves and wrappers transpose to their adjoints, so does this expression -/
example {V R : Type} [Add R] [Zero R] (C : AdjCore V R) (hL : C.LeafAdjoint) :
    ∀ x y, C.mem sA x → C.mem sB y → C.dot (C.den exOp x) y = C.dot x (C.den exOpT y) := by
  obtain ⟨h1, h0, h2, h3, h4⟩ := exOp_ok
  exact AdjCore.transpose_adjoint C hL exOp exOpT h1 h0 h2 h3 h4

end Furax
