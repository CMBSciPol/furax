/-
Structural well-formedness of operator expressions: what the Python constructors guarantee of every object they
build, whatever the semantics.

`WTExpr inv leafOK o` is recursive well-formedness of an expression relative to an invertibility predicate `inv` (for
the operands of lazy inverses) and a leaf validity `leafOK` (both abstract).  `StructOK o` is its purely structural
part (`inv := True`, `leafOK := True`): every composition is a non-empty chain with matching adjacent structures,
every container is non-empty and its operands fit together, lazy inverses wrap square operands.  This is the guard of
the laws `honest` / `homogeneous` of the semantic frameworks (`Sem.ok`, `OpSem`, `AdjCore`): a faithful denotation
(vectors of the declared sizes, FuraxProofs/Sem/ListSem.lean) satisfies them for structurally well-formed operators
only.  `WTExpr` is monotone in both predicates, hence implies `StructOK`.

The file also holds induction on expressions (the operands of a composition or container are a list of expressions,
so the plain principle has a second motive for lists), the declared structures and the class tests constructor by
constructor, and, at the end of the file, what a `>>=` / `mapM` in `Except` was made of (`except_bind_eq_ok`, …).

Core Lean only (no Mathlib).
-/
import FuraxModel.Op
namespace Furax
open Op

namespace Op

theorem induction {P : Op → Prop} {Q : List Op → Prop} (leaf : ∀ u c p, P (.leaf u c p))
    (wrap : ∀ u k o, P o → P (.wrap u k o)) (comp : ∀ u ops, Q ops → P (.comp u ops))
    (cont : ∀ u k td ops, Q ops → P (.cont u k td ops)) (nil : Q [])
    (cons : ∀ o os, P o → Q os → Q (o :: os)) (o : Op) : P o :=
  Op.rec (motive_1 := P) (motive_2 := Q) leaf wrap comp cont nil cons o

theorem induction_list {P : Op → Prop} {Q : List Op → Prop} (leaf : ∀ u c p, P (.leaf u c p))
    (wrap : ∀ u k o, P o → P (.wrap u k o)) (comp : ∀ u ops, Q ops → P (.comp u ops))
    (cont : ∀ u k td ops, Q ops → P (.cont u k td ops)) (nil : Q [])
    (cons : ∀ o os, P o → Q os → Q (o :: os)) (ops : List Op) : Q ops :=
  Op.rec_1 (motive_1 := P) (motive_2 := Q) leaf wrap comp cont nil cons ops

/-- the form with one motive: the hypothesis on a list of operands is that each of them satisfies `P` -/
theorem induction_mem {P : Op → Prop} (leaf : ∀ u c p, P (.leaf u c p))
    (wrap : ∀ u k o, P o → P (.wrap u k o)) (comp : ∀ u ops, (∀ o ∈ ops, P o) → P (.comp u ops))
    (cont : ∀ u k td ops, (∀ o ∈ ops, P o) → P (.cont u k td ops)) (o : Op) : P o :=
  induction (Q := fun ops => ∀ o ∈ ops, P o) leaf wrap comp cont (fun _ h => nomatch h)
    (fun _ _ ho hos _ h => (List.mem_cons.mp h).elim (· ▸ ho) (hos _)) o

theorem inS_leaf (u : Nat) (c : LeafCls) (p : Params) : inS (.leaf u c p) = p.inS := rfl

theorem outS_leaf (u : Nat) (c : LeafCls) (p : Params) :
    outS (.leaf u c p) = if squareLeaf c then p.inS else p.outS := rfl

theorem outS_leaf_of_square {c : LeafCls} (h : squareLeaf c = true) (u : Nat) (p : Params) :
    outS (.leaf u c p) = p.inS := by rw [outS_leaf, if_pos h]

/-- every wrapper class is a dual: its output structure is the input structure of its operand -/
theorem outS_wrap (u : Nat) (k : WrapCls) (o : Op) : outS (.wrap u k o) = inS o := by cases k <;> rfl

theorem inS_wrap (u : Nat) (k : WrapCls) (o : Op) :
    inS (.wrap u k o) = if k = .diagInv then inS o else outS o := by cases k <;> rfl

theorem inS_wrap_of_square {o : Op} (h : inS o = outS o) (u : Nat) (k : WrapCls) : inS (.wrap u k o) = inS o := by
  rw [inS_wrap, ← h, ite_self]

theorem inS_comp (u : Nat) (ops : List Op) : inS (.comp u ops) = inSLast ops := rfl

theorem outS_comp (u : Nat) (ops : List Op) : outS (.comp u ops) = outSHead ops := rfl

theorem inS_mkIdentity (s : Struct) : inS (mkIdentity s) = s := rfl

theorem outS_mkIdentity (s : Struct) : outS (mkIdentity s) = s := rfl

theorem isIdentity_mkIdentity (s : Struct) : (mkIdentity s).isIdentity = true := rfl

theorem inS_mkHomothety (v : Rat) (s : Struct) : inS (mkHomothety v s) = s := rfl

theorem outS_mkHomothety (v : Rat) (s : Struct) : outS (mkHomothety v s) = s := rfl

theorem isHomothety_mkHomothety (v : Rat) (s : Struct) : (mkHomothety v s).isHomothety = true := rfl

theorem homValue_mkHomothety (v : Rat) (s : Struct) : homValue (mkHomothety v s) = v := rfl

theorem inS_mkComp (ops : List Op) : inS (mkComp ops) = inSLast ops := rfl

theorem outS_mkComp (ops : List Op) : outS (mkComp ops) = outSHead ops := rfl

theorem isLeafCls_leaf {c c' : LeafCls} (u : Nat) (p : Params) : (leaf u c' p).isLeafCls c = true ↔ c = c' :=
  beq_iff_eq

theorem isLeafCls_iff {c : LeafCls} {o : Op} : o.isLeafCls c = true ↔ ∃ u p, o = .leaf u c p := by
  cases o with
  | leaf u c' p =>
    rw [isLeafCls_leaf]
    exact ⟨fun h => ⟨u, p, h ▸ rfl⟩, fun ⟨_, _, h⟩ => by cases h; rfl⟩
  | _ => simp [isLeafCls]

/-- the leaf classes `squareLeaf` lists are square by construction (`@square`: `out_structure = in_structure`) -/
theorem square_of_isLeafCls {c : LeafCls} (hc : squareLeaf c = true) (o : Op) (h : o.isLeafCls c = true) :
    inS o = outS o := by
  obtain ⟨u, p, rfl⟩ := isLeafCls_iff.mp h
  exact (outS_leaf_of_square hc u p).symm

theorem isWrapCls_wrap {k k' : WrapCls} (u : Nat) (o : Op) : (wrap u k' o).isWrapCls k = true ↔ k = k' :=
  beq_iff_eq

theorem isWrapCls_iff {k : WrapCls} {o : Op} : o.isWrapCls k = true ↔ ∃ u o', o = .wrap u k o' := by
  cases o with
  | wrap u k' o' =>
    rw [isWrapCls_wrap]
    exact ⟨fun h => ⟨u, o', h ▸ rfl⟩, fun ⟨_, _, h⟩ => by cases h; rfl⟩
  | _ => simp [isWrapCls]

theorem isRavelOrReshape_iff {o : Op} :
    o.isRavelOrReshape = true ↔ ∃ u c p, o = .leaf u c p ∧ (c = .ravel ∨ c = .reshape) := by
  constructor
  · intro h
    unfold isRavelOrReshape at h
    split at h
    · exact ⟨_, _, _, rfl, .inl rfl⟩
    · exact ⟨_, _, _, rfl, .inr rfl⟩
    · cases h
  · rintro ⟨u, c, p, rfl, rfl | rfl⟩ <;> rfl

theorem operator?_eq_some {o o' : Op} : o.operator? = some o' ↔ ∃ u k, o = .wrap u k o' := by
  cases o <;> simp [operator?]

end Op

/-- `isinstance(·, AbstractLazyInverseOperator)` on the wrapper class -/
def WrapCls.isLazy (k : WrapCls) : Prop := k = .inverse ∨ k = .qurotT ∨ k = .diagInv

/-- adjacent structures of a chain match -/
def Chain : List Op → Prop
  | [] => True
  | [_] => True
  | a :: b :: rest => Op.inS a = Op.outS b ∧ Chain (b :: rest)

/-- what the constructors of the wrapper classes guarantee of their operand:
* a lazy inverse (`InverseOperator`, `QURotationTransposeOperator`, `DiagonalInverseOperator`) wraps a square
  operand that is invertible (`inv`) — for `DiagonalInverseOperator` invertibility is **not** checked by furax:
  this is the hypothesis finding F13 violates for a singular diagonal;
* `QURotationTransposeOperator` wraps a `QURotationOperator`, `ReshapeTransposeOperator` a ravel/reshape
  operator, `ToastObservationMatrixTransposeOperator` an observation matrix. -/
def WrapOK (inv : Op → Prop) (k : WrapCls) (o : Op) : Prop :=
  (k.isLazy → Op.inS o = Op.outS o ∧ inv o) ∧
  (k = .qurotT → o.isQURot = true) ∧
  (k = .reshapeT → o.isRavelOrReshape = true) ∧
  (k = .obsT → o.isLeafCls .obsMatrix = true)

/-- what the constructors of the container classes guarantee (`blockCtor`, `AdditionOperator`): one operand per
leaf of the container, the operands of a sum share both structures, those of a block row their output
structure, those of a block column their input structure -/
def ContOK (k : ContCls) (td : TreeDef) (ops : List Op) : Prop :=
  td.numLeaves = ops.length ∧
  match k with
  | .add => ∀ o ∈ ops, Op.inS o = inSHead ops ∧ Op.outS o = outSHead ops
  | .blockRow => ∀ o ∈ ops, Op.outS o = outSHead ops
  | .blockCol => ∀ o ∈ ops, Op.inS o = inSHead ops
  | .blockDiag => True

mutual
/-- **Well-formed expressions**: every leaf passed its constructor's validation (`leafOK`, abstract: chosen by
whoever discharges `RuleLaws`), every wrapper satisfies `WrapOK`, every composition is a non-empty chain with
matching adjacent structures, every container is non-empty and satisfies `ContOK`; recursively. -/
def WTExpr (inv : Op → Prop) (leafOK : LeafCls → Params → Prop) : Op → Prop
  | .leaf _ c p => leafOK c p
  | .wrap _ k o => WTExpr inv leafOK o ∧ WrapOK inv k o
  | .comp _ ops => ops ≠ [] ∧ WTList inv leafOK ops ∧ Chain ops
  | .cont _ k td ops => ops ≠ [] ∧ WTList inv leafOK ops ∧ ContOK k td ops
def WTList (inv : Op → Prop) (leafOK : LeafCls → Params → Prop) : List Op → Prop
  | [] => True
  | o :: os => WTExpr inv leafOK o ∧ WTList inv leafOK os
end

theorem WTList_iff (inv : Op → Prop) (leafOK : LeafCls → Params → Prop) (ops : List Op) :
    WTList inv leafOK ops ↔ ∀ o ∈ ops, WTExpr inv leafOK o := by
  induction ops with
  | nil => simp [WTList]
  | cons o os ih => simp [WTList, ih]

section
variable {inv : Op → Prop} {leafOK : LeafCls → Params → Prop}

theorem WTExpr_leaf_iff (u : Nat) (c : LeafCls) (p : Params) : WTExpr inv leafOK (.leaf u c p) ↔ leafOK c p := by
  simp only [WTExpr]

theorem WTExpr_wrap_iff (u : Nat) (k : WrapCls) (o : Op) :
    WTExpr inv leafOK (.wrap u k o) ↔ WTExpr inv leafOK o ∧ WrapOK inv k o := by
  simp only [WTExpr]

theorem WTExpr_comp_iff (u : Nat) (ops : List Op) :
    WTExpr inv leafOK (.comp u ops) ↔ ops ≠ [] ∧ (∀ o ∈ ops, WTExpr inv leafOK o) ∧ Chain ops := by
  simp only [WTExpr, WTList_iff]

theorem WTExpr_cont_iff (u : Nat) (k : ContCls) (td : TreeDef) (ops : List Op) :
    WTExpr inv leafOK (.cont u k td ops) ↔ ops ≠ [] ∧ (∀ o ∈ ops, WTExpr inv leafOK o) ∧ ContOK k td ops := by
  simp only [WTExpr, WTList_iff]

end

namespace Op

theorem isLazyInverse_wrap (u : Nat) (k : WrapCls) (o : Op) : (wrap u k o).isLazyInverse = true ↔ k.isLazy := by
  cases k <;> simp [isLazyInverse, WrapCls.isLazy]

theorem isLazyInverse_iff {o : Op} : o.isLazyInverse = true ↔ ∃ u k o', o = .wrap u k o' ∧ k.isLazy := by
  cases o with
  | wrap u k o' =>
    rw [isLazyInverse_wrap]
    exact ⟨fun h => ⟨u, k, o', rfl, h⟩, fun ⟨_, _, _, he, hk⟩ => by cases he; exact hk⟩
  | _ => simp [isLazyInverse]

theorem isTransposeOperator_wrap (u : Nat) (k : WrapCls) (o : Op) :
    (wrap u k o).isTransposeOperator = true ↔ k = .transpose ∨ k = .reshapeT ∨ k = .qurotT ∨ k = .obsT := by
  cases k <;> simp [isTransposeOperator]

theorem isTransposeOperator_iff {o : Op} : o.isTransposeOperator = true ↔
    ∃ u k o', o = .wrap u k o' ∧ (k = .transpose ∨ k = .reshapeT ∨ k = .qurotT ∨ k = .obsT) := by
  cases o with
  | wrap u k o' =>
    rw [isTransposeOperator_wrap]
    exact ⟨fun h => ⟨u, k, o', rfl, h⟩, fun ⟨_, _, _, he, hk⟩ => by cases he; exact hk⟩
  | _ => simp [isTransposeOperator]

end Op

theorem inSLast_append (xs ys : List Op) (h : ys ≠ []) : inSLast (xs ++ ys) = inSLast ys := by
  induction xs with
  | nil => rfl
  | cons x xs ih =>
    cases hxy : xs ++ ys with
    | nil => exact absurd (List.append_eq_nil_iff.mp hxy).2 h
    | cons z zs => rw [List.cons_append, hxy, inSLast, ← hxy]; exact ih

theorem outSHead_append (xs ys : List Op) (h : xs ≠ []) : outSHead (xs ++ ys) = outSHead xs := by
  cases xs with
  | nil => exact absurd rfl h
  | cons x xs => rfl

theorem inSLast_eq_last (ops : List Op) (last : Op) (hl : ops.getLast? = some last) : inSLast ops = Op.inS last := by
  obtain ⟨init, rfl⟩ := List.getLast?_eq_some_iff.mp hl
  exact inSLast_append init [last] (List.cons_ne_nil _ _)

theorem outSHead_eq_head (ops : List Op) (first : Op) (hf : ops.head? = some first) :
    outSHead ops = Op.outS first := by
  obtain ⟨_, rfl⟩ := List.head?_eq_some_iff.mp hf
  rfl

theorem Chain_tail (o : Op) (os : List Op) (h : Chain (o :: os)) : Chain os := by
  cases os with
  | nil => trivial
  | cons b rest => exact h.2

theorem Chain_append (xs ys : List Op) (hx : xs ≠ []) (hy : ys ≠ []) (h1 : Chain xs) (h2 : Chain ys)
    (h : inSLast xs = outSHead ys) : Chain (xs ++ ys) := by
  induction xs with
  | nil => exact absurd rfl hx
  | cons a as ih =>
    cases as with
    | nil =>
      cases ys with
      | nil => exact absurd rfl hy
      | cons y ys' => exact ⟨h, h2⟩
    | cons b bs => exact ⟨h1.1, ih (List.cons_ne_nil _ _) h1.2 h⟩

/-- **Structural well-formedness**: every composition is a non-empty chain with matching adjacent structures,
every container is non-empty and its operands fit together, lazy inverses wrap square operands, the dedicated
transpose wrappers wrap an operand of their class — what the constructors guarantee whatever the leaves are and
whatever the semantics. -/
def StructOK (o : Op) : Prop := WTExpr (fun _ => True) (fun _ _ => True) o

/-- every operand of the list is structurally well formed -/
def StructOKList (ops : List Op) : Prop := WTList (fun _ => True) (fun _ _ => True) ops

theorem StructOKList_iff (ops : List Op) : StructOKList ops ↔ ∀ o ∈ ops, StructOK o :=
  WTList_iff _ _ ops

theorem WrapOK_mono {inv inv' : Op → Prop} (hinv : ∀ o, inv o → inv' o) (k : WrapCls) (o : Op)
    (h : WrapOK inv k o) : WrapOK inv' k o :=
  ⟨fun hk => ⟨(h.1 hk).1, hinv o (h.1 hk).2⟩, h.2⟩

theorem WTExpr_mono {inv inv' : Op → Prop} {leafOK leafOK' : LeafCls → Params → Prop}
    (hinv : ∀ o, inv o → inv' o) (hleaf : ∀ c p, leafOK c p → leafOK' c p) :
    ∀ o, WTExpr inv leafOK o → WTExpr inv' leafOK' o := by
  intro o
  induction o using Op.induction_mem with
  | leaf u c p => rw [WTExpr_leaf_iff, WTExpr_leaf_iff]; exact hleaf c p
  | wrap u k o ih => rw [WTExpr_wrap_iff, WTExpr_wrap_iff]; exact fun h => ⟨ih h.1, WrapOK_mono hinv k o h.2⟩
  | comp u ops ih =>
    rw [WTExpr_comp_iff, WTExpr_comp_iff]; exact fun h => ⟨h.1, fun o ho => ih o ho (h.2.1 o ho), h.2.2⟩
  | cont u k td ops ih =>
    rw [WTExpr_cont_iff, WTExpr_cont_iff]; exact fun h => ⟨h.1, fun o ho => ih o ho (h.2.1 o ho), h.2.2⟩

theorem WTList_mono {inv inv' : Op → Prop} {leafOK leafOK' : LeafCls → Params → Prop}
    (hinv : ∀ o, inv o → inv' o) (hleaf : ∀ c p, leafOK c p → leafOK' c p) (ops : List Op)
    (h : WTList inv leafOK ops) : WTList inv' leafOK' ops :=
  (WTList_iff ..).mpr fun o ho => WTExpr_mono hinv hleaf o ((WTList_iff ..).mp h o ho)

/-- **a well-formed expression is structurally well formed**, whatever the invertibility predicate and the leaf
validity are -/
theorem WTExpr.structOK {inv : Op → Prop} {leafOK : LeafCls → Params → Prop} {o : Op}
    (h : WTExpr inv leafOK o) : StructOK o :=
  WTExpr_mono (fun _ _ => trivial) (fun _ _ _ => trivial) o h

theorem WTList.structOK {inv : Op → Prop} {leafOK : LeafCls → Params → Prop} {ops : List Op}
    (h : WTList inv leafOK ops) : StructOKList ops :=
  WTList_mono (fun _ _ => trivial) (fun _ _ _ => trivial) ops h

theorem structOK_of_forall_WTExpr {inv : Op → Prop} {leafOK : LeafCls → Params → Prop} {ops : List Op}
    (h : ∀ o ∈ ops, WTExpr inv leafOK o) : ∀ o ∈ ops, StructOK o :=
  fun o ho => (h o ho).structOK

@[simp] theorem StructOK_leaf (u : Nat) (c : LeafCls) (p : Params) : StructOK (.leaf u c p) :=
  (WTExpr_leaf_iff u c p).mpr trivial

theorem StructOK_wrap_iff (u : Nat) (k : WrapCls) (o : Op) :
    StructOK (.wrap u k o) ↔ StructOK o ∧ WrapOK (fun _ => True) k o :=
  WTExpr_wrap_iff u k o

theorem StructOK_comp_iff (u : Nat) (ops : List Op) :
    StructOK (.comp u ops) ↔ ops ≠ [] ∧ (∀ o ∈ ops, StructOK o) ∧ Chain ops :=
  WTExpr_comp_iff u ops

theorem StructOK_cont_iff (u : Nat) (k : ContCls) (td : TreeDef) (ops : List Op) :
    StructOK (.cont u k td ops) ↔ ops ≠ [] ∧ (∀ o ∈ ops, StructOK o) ∧ ContOK k td ops :=
  WTExpr_cont_iff u k td ops

/-- the objects the modelled code creates (`uid = 0` identities and scalar operators) are well formed -/
@[simp] theorem StructOK_mkIdentity (s : Struct) : StructOK (mkIdentity s) := StructOK_leaf _ _ _

@[simp] theorem StructOK_mkHomothety (v : Rat) (s : Struct) : StructOK (mkHomothety v s) := StructOK_leaf _ _ _

theorem StructOK_of_isLeafCls (c : LeafCls) (o : Op) (h : o.isLeafCls c = true) : StructOK o := by
  obtain ⟨u, p, rfl⟩ := isLeafCls_iff.mp h
  exact StructOK_leaf u c p

theorem inSList_def (ops : List Op) : inSList ops = ops.map Op.inS := by
  induction ops with
  | nil => rfl
  | cons o os ih => rw [inSList, ih, List.map_cons]

theorem outSList_def (ops : List Op) : outSList ops = ops.map Op.outS := by
  induction ops with
  | nil => rfl
  | cons o os ih => rw [outSList, ih, List.map_cons]

theorem inSHead_headD (ops : List Op) : inSHead ops = (inSList ops).headD default := by
  cases ops <;> rfl

theorem outSHead_headD (ops : List Op) : outSHead ops = (outSList ops).headD default := by
  cases ops <;> rfl

/-- "every element has the value of the first one" only depends on the list of values -/
theorem all_eq_head_congr {α α' β : Type} [Inhabited β] (f : α → β) (g : α' → β) (l : List α) (l' : List α')
    (h : l'.map g = l.map f) (ha : ∀ a ∈ l, f a = (l.map f).headD default) :
    ∀ b ∈ l', g b = (l'.map g).headD default := by
  intro b hb
  obtain ⟨a, ha', he⟩ := List.mem_map.mp (h ▸ List.mem_map_of_mem hb)
  rw [h, ← he]
  exact ha a ha'

theorem allIn_congr (ops ops' : List Op) (h : inSList ops' = inSList ops)
    (ha : ∀ o ∈ ops, Op.inS o = inSHead ops) : ∀ o ∈ ops', Op.inS o = inSHead ops' := by
  simp only [inSHead_headD, inSList_def] at *
  exact all_eq_head_congr _ _ ops ops' h ha

theorem allOut_congr (ops ops' : List Op) (h : outSList ops' = outSList ops)
    (ha : ∀ o ∈ ops, Op.outS o = outSHead ops) : ∀ o ∈ ops', Op.outS o = outSHead ops' := by
  simp only [outSHead_headD, outSList_def] at *
  exact all_eq_head_congr _ _ ops ops' h ha

/-- the crossed versions (for transposes: the inputs of `ops'` are the outputs of `ops`) -/
theorem allIn_of_allOut (ops ops' : List Op) (h : inSList ops' = outSList ops)
    (ha : ∀ o ∈ ops, Op.outS o = outSHead ops) : ∀ o ∈ ops', Op.inS o = inSHead ops' := by
  simp only [inSHead_headD, outSHead_headD, inSList_def, outSList_def] at *
  exact all_eq_head_congr _ _ ops ops' h ha

theorem allOut_of_allIn (ops ops' : List Op) (h : outSList ops' = inSList ops)
    (ha : ∀ o ∈ ops, Op.inS o = inSHead ops) : ∀ o ∈ ops', Op.outS o = outSHead ops' := by
  simp only [inSHead_headD, outSHead_headD, inSList_def, outSList_def] at *
  exact all_eq_head_congr _ _ ops ops' h ha

theorem except_bind_eq_ok {ε α β : Type} {x : Except ε α} {f : α → Except ε β} {b : β} (h : x >>= f = .ok b) :
    ∃ a, x = .ok a ∧ f a = .ok b := by
  cases x with
  | error e => cases h
  | ok a => exact ⟨a, rfl, h⟩

theorem except_bind_eq_error {ε α β : Type} {x : Except ε α} {f : α → Except ε β} {e : ε} (h : x >>= f = .error e) :
    x = .error e ∨ ∃ a, f a = .error e := by
  cases x with
  | error e' => cases h; exact .inl rfl
  | ok a => exact .inr ⟨a, h⟩

theorem except_mapM_nil_ok {α β ε : Type} {f : α → Except ε β} {l' : List β} (h : [].mapM f = .ok l') : l' = [] := by
  rw [List.mapM_nil] at h; cases h; rfl

theorem except_mapM_cons_ok {α β ε : Type} {f : α → Except ε β} {a : α} {l : List α} {l' : List β}
    (h : (a :: l).mapM f = .ok l') : ∃ b bs, f a = .ok b ∧ l.mapM f = .ok bs ∧ l' = b :: bs := by
  rw [List.mapM_cons] at h
  obtain ⟨b, hb, h⟩ := except_bind_eq_ok h
  obtain ⟨bs, hbs, h⟩ := except_bind_eq_ok h
  cases h
  exact ⟨b, bs, hb, hbs, rfl⟩

end Furax
