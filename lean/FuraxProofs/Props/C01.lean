/-
C01 — Reducing an operator never changes the linear map it denotes.

Property theorems only (helper lemmas are in FuraxProofs/Lemmas): the registry read from the source is the one the
model implements (`registry_pinned`, `rule_methods_pinned`); `reduce` / `reduceTop` preserve the denotation under the
leaf laws (`reduce_sound`) and with no semantic hypothesis in the list denotation (`reduce_sound_closed`); each rule
and the scan driver separately (`every_rule_sound`, `scan_sound_on_every_chain`); which hypotheses cannot be weakened
and that they are satisfiable.  The model functions mentioned here (`scan`, `reductionCfg`, `binaryRules`,
`algebraicReduction`, `homothetyRule`, `identityRule`) are the ones the compiled driver executes in the correspondence
check.
-/
import FuraxModel.Expected
import FuraxGenerated.Tables
import FuraxProofs.Lemmas.Nary
import FuraxProofs.Lemmas.ScalarModel
import FuraxProofs.Lemmas.RuleLawsModel
import FuraxProofs.Sem.ListModel
namespace Furax.C01
open Furax

/-- The rule registry read from the source on this run is the one the model implements, in order. -/
theorem registry_pinned : Generated.ruleRegistry = expectedRuleRegistry := rfl

/-- … the model's rule list has exactly these names in this order … -/
theorem registry_names :
    (binaryRules (fun o => .ok o)).map (·.name) = Generated.ruleRegistry.map (·.1) := rfl

/-- … and every rule's `check` / `apply` still resolves to the function the model transcribes. -/
theorem rule_methods_pinned : Generated.ruleMethods = expectedRuleMethods := rfl

/-! ### `reduce` itself, with the thirteen registered rules

`WTExpr inv leafOK o` is "every node of `o` passed its constructor's validation" (chains and containers have
matching structures, lazy inverses wrap square invertible operands, …).  `RuleLaws A` / `ContainerLaws A laws`
name, rule by rule, the leaf facts about the denotation the rules rely on (two swapped move-axis operators undo
each other, R(a)R(b) = R(a+b), P H = P, the container of slot-wise products is the product of the containers, …);
they are hypotheses of `reduce_sound`, theorems in the list denotation (`reduce_sound_closed`), and are what the
kernel-level theorems of C10, C12, C13, C16 and the differential oracle establish for the implementation.  The invertibility of the operand of a lazy inverse is NOT a law but part of
`WTExpr` — exactly the hypothesis a singular `DiagonalOperator.I` violates (finding F13). -/

/-- **`reduce()` never changes the denoted map**: for every fuel (number of nested `reduce` calls the recursion
is allowed), every well-formed expression `o` of any size, depth and mix of node kinds, if the model's `reduce`
returns `r` then `r` is well formed, has the same input and output structures and denotes the same map on the
whole input space. -/
theorem reduce_sound {V : Type} (A : ArithSem V) (laws : RuleLaws A) (extra : ContainerLaws A laws) :
    ∀ fuel o r, WTExpr A.invertible laws.leafOK o → reduce fuel o = .ok r →
      WTExpr A.invertible laws.leafOK r ∧ Op.inS r = Op.inS o ∧ Op.outS r = Op.outS o ∧
      ∀ x, A.mem (Op.inS o) x → A.den r x = A.den o x :=
  Furax.reduce_sound A laws extra

/-- **The closed statement.**  In the list denotation (FuraxProofs/Sem/ListSem.lean: every operator is the map on
flat real vectors assembled from the executable kernels the driver runs — gather / scatter-add, move-axis,
broadcasting diagonal, Mueller kernels — and leaf classes no rule inspects are arbitrary homogeneous maps `E`),
ALL the leaf laws are theorems, so no semantic hypothesis is left: for every expression whose nodes passed their
constructors' validation (`listLeafOK`: shapes fit, index values in bounds, a `unique_indices=True` promise is
true, rotation angles broadcast to the leaf shape; lazy inverses wrap invertible operands), `reduce` returns an
expression with the same structures that computes the same vector for every input. -/
theorem reduce_sound_closed (E : ListSem.Env) (fuel : Nat) (o r : Op)
    (hw : WTExpr (ListSem.listArithSem E).invertible ListSem.listLeafOK o) (h : reduce fuel o = .ok r) :
    WTExpr (ListSem.listArithSem E).invertible ListSem.listLeafOK r ∧ Op.inS r = Op.inS o ∧ Op.outS r = Op.outS o ∧
    ∀ x : List ℝ, x.length = (Op.inS o).size → ListSem.den E r x = ListSem.den E o x :=
  ListSem.reduce_sound_closed E fuel o r hw h

/-- the same for the entry point -/
theorem reduceTop_sound_closed (E : ListSem.Env) (o r : Op)
    (hw : WTExpr (ListSem.listArithSem E).invertible ListSem.listLeafOK o) (h : reduceTop o = .ok r) :
    WTExpr (ListSem.listArithSem E).invertible ListSem.listLeafOK r ∧ Op.inS r = Op.inS o ∧ Op.outS r = Op.outS o ∧
    ∀ x : List ℝ, x.length = (Op.inS o).size → ListSem.den E r x = ListSem.den E o x :=
  ListSem.reduceTop_sound_closed E o r hw h

/-- the faithful model inhabits the framework: the laws of `reduce_sound` are satisfied by vectors of the declared
sizes (not only by the degenerate witness of `reduce_sound_hypotheses_consistent`) -/
theorem faithful_model (E : ListSem.Env) :
    ∃ (A : ArithSem (List ℝ)) (laws : RuleLaws A), ContainerLaws A laws ∧ A.den = ListSem.den E ∧
      (∀ s x, A.mem s x ↔ x.length = s.size) :=
  ⟨ListSem.listArithSem E, ListSem.listRuleLaws E, ListSem.listContainerLaws E, rfl, fun _ _ => Iff.rfl⟩

/-- the entry point the driver executes for the `reduce` request -/
theorem reduceTop_sound {V : Type} (A : ArithSem V) (laws : RuleLaws A) (extra : ContainerLaws A laws)
    (o r : Op) (hw : WTExpr A.invertible laws.leafOK o) (h : reduceTop o = .ok r) :
    WTExpr A.invertible laws.leafOK r ∧ Op.inS r = Op.inS o ∧ Op.outS r = Op.outS o ∧
    ∀ x, A.mem (Op.inS o) x → A.den r x = A.den o x :=
  Furax.reduceTop_sound A laws extra o r hw h

/-- **every registered binary rule is sound on well-formed operands**, for any sound recursive call -/
theorem every_rule_sound {V : Type} (A : ArithSem V) (laws : RuleLaws A) (red : Op → Except PyErr Op)
    (hred : RedSound A laws red) :
    ∀ ru ∈ binaryRules red, A.toOpSem.toSem.RuleSoundOn laws.WT ru :=
  binaryRules_sound A laws red hred

/-- the unrelativised rule soundness (`RuleSoundOn (fun _ => True)`, quantifying over ALL operand pairs, well
formed or not) is false of the real registry in every semantics: `InverseBinaryRule` fires on
`o, DiagonalInverseOperator(o)` for a non-square `o`. -/
theorem unrelativised_rule_soundness_is_false {V : Type} (A : ArithSem V) (s t : Struct) (hst : s ≠ t) :
    ¬ A.toOpSem.toSem.RuleSoundOn (fun _ => True) inverseBinaryRule :=
  inverseBinaryRule_not_RuleSound A s t hst

/-- … and restricting to STRUCTURALLY well-formed operands (`Sem.RuleSound`, i.e. `RuleSoundOn StructOK`: what
the constructors guarantee whatever the values are) is not enough either: in the scalar model `InverseBinaryRule`
is unsound on `InverseOperator(3·) @ (3·)`, whose operand the model does not declare invertible (finding F13 is
the same phenomenon for a singular `DiagonalOperator`).  `scan_sound_every_chain` and `algebraicReduction_sound`
are therefore stated for an abstract hypothesis on the rule list; for the registry the driver is used through
`RuleSoundOn` (FuraxProofs/Lemmas/Scan.lean) with `P := WTExpr A.invertible …`. -/
theorem structural_rule_soundness_needs_invertibility :
    ¬ scalarOpSem.toSem.RuleSound inverseBinaryRule :=
  scalar_inverseBinaryRule_not_RuleSound

/-- a well-formed expression is structurally well formed: `WTExpr` implies the guard `StructOK` of the laws
`honest` / `homogeneous` of the semantic framework -/
theorem wellformed_is_structOK {inv : Op → Prop} {leafOK : LeafCls → Params → Prop} (o : Op)
    (h : WTExpr inv leafOK o) : StructOK o := h.structOK

/-- the hypotheses of `reduce_sound` are jointly satisfiable (degenerate witness: scalar denotation, value space
`{0}`), and `WTExpr` is inhabited by the shapes the rules rewrite (examples in Lemmas/RuleLawsModel.lean) -/
theorem reduce_sound_hypotheses_consistent :
    ∃ (A : ArithSem Rat) (laws : RuleLaws A), ContainerLaws A laws :=
  ⟨zeroArithSem, zeroRuleLaws, zeroContainerLaws⟩

/-- **Driver soundness relative to an operand invariant `P`** (for the registry: `WTExpr A.invertible laws.leafOK`,
see `every_rule_sound`) that implies
structural well-formedness: for any rule list sound on `P`-operands, any `P`-chain of any length, any starting
index, any fuel, the scan returns a `P`-chain between the same structures denoting the same map. -/
theorem scan_sound_on_every_chain {V : Type} (L : OpSem V) (P : Op → Prop) (hPok : ∀ o, P o → StructOK o)
    (hhom : ∀ v s, P (Op.mkHomothety v s))
    (red : Op → Except PyErr Op) (hr : ∀ ru ∈ binaryRules red, L.toSem.RuleSoundOn P ru) :
    ∀ fuel ops index res s t, (∀ o ∈ ops, P o) → L.toSem.WT ops s t →
      scan (reductionCfg red) fuel ops index = .ok (some res) →
      (∀ o ∈ res, P o) ∧ L.toSem.WT res s t ∧ ∀ x, L.mem s x → L.toSem.app res x = L.toSem.app ops x :=
  scan_sound_on L.toSem P hPok (reductionCfg red) (L.cfg_rules_sound_on P hPok red hr)
    (L.homothetyRule_sound_on P hPok hhom)

/-- **Driver soundness, any context** (abstract hypothesis on the rule list; see
`structural_rule_soundness_needs_invertibility`).  For *any* list of binary rules sound on structurally
well-formed operands (`Sem.RuleSound`), *any* well-typed chain of structurally well-formed operands (any length),
*any* starting index, *any* number of rewrites (fuel) and *any* firing order the registry order induces, the scan
returns a chain of structurally well-formed operands between the same structures denoting the same map. -/
theorem scan_sound_every_chain {V : Type} (L : OpSem V) (red : Op → Except PyErr Op)
    (hr : ∀ ru ∈ binaryRules red, L.toSem.RuleSound ru) :
    ∀ fuel ops index res s t, (∀ o ∈ ops, StructOK o) → L.toSem.WT ops s t →
      scan (reductionCfg red) fuel ops index = .ok (some res) →
      (∀ o ∈ res, StructOK o) ∧ L.toSem.WT res s t ∧
      ∀ x, L.mem s x → L.toSem.app res x = L.toSem.app ops x :=
  scan_sound L.toSem (reductionCfg red) (L.cfg_rules_sound red hr) L.homothetyRule_sound

/-- **`AlgebraicReductionRule.apply` is sound** (abstract hypothesis on the rule list): identity removal, scalar
merging/relocation (any number of scalar factors, on whichever side the code chooses), the scan, and the "empty
chain becomes an identity" clause, on every chain of structurally well-formed operands. -/
theorem algebraicReduction_sound {V : Type} (L : OpSem V) (red : Op → Except PyErr Op)
    (hr : ∀ ru ∈ binaryRules red, L.toSem.RuleSound ru)
    (ops res : List Op) (s t : Struct) (hok : ∀ o ∈ ops, StructOK o) (hwt : L.toSem.WT ops s t)
    (hres : algebraicReduction red ops = .ok res) :
    (∀ o ∈ res, StructOK o) ∧ L.toSem.WT res s t ∧
    ∀ x, L.mem s x → L.toSem.app res x = L.toSem.app ops x :=
  L.algebraicReduction_sound red hr ops res s t hok hwt hres

/-- the scalar relocation alone: any number of scalar factors anywhere in the chain (`ListSound f`: on every
well-typed chain of structurally well-formed operands, `f` returns a chain of structurally well-formed operands
between the same structures denoting the same map) -/
theorem homothetyRule_sound {V : Type} (L : OpSem V) : L.toSem.ListSound homothetyRule :=
  L.homothetyRule_sound

/-- identity removal alone -/
theorem identityRule_sound {V : Type} (L : OpSem V) : L.toSem.ListSound identityRule :=
  L.identityRule_sound

/-- non-vacuity: `OpSem` (identity is the identity, scalars multiply, every structurally well-formed operator
is honest and homogeneous) is inhabited by a concrete non-trivial semantics -/
theorem framework_inhabited : Nonempty (OpSem Rat) := ⟨scalarOpSem⟩

end Furax.C01
