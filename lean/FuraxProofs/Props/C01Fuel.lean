/-
C01, recursion fuel of `reduceTop`.

Proved:
* `reduceTop_compFree_ne_fuel` — for every expression without composition nodes (sums / block containers of
  leaves and wrappers, arbitrarily nested) `reduceTop o ≠ .error .fuel`; in fact fuel `o.depth` suffices
  (`reduce_depth_compFree`), because the block rules (the only non-structural recursion) fire only inside a composition;
* `reduce_cont_fuel_source` (Lemmas/ReduceFuel.lean) — containers run out of fuel only through their own operands.

Evidence (kernel-checked instances):
* towers of `k` nested one-block containers, depth `d = k + 2`:
  products `D^k ∘ D^k`, `D^k ∘ D^k ∘ D^k`, `R^k ∘ D^k ∘ C^k`, `R^k ∘ C^k` all need EXACTLY fuel `2 d - 2`
  (`towers_min_fuel`, k = 1..4), `C^k ∘ R^k` (no rule fires) needs `d`; `reduceTop` (fuel `2 * depth + 8`) succeeds on all.

Evaluated with `#eval` only (not kernel-checked, not in these files): over the 38 834 structure-correct expressions of
depth ≤ 4 built from {leaf, D[·], R[·], C[·], a ∘ b, a ∘ b ∘ c (depth ≤ 3), a + b} the maximum of the minimal fuel is
`2 d - 2` for d = 3, 4, so `reduceTop` fails on none of them.

OPEN: `∀ o, reduceTop o ≠ .error .fuel`.
-/
import FuraxModel.Reduce
import FuraxProofs.Lemmas.ReduceFuel
import FuraxProofs.Props.C01Terminates
namespace Furax.C01
open Furax Op

/-- fuel `depth` is enough without compositions -/
theorem reduce_depth_compFree (o : Op) (h : compFree o = true) : reduce o.depth o ≠ .error .fuel :=
  reduce_compFree_ne_fuel _ o h (Nat.le_refl _)

/-- `reduceTop` never answers `.fuel` on a composition-free expression -/
theorem reduceTop_compFree_ne_fuel (o : Op) (h : compFree o = true) : reduceTop o ≠ .error .fuel :=
  reduce_compFree_ne_fuel _ o h (by omega)

/-- a sum of a block-diagonal tower and a block row of a sum: composition-free, depth 5 -/
def cfExample : Op :=
  .cont 1 .add (listTd 2) [tower 3 1, .cont 2 .blockRow (listTd 1) [.cont 3 .add (listTd 2) [x0 4, x0 5]]]

example : compFree cfExample = true ∧ cfExample.depth = 5 := by decide +kernel
example : reduceTop cfExample ≠ .error .fuel := reduceTop_compFree_ne_fuel _ (by decide +kernel)

/-- the bound `depth` is sharp on composition-free expressions: with `depth - 1` the tower runs out of fuel -/
theorem compFree_sharp :
    (tower 3 1).depth = 4 ∧ (match reduce 3 (tower 3 1) with | .error .fuel => true | _ => false) = true := by
  constructor <;> decide +kernel

/-- hypotheses of `reduce_comp_fuel_source` are satisfiable, and on this instance (two block-diagonal towers, fuel 4:
the operands need 3, the product needs 6) it is the SECOND alternative that holds: the fresh container of a block rule -/
example : reduce (4 + 1) (.comp 50 [tower 2 1, tower 2 2]) = .error .fuel ∧
    ∀ x ∈ [tower 2 1, tower 2 2], reduce 4 x ≠ .error .fuel := by
  refine ⟨?_, ?_⟩
  · have h : (match reduce 5 (.comp 50 [tower 2 1, tower 2 2]) with | .error .fuel => true | _ => false) = true := by
      decide +kernel
    split at h
    · assumption
    · cases h
  · intro x hx
    simp only [List.mem_cons, List.not_mem_nil, or_false] at hx
    rcases hx with rfl | rfl <;> exact reduce_compFree_ne_fuel 4 _ (by decide +kernel) (by decide +kernel)

/-! ### evidence: towers of the three block classes -/

def towerK (kind : ContCls) : Nat → Nat → Op
  | 0, u => x0 u
  | k+1, u => .cont u kind (listTd 1) [towerK kind k u]

def isFuel : Except PyErr Op → Bool
  | .error .fuel => true
  | _ => false

/-- `f` is the minimal fuel of `o`: `reduce (f-1)` answers `.fuel`, `reduce f` does not -/
def minFuelIs (o : Op) (f : Nat) : Bool := isFuel (reduce (f - 1) o) && !isFuel (reduce f o)

def dd (k : Nat) : Op := .comp 50 [towerK .blockDiag k 1, towerK .blockDiag k 2]
def ddd (k : Nat) : Op := .comp 50 [towerK .blockDiag k 1, towerK .blockDiag k 2, towerK .blockDiag k 3]
def rdc (k : Nat) : Op := .comp 50 [towerK .blockRow k 1, towerK .blockDiag k 2, towerK .blockCol k 3]
def rc (k : Nat) : Op := .comp 50 [towerK .blockRow k 1, towerK .blockCol k 3]
def cr (k : Nat) : Op := .comp 50 [towerK .blockCol k 1, towerK .blockRow k 3]

/-- depth `k + 2`, minimal fuel `2 (k + 2) - 2 = 2 k + 2` for the four families where block rules fire,
`k + 2` where none fires; `reduceTop` (fuel `2 k + 12`) succeeds on all of them -/
theorem towers_min_fuel :
    ([1, 2, 3, 4].all fun k =>
      (dd k).depth == k + 2 && minFuelIs (dd k) (2 * k + 2) &&
      (ddd k).depth == k + 2 && minFuelIs (ddd k) (2 * k + 2) &&
      (rdc k).depth == k + 2 && minFuelIs (rdc k) (2 * k + 2) &&
      (rc k).depth == k + 2 && minFuelIs (rc k) (2 * k + 2) &&
      (cr k).depth == k + 2 && minFuelIs (cr k) (k + 2) &&
      !isFuel (reduceTop (dd k)) && !isFuel (reduceTop (ddd k)) && !isFuel (reduceTop (rdc k)) &&
      !isFuel (reduceTop (rc k)) && !isFuel (reduceTop (cr k))) = true := by
  decide +kernel

end Furax.C01
