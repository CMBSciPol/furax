/-
C02 — Operator arithmetic is matrix arithmetic, whatever the grouping.

Statements are over `ArithSem`: any semantics in which a composition denotes the composite, a sum the
pointwise sum, the identity/scalar operators what their names say and a lazy inverse of an INVERTIBLE operand
its inverse.  `LazyInvertible` is the hypothesis that the operand of a lazy-inverse object is invertible (and
that a `QURotationTransposeOperator` wraps a rotation, as its constructor guarantees): finding F13 is exactly
the case where it fails (the pseudo-inverse of a singular diagonal operator is a lazy-inverse object too).
`scalarArithSem` (Lemmas/ScalarModel.lean) shows the framework is inhabited by a non-trivial model.
-/
import FuraxProofs.Lemmas.Tables
import FuraxProofs.Lemmas.ScalarModel
import FuraxProofs.Lemmas.ArithNegSub
namespace Furax.C02
open Furax Op

/-- every arithmetic dunder of every operator class still resolves to the function the model transcribes -/
theorem dunders_pinned : ∀ r ∈ Generated.classTable, dunderOk r = true := by decide +kernel

/-- the class tests used by the dunders and the rules agree with the real class hierarchy -/
theorem hierarchy_pinned : ∀ r ∈ Generated.classTable, hierarchyOk r = true := by decide +kernel

/-- `A @ B`: product of the maps and structures of the product, for every operand kind and every shortcut
(`StructOK b`: the right operand is structurally well formed, which is where the framework's law `honest` —
`B` maps its input space into its output space — applies) -/
theorem matmul_den {V} (A : ArithSem V) (a b r : Op) (ha : ArithSem.WFtop a) (hb : ArithSem.WFtop b)
    (hbs : StructOK b)
    (hai : A.LazyInvertible a) (hbi : A.LazyInvertible b) (h : pyMatmul a b = .ok r) :
    Op.inS a = Op.outS b ∧ Op.inS r = Op.inS b ∧ Op.outS r = Op.outS a ∧
    ∀ x, A.mem (Op.inS b) x → A.den r x = A.den a (A.den b x) := A.pyMatmul_den a b r ha hb hbs hai hbi h

/-- `A + B`: sum of the maps; the operand list is the concatenation of the summands of `A` and of `B`
whatever the parenthesisation -/
theorem add_den {V} (A : ArithSem V) (a b r : Op) (ha : ArithSem.WFtop a) (hb : ArithSem.WFtop b)
    (h : pyAdd a b = .ok r) :
    Op.inS a = Op.inS b ∧ Op.outS a = Op.outS b ∧ Op.inS r = Op.inS a ∧ Op.outS r = Op.outS a ∧
    (∃ u td, r = .cont u .add td (summands a ++ summands b)) ∧
    ∀ x, A.den r x = A.add (A.den a x) (A.den b x) := A.pyAdd_den a b r ha h

/-- `k * A` and `A * k` -/
theorem rmul_den {V} (A : ArithSem V) (k : Rat) (a r : Op) (ha : ArithSem.WFtop a) (has : StructOK a)
    (hai : A.LazyInvertible a) (h : pyRmul k a = .ok r) :
    Op.inS r = Op.inS a ∧ Op.outS r = Op.outS a ∧
    ∀ x, A.mem (Op.inS a) x → A.den r x = A.smul k (A.den a x) := A.pyRmul_den k a r ha has hai h

/-- `A / k` -/
theorem truediv_den {V} (A : ArithSem V) (k : Rat) (a r : Op) (ha : ArithSem.WFtop a) (has : StructOK a)
    (hai : A.LazyInvertible a) (h : pyTruediv a k = .ok r) :
    k ≠ 0 ∧ Op.inS r = Op.inS a ∧ Op.outS r = Op.outS a ∧
    ∀ x, A.mem (Op.inS a) x → A.den r x = A.smul (1 / k) (A.den a x) := A.pyTruediv_den k a r ha has hai h

/-- `-A` for `A` not itself a sum (the complete statement is `neg_den` below) -/
theorem neg_den_partial {V} (A : ArithSem V) (a r : Op) (ha : ArithSem.WFtop a) (has : StructOK a)
    (hai : A.LazyInvertible a) (hns : a.isAdd = false) (h : pyNeg a = .ok r) :
    Op.inS r = Op.inS a ∧ Op.outS r = Op.outS a ∧
    ∀ x, A.mem (Op.inS a) x → A.den r x = A.smul (-1) (A.den a x) := A.pyNeg_den a r ha has hai hns h

/-- **`-a` for every operand, sums included** (a sum is negated summand by summand): the result denotes minus
the map.  `NegOK`: `a` is structurally well formed and every summand satisfies what `k * ·` needs. -/
theorem neg_den {V} (A : ArithSem V) (a r : Op) (ha : A.NegOK a) (h : pyNeg a = .ok r) :
    Op.inS r = Op.inS a ∧ Op.outS r = Op.outS a ∧
    ∀ x, A.mem (Op.inS a) x → A.den r x = A.smul (-1) (A.den a x) := A.pyNeg_den_full a r ha h

/-- **`a - b`** is `a + (-b)`: same structure checks as the sum, and the result denotes the difference -/
theorem sub_den {V} (A : ArithSem V) (a b r : Op) (ha : ArithSem.WFtop a) (hb : A.NegOK b)
    (h : pySub a b = .ok r) :
    Op.inS a = Op.inS b ∧ Op.outS a = Op.outS b ∧ Op.inS r = Op.inS a ∧ Op.outS r = Op.outS a ∧
    ∀ x, A.mem (Op.inS a) x → A.den r x = A.add (A.den a x) (A.smul (-1) (A.den b x)) :=
  let ⟨h1, h2, h3, h4, _, h6⟩ := A.pySub_den a b r ha hb h; ⟨h1, h2, h3, h4, h6⟩

/-- `+A` is `A` -/
theorem pos_den (a : Op) : pyPos a = a := rfl

/-- composition operand lists concatenate for every parenthesisation -/
theorem matmul_operands (u u' : Nat) (ops ops' : List Op)
    (h : Op.inS (.comp u ops) = Op.outS (.comp u' ops')) :
    pyMatmul (.comp u ops) (.comp u' ops') = .ok (mkComp (ops ++ ops')) :=
  (pyMatmul_comp u ops _).trans (if_neg (fun hs => bne_iff_ne.mp hs h))

/-- structurally incompatible operands are rejected, never turned into an operator -/
theorem matmul_rejects (a b : Op) (hs : Op.inS a ≠ Op.outS b) (hl : lazyInverseOf a b = false) :
    pyMatmul a b = .error .valueError := pyMatmul_rejects a b hs hl

theorem add_sub_reject (a b : Op) (hs : Op.inS a ≠ Op.inS b ∨ Op.outS a ≠ Op.outS b) :
    pyAdd a b = .error .valueError ∧ pySub a b = .error .valueError := ArithSem.pyAdd_rejects a b hs

/-- non-vacuity: the laws assumed above are satisfied by a concrete non-trivial semantics -/
theorem framework_inhabited : Nonempty (ArithSem Rat) := ⟨scalarArithSem⟩

/-! ### in the faithful list denotation (FuraxProofs/Sem): no law is assumed -/

/-- `A @ B` computes `A(B(x))` on every vector of the input size, whatever shortcut the constructors took -/
theorem matmul_den_closed (E : ListSem.Env) (a b r : Op) (ha : ArithSem.WFtop a) (hb : ArithSem.WFtop b)
    (hbs : StructOK b) (hai : (ListSem.listArithSem E).LazyInvertible a)
    (hbi : (ListSem.listArithSem E).LazyInvertible b) (h : pyMatmul a b = .ok r) :
    Op.inS a = Op.outS b ∧ Op.inS r = Op.inS b ∧ Op.outS r = Op.outS a ∧
    ∀ x : List ℝ, x.length = (Op.inS b).size → ListSem.den E r x = ListSem.den E a (ListSem.den E b x) :=
  (ListSem.listArithSem E).pyMatmul_den a b r ha hb hbs hai hbi h

/-- `A + B` computes the entry-wise sum of the two results -/
theorem add_den_closed (E : ListSem.Env) (a b r : Op) (ha : ArithSem.WFtop a) (hb : ArithSem.WFtop b)
    (h : pyAdd a b = .ok r) :
    Op.inS a = Op.inS b ∧ Op.outS a = Op.outS b ∧ Op.inS r = Op.inS a ∧ Op.outS r = Op.outS a ∧
    ∀ x : List ℝ, ListSem.den E r x = ListSem.vadd (ListSem.den E a x) (ListSem.den E b x) :=
  let ⟨h1, h2, h3, h4, _, h6⟩ := (ListSem.listArithSem E).pyAdd_den a b r ha h
  ⟨h1, h2, h3, h4, h6⟩

/-- `k * A` and `A * k` scale every entry of the result -/
theorem rmul_den_closed (E : ListSem.Env) (k : Rat) (a r : Op) (ha : ArithSem.WFtop a) (has : StructOK a)
    (hai : (ListSem.listArithSem E).LazyInvertible a) (h : pyRmul k a = .ok r) :
    Op.inS r = Op.inS a ∧ Op.outS r = Op.outS a ∧
    ∀ x : List ℝ, x.length = (Op.inS a).size →
      ListSem.den E r x = (ListSem.den E a x).map fun v => (k : ℝ) * v :=
  (ListSem.listArithSem E).pyRmul_den k a r ha has hai h

/-- `A / k` -/
theorem truediv_den_closed (E : ListSem.Env) (k : Rat) (a r : Op) (ha : ArithSem.WFtop a) (has : StructOK a)
    (hai : (ListSem.listArithSem E).LazyInvertible a) (h : pyTruediv a k = .ok r) :
    k ≠ 0 ∧ Op.inS r = Op.inS a ∧ Op.outS r = Op.outS a ∧
    ∀ x : List ℝ, x.length = (Op.inS a).size →
      ListSem.den E r x = (ListSem.den E a x).map fun v => ((1 / k : Rat) : ℝ) * v :=
  (ListSem.listArithSem E).pyTruediv_den k a r ha has hai h

/-- `-a` and `a - b` in the list denotation -/
theorem neg_den_closed (E : ListSem.Env) (a r : Op) (ha : (ListSem.listArithSem E).NegOK a) (h : pyNeg a = .ok r) :
    Op.inS r = Op.inS a ∧ Op.outS r = Op.outS a ∧
    ∀ x : List ℝ, x.length = (Op.inS a).size → ListSem.den E r x = ListSem.vsmul (-1) (ListSem.den E a x) :=
  ListSem.neg_den_closed E a r ha h

theorem sub_den_closed (E : ListSem.Env) (a b r : Op) (ha : ArithSem.WFtop a)
    (hb : (ListSem.listArithSem E).NegOK b) (h : pySub a b = .ok r) :
    Op.inS a = Op.inS b ∧ Op.outS a = Op.outS b ∧ Op.inS r = Op.inS a ∧ Op.outS r = Op.outS a ∧
    ∀ x : List ℝ, x.length = (Op.inS a).size →
      ListSem.den E r x = ListSem.vadd (ListSem.den E a x) (ListSem.vsmul (-1) (ListSem.den E b x)) :=
  ListSem.sub_den_closed E a b r ha hb h

end Furax.C02
