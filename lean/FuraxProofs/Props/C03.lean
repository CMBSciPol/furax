/-
C03 — Transpose is the exact adjoint of every operator.

`transposeOp` (FuraxModel/Dual.lean) is the form of `A.T` the compiled driver computes and the correspondence
compares with the implementation.  The adjointness of each hand-written transpose is a theorem about its kernel
(C09 Toeplitz, C10 blocks, C12 index/pack, C13 move-axis, C14 einsum, C15 QU rotation); the induction below
lifts "every leaf and wrapper transposes to its adjoint" to compositions and sums of any depth.  The generic
`TransposeOperator` relies on A2 (`jax.linear_transpose`), which enters as part of the hypothesis `LeafAdjoint`.
-/
import FuraxProofs.Lemmas.TransposeAdjoint
import FuraxProofs.Lemmas.Tables
import FuraxProofs.Props.C09
import FuraxProofs.Props.C10
import FuraxProofs.Props.C12
import FuraxProofs.Props.C13
import FuraxProofs.Props.C14
import FuraxProofs.Props.C15
import FuraxProofs.Sem.AdjointList
namespace Furax.C03
open Furax Op

/-- which function `transpose` resolves to for every class is what `transposeOp` transcribes -/
def transposeResolutionOk (r : Generated.ClassRow) : Bool :=
  let expected :=
    if ["IdentityOperator", "HomothetyOperator", "DiagonalOperator", "DiagonalInverseOperator", "HWPOperator",
        "SymmetricBandToeplitzOperator"].contains r.name then "symmetric.<locals>.<lambda>"
    else if r.name == "CompositionOperator" then "CompositionOperator.transpose"
    else if r.name == "AdditionOperator" then "AdditionOperator.transpose"
    else if r.name == "BlockRowOperator" then "BlockRowOperator.transpose"
    else if r.name == "BlockColumnOperator" then "BlockColumnOperator.transpose"
    else if r.name == "BlockDiagonalOperator" then "BlockDiagonalOperator.transpose"
    else if r.name == "MoveAxisOperator" then "MoveAxisOperator.transpose"
    else if ["AbstractRavelOrReshapeOperator", "RavelOperator", "ReshapeOperator"].contains r.name
      then "AbstractRavelOrReshapeOperator.transpose"
    else if r.name == "QURotationOperator" then "QURotationOperator.transpose"
    else if r.name == "DenseBlockDiagonalOperator" then "DenseBlockDiagonalOperator.transpose"
    else if r.name == "ToastObservationMatrixOperator" then "ToastObservationMatrixOperator.transpose"
    else if ["TransposeOperator", "ReshapeTransposeOperator", "QURotationTransposeOperator",
             "AbstractLazyInverseOrthogonalOperator", "ToastObservationMatrixTransposeOperator"].contains r.name
      then "TransposeOperator.transpose"
    else "AbstractLinearOperator.transpose"
  r.method "transpose" == some expected

-- `+kernel` (here and in the other statements about `Generated.classTable`): the table is evaluated by the kernel
-- only, not a first time by the elaborator
theorem transpose_resolution_pinned : ∀ r ∈ Generated.classTable, transposeResolutionOk r = true := by decide +kernel

/-- **input and output structures are swapped**, for every expression (compositions of any length, sums, block
row / diagonal / column over any container, every wrapper, every leaf class) -/
theorem structures_swapped (o t : Op) (hw : o.WFT) (h : transposeOp o = .ok t) :
    Op.inS t = Op.outS o ∧ Op.outS t = Op.inS o := transpose_structure o t hw h

/-- `A.T.T` is `A`: the wrapper classes return their very operand; symmetric operators return themselves -/
theorem double_transpose_wrapper (u : Nat) (k : WrapCls) (o : Op)
    (hk : k = .transpose ∨ k = .reshapeT ∨ k = .qurotT ∨ k = .obsT) : transposeOp (.wrap u k o) = .ok o :=
  transpose_wrap_operand u k o hk

theorem double_transpose_leaf (u : Nat) (c : LeafCls) (p : Params) (hc : isWrappedLeaf c = true) :
    (transposeOp (.leaf u c p)).bind transposeOp = .ok (.leaf u c p) := transpose_transpose_leaf u c p hc

theorem symmetric_returns_self (u : Nat) (c : LeafCls) (p : Params) (h : isSymmetricLeaf c = true) :
    transposeOp (.leaf u c p) = .ok (.leaf u c p) := transpose_symmetric_leaf u c p h

/-- `A.T` of a structurally well-formed expression (what the constructors build) is structurally well formed,
for every expression (compositions, sums, block row / diagonal / column, every wrapper, every leaf class) -/
theorem transpose_structOK (o t : Op) (hok : StructOK o) (hw : o.WFT) (h : transposeOp o = .ok t) :
    StructOK t := transpose_StructOK o t hok hw h

/-- **adjointness lifts from leaves to every composition and sum, nested to any depth**:
`⟨A x, y⟩ = ⟨x, A.T y⟩` whenever every leaf and wrapper transposes to its adjoint, for every structurally
well-formed expression `A` (`StructOK`: the framework's law `honest` is demanded of those only; it implies the
typing hypothesis `WTAll`, see `AdjCore.transpose_adjoint_of_StructOK`) -/
theorem transpose_is_adjoint {V R : Type} [Add R] [Zero R] (C : AdjCore V R) (hL : C.LeafAdjoint) (o t : Op)
    (hf : Frag o) (hok : StructOK o) (hwt : o.WTAll) (hw : o.WFT) (h : transposeOp o = .ok t) :
    C.IsAdjointOn o t :=
  AdjCore.transpose_adjoint C hL o t hf hok hwt hw h

/-! ### the closed statement, in the faithful list denotation (FuraxProofs/Sem) -/

/-- **`⟨A x, y⟩ = ⟨x, A.T y⟩` with no law assumed**: for every valid expression `A` — leaves of every interpreted
class (identity, scalar, diagonal, index, pack, move-axis, ravel/reshape, rotation, half-wave plate, polariser),
the transpose wrappers, lazy inverses, compositions and sums of any length, block row / diagonal / column — the
operator `A.T` that `transposeOp` builds (the form compared with furax by the correspondence check) computes the
adjoint of what `A` computes, for the standard inner product on vectors of the declared sizes.
What remains assumed is only about the leaves the denotation does not interpret (`EnvAdj E`: the maps standing
for observation-matrix / opaque leaves, for dense einsum leaves with one block array PER leaf and for Toeplitz leaves
with a rank-0 band array come with their adjoints, the Toeplitz ones are self-adjoint); Toeplitz leaves with a band
array `bs ++ [K]` are interpreted by the verified kernel of C09 and their self-adjointness is a theorem
(`ListSem.toeplitz_leaf_adjoint`, `ListSem.toeplitz_leaf_sym`), valid ones being `ListSem.toeplitzOK`; dense einsum
leaves with ONE block array shared by their leaves (`ListSem.denseShared`) are interpreted by the executable einsum
kernel of C14 and their adjointness is a theorem too (`ListSem.dense_leaf_adjoint`, from `ListSem.denseLeaf_adjoint`),
valid ones being `ListSem.denseOK`; the dense leaves with one block array per leaf are excluded (`TFormOK`) because
`op.T` builds a new dense leaf the environment cannot know, and `DiagonalInverseOperator` must
wrap a diagonal leaf (which is all the Python class accepts). -/
theorem transpose_is_adjoint_closed (E : ListSem.Env) (hE : ListSem.EnvAdj E) (o t : Op) (hv : ListSem.ValidT o)
    (hw : o.WFT) (h : transposeOp o = .ok t) :
    ∀ x y : List ℝ, x.length = (Op.inS o).size → y.length = (Op.outS o).size →
      ListSem.dot (ListSem.den E o x) y = ListSem.dot x (ListSem.den E t y) :=
  ListSem.transpose_is_adjoint_closed E hE o t hv hw h

/-- the two halves: `denT` (what the model says `A.T.mv` computes) is the adjoint of `den`, for every valid
expression, lazy inverses included (an inverse of `A` exists iff one of `Aᵀ` does, and then they are adjoint) … -/
theorem den_adjoint_closed (E : ListSem.Env) (hE : ListSem.EnvAdj E) (o : Op) (hv : ListSem.Valid o) :
    ∀ x y : List ℝ, x.length = (Op.inS o).size → y.length = (Op.outS o).size →
      ListSem.dot (ListSem.den E o x) y = ListSem.dot x (ListSem.denT E o y) :=
  ListSem.den_adjoint E hE o hv

/-- … and the form `transposeOp` builds denotes `denT` -/
theorem transposeOp_denotes_adjoint (E : ListSem.Env) (hE : ListSem.EnvAdj E) (o t : Op) (hv : ListSem.ValidT o)
    (hw : o.WFT) (h : transposeOp o = .ok t) :
    ∀ y : List ℝ, y.length = (Op.outS o).size → ListSem.den E t y = ListSem.denT E o y :=
  ListSem.transposeOp_den E hE o t hv hw h

/-- the hypothesis on the environment is satisfiable: every family of matrices (symmetric for Toeplitz leaves) -/
theorem env_adjoint_inhabited : ListSem.EnvAdj ListSem.idEnv := ListSem.idEnv_adj

/-- **no assumption at all** when every leaf is interpreted (no observation-matrix / opaque leaf, dense einsum leaves
with a shared block array only, Toeplitz leaves with a band array `bs ++ [K]` only): `⟨A x, y⟩ = ⟨x, A.T y⟩` for every environment -/
theorem transpose_is_adjoint_closed_noEnv (E : ListSem.Env) (o t : Op)
    (hI : ListSem.AllLeaves (fun _ c p => ListSem.isEnvLeaf c p = false) o) (hv : ListSem.ValidT o)
    (hw : o.WFT) (h : transposeOp o = .ok t) :
    ∀ x y : List ℝ, x.length = (Op.inS o).size → y.length = (Op.outS o).size →
      ListSem.dot (ListSem.den E o x) y = ListSem.dot x (ListSem.den E t y) :=
  ListSem.transpose_is_adjoint_closed_noEnv E o t hI hv hw h

/-- `AdjCore` has a model (the one-point one, `AdjCore.unitModel`): its fields are jointly satisfiable -/
theorem framework_inhabited : Nonempty (AdjCore Unit Nat) := ⟨AdjCore.unitModel⟩

/-! ### the leaf facts behind `LeafAdjoint`, kernel by kernel -/

/-- QU rotation: the transpose class is the adjoint -/
theorem qurotation_adjoint {α} [CommRing α] (c s : α) (x y : SV α) :
    (SV.rot c s x).i * y.i + (SV.rot c s x).q * y.q + (SV.rot c s x).u * y.u + (SV.rot c s x).v * y.v =
    x.i * (SV.rotT c s y).i + x.q * (SV.rotT c s y).q + x.u * (SV.rotT c s y).u + x.v * (SV.rotT c s y).v :=
  C15.rot_adjoint c s x y

/-- index / pack: the transpose (scatter-add) is the adjoint of the gather -/
theorem index_adjoint {α : Type} [CommSemiring α] [Inhabited α] (n : Nat) (pos : List Nat) (y x : List α)
    (hpos : ∀ p ∈ pos, p < n) (hy : y.length = pos.length) (hx : x.length = n) :
    (((Index.gather pos x).zip y).map fun p => p.1 * p.2).sum =
    (((Index.scatterAdd n pos y).zip x).map fun p => p.1 * p.2).sum :=
  C12.transpose_is_scatter_add n pos y x hpos hy hx

/-- einsum: the rewritten subscripts give the adjoint -/
theorem einsum_adjoint {ι α : Type} [DecidableEq ι] [Fintype ι] [CommRing α] (isDot : ι → Bool)
    (L R O L' : List ι) (h : Einsum.transposeCore isDot L R O = .ok L') (d : ι → ℕ) (B x y : List ℕ → α) :
    ∃ s t : ι, Einsum.Phi d B x y L R O = Einsum.Phi (d ∘ Equiv.swap s t) B y x L' R O :=
  C14.transposed_is_adjoint isDot L R O L' h d B x y

/-- move-axis: swapping source and destination gives the inverse permutation of elements; a permutation's
inverse is its transpose -/
theorem moveaxis_transpose_inverse {α} [Inhabited α] (t t' : Tensor α) (src dst : List Int)
    (hwf : t.data.length = prodNat t.shape) (h : Axes.moveaxis t src dst = .ok t') :
    Axes.moveaxis t' dst src = .ok t := C13.moveaxis_transpose_is_inverse t t' src dst hwf h

/-- Toeplitz (returns itself): the banded product is self-adjoint -/
theorem toeplitz_self_adjoint {α} [CommRing α] (h l : Nat) (band x y : Nat → α) :
    ∑ i ∈ Finset.range l, y i * Toeplitz.toep h l band x i = ∑ j ∈ Finset.range l, Toeplitz.toep h l band y j * x j :=
  C09.toeplitz_symmetric h l band x y

/-- blocks: the row operator's adjoint is the column operator of the adjoint blocks -/
theorem block_row_adjoint {W} [CommSemiring W] (ls ts : List (BlockSem.Block W)) (h : BlockSem.Adjoints ls ts)
    (hl : BlockSem.AllHonest ls) (ht : BlockSem.AllHonest ts) (x y : List W)
    (hx : x.length = (ls.map (·.cin)).sum) (hy : ∀ l ∈ ls, l.cout = y.length) :
    BlockSem.dotL (BlockSem.denRow ls x) y = BlockSem.dotL x (BlockSem.denCol ts y) :=
  C10.row_transpose_is_column ls ts h hl ht x y hx hy

end Furax.C03
