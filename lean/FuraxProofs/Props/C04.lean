/-
C04 — Application is linear and `as_matrix()` is its faithful dense form.

The generic `as_matrix()` builds the matrix whose j-th column is `op` applied to the j-th basis vector of the
flattened input.  On flattened pytrees an operator is a linear map `(Fin n → R) → (Fin m → R)`; with Mathlib's
`LinearMap.toMatrix'` being *defined* by exactly that column recipe, the statements below are the
"dense and matrix-free uses are interchangeable" property and the correctness of each override's formula.
-/
import FuraxProofs.Lemmas.Tables
import FuraxProofs.Lemmas.Nary
import Mathlib.LinearAlgebra.Matrix.ToLin
namespace Furax.C04
open Furax Matrix

variable {R : Type} [CommRing R] {n m k : ℕ}

/-- the set of classes overriding `as_matrix`, and the function each resolves to, is the expected one -/
theorem as_matrix_resolution_pinned : ∀ r ∈ Generated.classTable, asMatrixResolutionOk r = true := by decide +kernel

/-- the generic recipe: entry (i, j) is component i of `op` applied to the j-th basis vector -/
theorem generic_as_matrix_columns (f : (Fin n → R) →ₗ[R] (Fin m → R)) (i : Fin m) (j : Fin n) :
    LinearMap.toMatrix' f i j = f (Pi.single j 1) i := by
  simp [LinearMap.toMatrix'_apply, Pi.single_apply, eq_comm]

/-- **`op(x) = as_matrix() · flatten(x)` for every x** -/
theorem mv_eq_as_matrix_mulVec (f : (Fin n → R) →ₗ[R] (Fin m → R)) (x : Fin n → R) :
    (LinearMap.toMatrix' f).mulVec x = f x := LinearMap.toMatrix'_mulVec f x

/-- two operators with the same dense matrix are the same map (faithfulness) -/
theorem as_matrix_faithful (f g : (Fin n → R) →ₗ[R] (Fin m → R))
    (h : LinearMap.toMatrix' f = LinearMap.toMatrix' g) : f = g := LinearMap.toMatrix'.injective h

/-! ### the specialised overrides compute that matrix -/

/-- identity: `jnp.identity(in_size)` -/
theorem identity_override : LinearMap.toMatrix' (LinearMap.id : (Fin n → R) →ₗ[R] (Fin n → R)) = 1 :=
  LinearMap.toMatrix'_id

/-- scalar operator: `value * identity` -/
theorem homothety_override (c : R) :
    LinearMap.toMatrix' (c • (LinearMap.id : (Fin n → R) →ₗ[R] (Fin n → R))) = c • (1 : Matrix (Fin n) (Fin n) R) := by
  rw [map_smul, LinearMap.toMatrix'_id]

/-- sums: the sum of the summands' matrices -/
theorem addition_override (f g : (Fin n → R) →ₗ[R] (Fin m → R)) :
    LinearMap.toMatrix' (f + g) = LinearMap.toMatrix' f + LinearMap.toMatrix' g := map_add _ f g

/-- compositions: the product of the matrices (generic `as_matrix` of a composition = product of parts) -/
theorem composition_matrix (f : (Fin m → R) →ₗ[R] (Fin k → R)) (g : (Fin n → R) →ₗ[R] (Fin m → R)) :
    LinearMap.toMatrix' (f ∘ₗ g) = LinearMap.toMatrix' f * LinearMap.toMatrix' g := LinearMap.toMatrix'_comp f g

/-- diagonal operator: `jnp.diag` of the (broadcast, raveled) values -/
theorem diagonal_override (d : Fin n → R) :
    LinearMap.toMatrix' (Matrix.toLin' (Matrix.diagonal d)) = Matrix.diagonal d := LinearMap.toMatrix'_toLin' _

theorem diagonal_acts_entrywise (d x : Fin n → R) (i : Fin n) :
    Matrix.toLin' (Matrix.diagonal d) x i = d i * x i := by
  simp [Matrix.toLin'_apply, Matrix.mulVec_diagonal]

/-- ravel / reshape: `jnp.eye(in_size)` — the flattened data is untouched -/
theorem reshape_override : LinearMap.toMatrix' (LinearMap.id : (Fin n → R) →ₗ[R] (Fin n → R)) = 1 :=
  identity_override

/-- lazy inverses: `jnp.linalg.inv(operator.as_matrix())` is the matrix of the inverse map -/
theorem inverse_override (e : (Fin n → R) ≃ₗ[R] (Fin n → R)) :
    LinearMap.toMatrix' (e.symm : (Fin n → R) →ₗ[R] (Fin n → R)) * LinearMap.toMatrix' (e : (Fin n → R) →ₗ[R] (Fin n → R)) = 1 := by
  rw [← LinearMap.toMatrix'_comp, LinearEquiv.symm_comp, LinearMap.toMatrix'_id]

/-- linearity is what makes all of the above apply: every structurally well-formed operator of the Level-A
semantics commutes with scalar multiplication (law `homogeneous` of `OpSem`, discharged per kernel), and so does
every chain of such operators -/
theorem chain_homogeneous {V} (L : OpSem V) (ops : List Op) (s t : Struct) (hok : ∀ o ∈ ops, StructOK o)
    (h : L.toSem.WT ops s t) (a : Rat) (x : V)
    (hx : L.mem s x) : L.toSem.app ops (L.smul a x) = L.smul a (L.toSem.app ops x) :=
  L.app_homogeneous ops s t hok h a x hx

end Furax.C04
