/-
C04 — Application is linear and `as_matrix()` is its faithful dense form: the closed statements, in the faithful
list denotation.  They are in a module of their own because FuraxProofs/Sem/LinearList.lean, which proves them,
imports FuraxProofs/Props/C04.lean (it instantiates the abstract statements of that file): placed in C04.lean they
would close an import cycle.
-/
import FuraxProofs.Props.C04
import FuraxProofs.Sem.LinearList
namespace Furax.C04
open Furax

/-! ### the closed statements, in the faithful list denotation (FuraxProofs/Sem) -/

/-- **application is additive**, for every operator expression and all inputs (with scalar homogeneity,
`ListSem.homLaw`, this is linearity): no validity of leaves is needed, every kernel normalises lengths.
`EnvAdd E`: the maps standing for the uninterpreted leaf classes are additive. -/
theorem application_additive (E : ListSem.Env) (hE : ListSem.EnvAdd E) (o : Op) (hok : StructOK o) (x y : List ℝ)
    (hx : x.length = (Op.inS o).size) (hy : y.length = (Op.inS o).size) :
    ListSem.den E o (List.zipWith (· + ·) x y) =
      List.zipWith (· + ·) (ListSem.den E o x) (ListSem.den E o y) :=
  ListSem.den_additive E hE o hok x y hx hy

/-- **`op(x) = as_matrix() · flatten(x)` for every x**: the matrix whose column `j` is `op` applied to the `j`-th
basis vector reproduces `op` on every input -/
theorem application_is_dense_matrix (E : ListSem.Env) (hE : ListSem.EnvAdd E) (o : Op) (hok : StructOK o)
    (n m : Nat) (hm : Op.outSize o = m) (v : Fin n → ℝ) :
    ListSem.den E o (List.ofFn v) = List.ofFn (Matrix.mulVec (ListSem.asMatrix E hE o n m) v) :=
  ListSem.den_eq_asMatrix_mulVec E hE o hok n m hm v

/-- **faithfulness**: two operators with the same dense matrix compute the same vectors -/
theorem dense_matrix_faithful (E : ListSem.Env) (hE : ListSem.EnvAdd E) (o o' : Op) (ho : StructOK o)
    (ho' : StructOK o') (n m : Nat) (hm : Op.outSize o = m) (hm' : Op.outSize o' = m)
    (h : ListSem.asMatrix E hE o n m = ListSem.asMatrix E hE o' n m) :
    ∀ x : List ℝ, x.length = n → ListSem.den E o x = ListSem.den E o' x :=
  ListSem.asMatrix_faithful E hE o o' ho ho' n m hm hm' h

/-- the matrix of a composition is the product of the matrices; of a sum, the sum; of `InverseOperator(o)`, the
matrix inverse (zero for a singular operand, as the lazy inverse of a singular operand denotes the zero map) -/
theorem dense_matrix_of_composition (E : ListSem.Env) (hE : ListSem.EnvAdd E) (u : Nat) (a b : Op) (hb : StructOK b)
    (n m k : Nat) (hm : Op.outSize b = m) :
    ListSem.asMatrix E hE (.comp u [a, b]) n k = ListSem.asMatrix E hE a m k * ListSem.asMatrix E hE b n m :=
  ListSem.asMatrix_comp E hE u a b hb n m k hm

theorem dense_matrix_of_sum (E : ListSem.Env) (hE : ListSem.EnvAdd E) (u : Nat) (td : TreeDef) (ops : List Op)
    (n m : Nat) :
    ListSem.asMatrix E hE (.cont u .add td ops) n m = (ops.map fun o => ListSem.asMatrix E hE o n m).sum :=
  ListSem.asMatrix_add E hE u td ops n m

theorem dense_matrix_of_lazy_inverse (E : ListSem.Env) (hE : ListSem.EnvAdd E) (u : Nat) (o : Op) (ho : StructOK o)
    (hsq : Op.inS o = Op.outS o) :
    ListSem.asMatrix E hE (.wrap u .inverse o) (Op.inSize o) (Op.inSize o) =
      (ListSem.asMatrix E hE o (Op.inSize o) (Op.inSize o))⁻¹ :=
  ListSem.asMatrix_inverse E hE u o ho hsq

end Furax.C04
