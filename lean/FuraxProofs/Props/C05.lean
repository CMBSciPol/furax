/-
C05 — Declared input/output structures are honest.

Level A (`Op.inS`, `Op.outS`, `Op.inSize`, `Op.outSize`, FuraxModel/Op.lean) transcribes how every composite
class reports its structures from its parts; the kernels' output shapes are theorems of their own properties
(C11 diagonal, C12 index, C13 axes).  Which function `out_structure` resolves to for every class (the `square`
family assigns `out_structure = in_structure` at decoration time) is pinned against the source.
-/
import FuraxProofs.Lemmas.Tables
import FuraxProofs.Lemmas.ArithSound
import FuraxProofs.Lemmas.ReduceSound
import FuraxProofs.Props.C07
import FuraxProofs.Props.C11
import FuraxProofs.Props.C13
import FuraxProofs.Props.C20
import FuraxProofs.Sem.ListModel
namespace Furax.C05
open Furax Op

theorem out_structure_resolution_pinned : ∀ r ∈ Generated.classTable, outStructureResolutionOk r = true := by
  decide +kernel

/-- a composition reports the input structure of its last operand and the output structure of its first -/
theorem composition_structures (u : Nat) (first : Op) (rest : List Op) (last : Op)
    (h : (first :: rest).getLast? = some last) :
    Op.inS (.comp u (first :: rest)) = Op.inS last ∧ Op.outS (.comp u (first :: rest)) = Op.outS first :=
  ⟨inSLast_eq_last _ _ h, rfl⟩

/-- a sum reports the structures of its first summand; a block row the nested inputs and the first output;
a block column the first input and the nested outputs; a block diagonal both nested -/
theorem container_structures (u : Nat) (td : TreeDef) (o : Op) (os : List Op) :
    Op.inS (.cont u .add td (o :: os)) = Op.inS o ∧ Op.outS (.cont u .add td (o :: os)) = Op.outS o ∧
    Op.outS (.cont u .blockRow td (o :: os)) = Op.outS o ∧ Op.inS (.cont u .blockCol td (o :: os)) = Op.inS o ∧
    Op.inS (.cont u .blockRow td (o :: os)) = Struct.nest td (inSList (o :: os)) ∧
    Op.outS (.cont u .blockCol td (o :: os)) = Struct.nest td (outSList (o :: os)) ∧
    Op.inS (.cont u .blockDiag td (o :: os)) = Struct.nest td (inSList (o :: os)) ∧
    Op.outS (.cont u .blockDiag td (o :: os)) = Struct.nest td (outSList (o :: os)) := by
  simp [Op.inS, Op.outS, inSHead, outSHead]

/-- transposes and lazy inverses swap the structures of their operand (the diagonal inverse is square) -/
theorem dual_structures (u : Nat) (k : WrapCls) (o : Op) (hk : k ≠ .diagInv) :
    Op.inS (.wrap u k o) = Op.outS o ∧ Op.outS (.wrap u k o) = Op.inS o := by
  cases k <;> simp_all [Op.inS, Op.outS]

/-- the number of elements of a block structure is the sum over the blocks -/
theorem nest_size (td : TreeDef) (ss : List Struct) :
    (Struct.nest td ss).size = (ss.map Struct.size).sum := by
  simp only [Struct.nest, Struct.size]
  induction ss with
  | nil => rfl
  | cons s rest ih =>
    simp only [List.map_cons, List.flatten_cons, List.map_append, List.sum_append, List.sum_cons, ih]
    rfl

/-- products and sums built by the arithmetic dunders have the structures of the product / of the operands -/
theorem matmul_structures {V} (A : ArithSem V) (a b r : Op) (ha : ArithSem.WFtop a) (hb : ArithSem.WFtop b)
    (hai : A.LazyInvertible a) (hbi : A.LazyInvertible b)
    (h : pyMatmul a b = .ok r) : Op.inS r = Op.inS b ∧ Op.outS r = Op.outS a :=
  let ⟨_, h2, h3⟩ := A.pyMatmul_structs a b r ha hb hai hbi h; ⟨h2, h3⟩

/-- **`reduce()` keeps the declared structures**: on every well-formed expression the reduced operator has the
same input and output structures (the structural half of `C01.reduce_sound`; the 13 registered rules, containers
and overrides included) -/
theorem reduce_keeps_structures {V} (A : ArithSem V) (laws : RuleLaws A) (extra : ContainerLaws A laws)
    (fuel : Nat) (o r : Op) (hw : WTExpr A.invertible laws.leafOK o) (h : reduce fuel o = .ok r) :
    Op.inS r = Op.inS o ∧ Op.outS r = Op.outS o :=
  let ⟨_, h1, h2, _⟩ := Furax.reduce_sound A laws extra fuel o r hw h; ⟨h1, h2⟩

/-- … with no law assumed (faithful list denotation): the reduced operator of a valid expression declares the same
structures, and every valid operator really returns a vector of its declared output size -/
theorem reduce_keeps_structures_closed (E : ListSem.Env) (fuel : Nat) (o r : Op)
    (hw : WTExpr (ListSem.listArithSem E).invertible ListSem.listLeafOK o) (h : reduce fuel o = .ok r) :
    Op.inS r = Op.inS o ∧ Op.outS r = Op.outS o :=
  let ⟨_, h1, h2, _⟩ := ListSem.reduce_sound_closed E fuel o r hw h; ⟨h1, h2⟩

/-- **declared output sizes are honest**: whatever the input, a structurally well-formed operator returns as many
entries as `out_structure()` declares, and its transpose as many as `in_structure()` declares -/
theorem declared_sizes_honest (E : ListSem.Env) (o : Op) (h : StructOK o) :
    (∀ x, (ListSem.den E o x).length = (Op.outS o).size) ∧ (∀ y, (ListSem.denT E o y).length = (Op.inS o).size) :=
  ⟨ListSem.den_length E o h, ListSem.denT_length E o h⟩

/-- reduction keeps the typing of a chain (hence its input and output structures), for any rule list sound on
operands satisfying an invariant `P` that implies structural well-formedness (for the registry: `WTExpr`,
`binaryRules_sound`, `WTExpr.structOK`) -/
theorem reduction_keeps_structures {V} (L : OpSem V) (P : Op → Prop) (hPok : ∀ o, P o → StructOK o)
    (hid : ∀ s, P (Op.mkIdentity s))
    (hhom : ∀ v s, P (Op.mkHomothety v s)) (red : Op → Except PyErr Op)
    (hr : ∀ ru ∈ binaryRules red, L.toSem.RuleSoundOn P ru) (ops res : List Op) (s t : Struct)
    (hP : ∀ o ∈ ops, P o) (hwt : L.toSem.WT ops s t) (hres : algebraicReduction red ops = .ok res) :
    L.toSem.WT res s t :=
  (L.algebraicReduction_sound_on P hPok hid hhom red hr ops res s t hP hwt hres).2.1

/-- kernels: ravel and reshape keep every leaf's size; the strict diagonal keeps every leaf's shape; move-axis
permutes the shape -/
theorem kernel_shapes_honest :
    (∀ (first last : Int) (shape out : List Nat), Axes.ravelShape first last shape = .ok out → prodNat out = prodNat shape) ∧
    (∀ (ndim : Nat) (src dst : List Int) (order : List Nat), Axes.moveaxisOrder ndim src dst = .ok order →
      order.Perm (List.range ndim)) :=
  ⟨C13.ravel_preserves_size, C13.moveaxis_is_permutation⟩

/-- promoted dtypes: `jnp.result_type` over the leaves is a join (commutative, associative, idempotent up to
canonicalisation), in both 64-bit modes (table regenerated from the environment) -/
theorem promoted_dtype_is_join :
    (∀ x64 ∈ [false, true], ∀ a ∈ dtypeNames, ∀ b ∈ dtypeNames, promote x64 a b = promote x64 b a) ∧
    (∀ x64 ∈ [false, true], ∀ a ∈ dtypeNames, promote x64 a a = some (canonical x64 a)) :=
  ⟨C20.promotion_commutative, C20.promotion_idempotent⟩

/-- a parameter no wider than the data leaves the data dtype unchanged: `result_type(p, d) = d` whenever
`result_type(p, d)` is `d`-canonical … stated on the table for the float types used by the library -/
theorem narrower_parameter_keeps_dtype :
    promote true "float32" "float64" = some "float64" ∧ promote true "float32" "float32" = some "float32" ∧
    promote true "float16" "float32" = some "float32" ∧ promote false "float32" "float32" = some "float32" ∧
    promote true "int32" "float32" = some "float32" ∧ promote true "float64" "float64" = some "float64" := by decide +kernel

end Furax.C05
