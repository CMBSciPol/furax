/-
C06 — Inverses invert.  (solver convergence partial)

`inverseOp` / `mkInverse` (FuraxModel/Dual.lean) give the *form* of `A.I` for every class as resolved along the
MRO; the semantic laws of each closed form are proved on the kernel models (C10, C11, C13, C15).  The lazy
`InverseOperator` denotes the exact inverse in the model (A4); that the solver reaches it is runtime.
-/
import FuraxModel.Dual
import FuraxProofs.Lemmas.Tables
import FuraxProofs.Props.C10
import FuraxProofs.Props.C11
import FuraxProofs.Props.C13
import FuraxProofs.Props.C15
import FuraxProofs.Sem.InverseList
namespace Furax.C06
open Furax Op

/-- which function `inverse` resolves to for every operator class is what the model transcribes -/
def inverseResolutionOk (r : Generated.ClassRow) : Bool :=
  let expected :=
    if r.name == "HomothetyOperator" then "HomothetyOperator.inverse"
    else if r.name == "DiagonalOperator" then "DiagonalOperator.inverse"
    else if r.name == "DiagonalInverseOperator" then "DiagonalInverseOperator.inverse"
    else if r.name == "BlockDiagonalOperator" then "BlockDiagonalOperator.inverse"
    else if r.name == "IdentityOperator" then "symmetric.<locals>.<lambda>"
    else if r.name == "QURotationOperator" then "QURotationOperator.transpose"
    else if r.name == "MoveAxisOperator" then "MoveAxisOperator.transpose"
    else if ["QURotationTransposeOperator", "AbstractLazyInverseOrthogonalOperator"].contains r.name
      then "TransposeOperator.transpose"
    else if ["InverseOperator", "AbstractLazyInverseOperator"].contains r.name
      then "AbstractLazyInverseOperator.inverse"
    else "AbstractLinearOperator.inverse"
  r.method "inverse" == some expected

-- `+kernel`: the table is evaluated by the kernel only, not a first time by the elaborator
theorem inverse_resolution_pinned : ∀ r ∈ Generated.classTable, inverseResolutionOk r = true := by decide +kernel

/-- non-square operators are refused by the lazy inverse -/
theorem refuses_nonsquare (o : Op) (h : Op.inS o ≠ Op.outS o) : mkInverse o = .error .valueError := by
  simp [mkInverse, h]

/-- `A.I.I` is `A` for every lazy-inverse wrapper (`DiagonalInverseOperator`, the QU-rotation transpose, the
solver-based `InverseOperator`: `mkInverse` wraps `reduceTop A`, so its operand, which `.I` returns, is the
reduced `A`) -/
theorem inverse_of_lazy_inverse (u : Nat) (k : WrapCls) (o : Op)
    (hk : k = .diagInv ∨ k = .qurotT ∨ k = .inverse) : inverseOp (.wrap u k o) = .ok o := by
  rcases hk with rfl | rfl | rfl <;> simp [inverseOp]

/-- … and for the closed forms that create a wrapper: inverting twice gives back the very same operand -/
theorem inverse_inverse_diagonal (u : Nat) (p : Params) :
    (inverseOp (.leaf u .diagonal p)).bind inverseOp = .ok (.leaf u .diagonal p) := by
  simp [inverseOp, Except.bind]

theorem inverse_inverse_qurot (u : Nat) (p : Params) :
    (inverseOp (.leaf u .qurot p)).bind inverseOp = .ok (.leaf u .qurot p) := by
  simp [inverseOp, Except.bind]

theorem inverse_identity (u : Nat) (p : Params) : inverseOp (.leaf u .identity p) = .ok (.leaf u .identity p) := by
  simp [inverseOp]

/-- a non-zero scalar operator: `(1/k)·(k·x) = x = k·((1/k)·x)` and the inverse of the inverse has value `k` -/
theorem homothety_inverse {α} [Field α] (k x : α) (hk : k ≠ 0) :
    (1 / k) * (k * x) = x ∧ k * ((1 / k) * x) = x ∧ 1 / (1 / k) = k := by
  refine ⟨?_, ?_, one_div_one_div k⟩
  · rw [← mul_assoc, one_div, inv_mul_cancel₀ hk, one_mul]
  · rw [← mul_assoc, one_div, mul_inv_cancel₀ hk, one_mul]

/-- the block-diagonal inverse is taken block by block: `BD(A_i⁻¹) · BD(A_i) = BD(A_i⁻¹ A_i)` -/
theorem blockdiag_inverse_blockwise {W} (ls rs : List (BlockSem.Block W)) (h : BlockSem.Composable ls rs)
    (hr : BlockSem.AllHonest rs) (x : List W) (hx : x.length = (rs.map (·.cin)).sum) :
    BlockSem.denDiag ls (BlockSem.denDiag rs x) = BlockSem.denDiag (List.zipWith BlockSem.Block.comp ls rs) x :=
  C10.diag_diag_rule ls rs h hr x hx

/-- a block-diagonal operator with a non-square block falls back to the lazy inverse, which refuses it unless
the whole operator is square -/
theorem blockdiag_nonsquare_block_lazy (u : Nat) (td : TreeDef) (ops : List Op)
    (h : ops.all (fun b => Op.inS b == Op.outS b) = false) :
    inverseOp (.cont u .blockDiag td ops) = mkInverse (.cont u .blockDiag td ops) := by
  simp [inverseOp, h]

/-- orthogonal operators: `A.I` is `A.T` and `Aᵀ A = I` (QU rotation) -/
theorem rotation_inverse_is_transpose (a : ℝ) (x : SV ℝ) : C15.RT a (C15.R a x) = x := C15.RT_R_self a x

/-- axis permutations: the inverse (= transpose, source and destination swapped) restores shape and data -/
theorem moveaxis_inverse {α} [Inhabited α] (t t' : Tensor α) (src dst : List Int)
    (hwf : t.data.length = prodNat t.shape) (h : Axes.moveaxis t src dst = .ok t') :
    Axes.moveaxis t' dst src = .ok t := C13.moveaxis_transpose_is_inverse t t' src dst hwf h

/-- a diagonal operator with zero entries: the Moore–Penrose pseudo-inverse, no division by zero -/
theorem diagonal_pseudo_inverse (d : Rat) :
    d * (if d != 0 then 1 / d else 0) * d = d ∧
    (if d != 0 then 1 / d else 0) * d * (if d != 0 then 1 / d else 0) = (if d != 0 then 1 / d else 0) :=
  C11.pinv_moore_penrose d

/-! ### the closed statements, in the faithful list denotation (FuraxProofs/Sem) -/

/-- **`A.I(A(x)) = x = A(A.I(x))` for every operator with a closed-form inverse**: non-zero scalar, diagonal with
no zero entry, rotation, axis permutation, lazy-inverse wrappers, identity, and block-diagonal operators of such
blocks nested to any depth — where `A.I` is the FORM `inverseOp` builds (compared with furax by the
correspondence check) and both sides are evaluated in the list denotation. -/
theorem closed_form_inverse_inverts (E : ListSem.Env) (o i : Op) (h : ListSem.ClosedFormInvertible E o)
    (hi : inverseOp o = .ok i) :
    Op.inS i = Op.outS o ∧ Op.outS i = Op.inS o ∧
    (∀ x : List ℝ, x.length = Op.inSize o → ListSem.den E i (ListSem.den E o x) = x) ∧
    (∀ y : List ℝ, y.length = Op.outSize o → ListSem.den E o (ListSem.den E i y) = y) :=
  ListSem.inverseOp_inverts E o i h hi

/-- **a diagonal operator with zero entries yields the Moore–Penrose pseudo-inverse**: `D D⁺ D = D` and
`D⁺ D D⁺ = D⁺` for ARBITRARY diagonal values; the values of `D⁺` are `if d = 0 then 0 else 1/d`, no division by
zero occurs -/
theorem singular_diagonal_pseudo_inverse (E : ListSem.Env) (w u : Nat) (p : Params) (h : ListSem.diagonalOK p)
    (x : List ℝ) (hx : x.length = p.inS.size) :
    ListSem.den E (.leaf u .diagonal p) (ListSem.den E (.wrap w .diagInv (.leaf u .diagonal p))
        (ListSem.den E (.leaf u .diagonal p) x)) = ListSem.den E (.leaf u .diagonal p) x ∧
    ListSem.den E (.wrap w .diagInv (.leaf u .diagonal p)) (ListSem.den E (.leaf u .diagonal p)
        (ListSem.den E (.wrap w .diagInv (.leaf u .diagonal p)) x)) =
      ListSem.den E (.wrap w .diagInv (.leaf u .diagonal p)) x :=
  ListSem.diagonal_moore_penrose E w u p h x hx

/-- everything without a closed form goes to the lazy `InverseOperator`, which refuses non-square operands and,
for a valid operand that has an inverse, denotes it (A4: exact solver) -/
theorem no_closed_form_is_lazy (o : Op) (h : ListSem.hasClosedForm o = false) : inverseOp o = mkInverse o :=
  ListSem.inverseOp_lazy o h

theorem lazy_inverse_inverts (E : ListSem.Env) (o i : Op)
    (hw : WTExpr (ListSem.listArithSem E).invertible ListSem.listLeafOK o)
    (hinv : ∃ g, ListSem.IsInvOn (Op.inSize o) (ListSem.den E o) g) (hi : mkInverse o = .ok i) :
    ListSem.Inverts E o i :=
  ListSem.mkInverse_inverts E o i hw hinv hi

end Furax.C06
