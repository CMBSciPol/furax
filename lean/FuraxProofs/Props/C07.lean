/-
C07 — Reduction reaches the documented normal form in every context.

`normal_form` is the unbounded statement: for every chain (any length, any operands) the result of
`AlgebraicReductionRule.apply` has no adjacent pair on which any registered rule still fires and at most
one scalar factor.  The `*_fires` theorems show that the documented patterns are *not* irreducible (so the
normal-form statement really excludes them, wherever they stand), `*_never_survives` are the corollaries.
-/
import FuraxProofs.Lemmas.Nary
import FuraxProofs.Lemmas.ReduceEval
namespace Furax.C07
open Furax Op

/-- **Normal form, every chain, every context.** -/
theorem normal_form (red : Op → Except PyErr Op) (ops res : List Op)
    (hlen : 2 ≤ ops.length) (hres : algebraicReduction red ops = .ok res) :
    Irreducible (reductionCfg red) res ∧ (res.filter isHomothety).length ≤ 1 :=
  algebraicReduction_normal red ops res hlen hres

/-- the loop invariant behind it, for the generic scan: from any state whose prefix is irreducible -/
theorem scan_normal_form {O E} (c : Cfg O E) :
    ∀ fuel ops index res, IrrBelow c ops index → scan c fuel ops index = .ok (some res) →
      Irreducible c res := scan_irreducible c

/-- the scalar relocation never leaves more than one scalar operator -/
theorem at_most_one_scalar (ops : List Op) : ((homothetyRule ops).filter isHomothety).length ≤ 1 :=
  homothetyRule_homCount ops

/-- identity removal leaves no identity -/
theorem no_identity_left (ops : List Op) : ∀ o ∈ identityRule ops, o.isIdentity = false := by
  intro o ho
  simp only [identityRule, List.mem_filter] at ho
  simpa using ho.2

/-! ### the documented patterns are recognised (non-vacuity of `Irreducible`) -/

abbrev rules (red : Op → Except PyErr Op) := (reductionCfg red).rules

/-- polariser-then-HWP fires (and is rewritten to the polariser alone) -/
theorem polarizer_hwp_fires (red : Op → Except PyErr Op) (u u' : Nat) (p p' : Params) :
    fireFirst (rules red) (.leaf u .polarizer p) (.leaf u' .hwp p') =
      .ok (some (identityRule [.leaf u .polarizer p])) := by
  rw [rules, fireFirst_rules red (.inl rfl) (.inl ⟨rfl, rfl⟩) (.inl rfl) (.inl rfl) (.inl rfl) (.inl rfl)]
  rfl

/-- rotation-then-HWP fires: `R · HWP → HWP · Rᵀ` -/
theorem rotation_hwp_fires (red : Op → Except PyErr Op) (u u' : Nat) (p p' : Params) :
    fireFirst (rules red) (.leaf u .qurot p) (.leaf u' .hwp p') =
      .ok (some (identityRule [.leaf u' .hwp p', .wrap 0 .qurotT (.leaf u .qurot p)])) := by
  rw [rules, fireFirst_rules red (.inl rfl) (.inl ⟨rfl, rfl⟩) (.inl rfl) (.inl rfl) (.inl rfl) (.inl rfl)]
  rfl

/-- mutually inverse move-axis operators fire (rewritten to nothing) -/
theorem moveaxis_pair_fires (red : Op → Except PyErr Op) (u u' : Nat) (p p' : Params)
    (h1 : p.ints.getD 0 [] = p'.ints.getD 1 []) (h2 : p.ints.getD 1 [] = p'.ints.getD 0 []) :
    fireFirst (rules red) (.leaf u .moveAxis p) (.leaf u' .moveAxis p') = .ok (some []) := by
  have hm : moveAxisInverseRule.fire (.leaf u .moveAxis p) (.leaf u' .moveAxis p') = .ok (some []) := by
    simp only [moveAxisInverseRule, h1, h2]; simp
  exact (fireFirst_cons_none _ (dropIdentities_none rfl)).trans (fireFirst_cons_some _ (dropIdentities_some hm))

/-- a lazy inverse directly followed by its own operand (`wrap u k o`, then `o`) fires -/
theorem inverse_pair_fires_left (red : Op → Except PyErr Op) (u : Nat) (k : WrapCls) (o : Op)
    (hk : k = .inverse ∨ k = .qurotT ∨ k = .diagInv) (hu : o.uid ≠ 0) :
    fireFirst (rules red) (.wrap u k o) o = .ok (some []) := by
  have hs : same o o = true := by simp [same, hu, Op.beq_refl]
  have hl : isLazyInverse (.wrap u k o) = true := by rcases hk with rfl | rfl | rfl <;> rfl
  have hf : inverseBinaryRule.fire (.wrap u k o) o = .ok (some []) := by
    simp only [inverseBinaryRule, hl, operator?, hs, Bool.true_or, Bool.not_true, Bool.false_eq_true, if_false, if_true]
  exact fireFirst_cons_some _ (dropIdentities_some hf)

/-- corollary: in a reduced chain a polariser is never directly followed by a half-wave plate -/
theorem polarizer_hwp_never_survives (red : Op → Except PyErr Op) (ops res : List Op)
    (hlen : 2 ≤ ops.length) (hres : algebraicReduction red ops = .ok res)
    (i : Nat) (hi : i + 1 < res.length) (u u' : Nat) (p p' : Params)
    (hl : res[i] = .leaf u .polarizer p) (hr : res[i+1] = .leaf u' .hwp p') : False := by
  have h := (normal_form red ops res hlen hres).1 i hi
  rw [hl, hr, polarizer_hwp_fires] at h
  cases h

/-- corollary: in a reduced chain an operator never stands next to its own lazy inverse -/
theorem inverse_pair_never_survives (red : Op → Except PyErr Op) (ops res : List Op)
    (hlen : 2 ≤ ops.length) (hres : algebraicReduction red ops = .ok res)
    (i : Nat) (hi : i + 1 < res.length) (u : Nat) (k : WrapCls) (o : Op)
    (hk : k = .inverse ∨ k = .qurotT ∨ k = .diagInv) (hu : o.uid ≠ 0)
    (hl : res[i] = .wrap u k o) (hr : res[i+1] = o) : False := by
  have h := (normal_form red ops res hlen hres).1 i hi
  rw [hl, hr, inverse_pair_fires_left red u k o hk hu] at h
  cases h

end Furax.C07
