/-
C07, the side of the scalar factor: "... at most one scalar factor remains, placed on the side with fewer
elements."  From the closed form `homothetyRule_spec` of the scalar relocation (FuraxProofs/Lemmas/Nary.lean) and
the loop invariant of FuraxProofs/Lemmas/ScalarSide.lean.

* `scalar_relocation_*`  — `HomothetyRule.apply` alone, no hypothesis on the chain;
* `scalar_side`, `scalar_side_positions` — the whole `AlgebraicReductionRule.apply`, for chains of well-formed
  operands with matching adjacent structures and binary rules that preserve the outer structures of the pair they
  rewrite (`RuleTypedOn`; discharged from the leaf laws in `scalar_side_of_laws`, closed instance
  `scalar_side_structural`);
* `scalar_side_needs_typed_rules` — the hypothesis cannot be dropped (model-only witness).
-/
import FuraxProofs.Lemmas.ScalarSide
import FuraxProofs.Sem.ListModel
namespace Furax.C07
open Furax Op OpSem

/-- the scalar relocation keeps the non-scalar operands in their order -/
theorem scalar_relocation_keeps_order (ops : List Op) : strip (homothetyRule ops) = strip ops := by
  rcases homothetyRule_spec ops with ⟨_, he⟩ | ⟨_, h, hh, _, _, ⟨_, _, he⟩ | ⟨_, _, he⟩⟩ <;> rw [he]
  · rw [strip_cons_hom _ hh, strip_strip]
  · rw [strip_append, strip_strip, strip_cons_hom _ hh]
    exact List.append_nil _

/-- the result of the scalar relocation contains a scalar operator iff the chain does -/
theorem scalar_relocation_has_scalar_iff (ops : List Op) : NoHom (homothetyRule ops) ↔ NoHom ops := by
  rcases homothetyRule_spec ops with ⟨_, he⟩ | ⟨hn, h, hh, _, _, he⟩
  · rw [he]
  · have hm : h ∈ homothetyRule ops := by
      rcases he with ⟨_, _, he⟩ | ⟨_, _, he⟩ <;> rw [he] <;> simp
    exact ⟨fun hc => absurd (hc h hm) (by simp [hh]), fun hc => absurd hc hn⟩

/-- wide chain (`first.outSize ≤ last.inSize`): ONE scalar operator, of structure `outS first`, at the head -/
theorem scalar_relocation_left (ops : List Op) (first last : Op) (hlen : 2 ≤ ops.length)
    (hf : ops.head? = some first) (hl : ops.getLast? = some last) (hhom : ¬ NoHom ops)
    (hside : first.outSize ≤ last.inSize) :
    ∃ h : Op, h.isHomothety = true ∧ Op.outS h = Op.outS first ∧ Op.inS h = Op.outS first ∧
      homValue h = valProd ops ∧ NoHom (strip ops) ∧ homothetyRule ops = h :: strip ops := by
  have hout := outSHead_eq_head ops first hf
  rcases homothetyRule_spec ops with ⟨hn, _⟩ | ⟨_, h, hh, _, hv, ⟨_, ho, he⟩ | ⟨hns, _, _⟩⟩
  · exact absurd hn hhom
  · exact ⟨h, hh, ho.trans hout, by rw [homothety_square h hh, ho, hout], hv, NoHom_strip _, he⟩
  · rw [hout, inSLast_eq_last ops last hl] at hns
    exact absurd hside hns

/-- tall chain (`first.outSize > last.inSize`): ONE scalar operator, of structure `inS last`, at the end -/
theorem scalar_relocation_right (ops : List Op) (first last : Op) (hlen : 2 ≤ ops.length)
    (hf : ops.head? = some first) (hl : ops.getLast? = some last) (hhom : ¬ NoHom ops)
    (hside : ¬ first.outSize ≤ last.inSize) :
    ∃ h : Op, h.isHomothety = true ∧ Op.inS h = Op.inS last ∧ Op.outS h = Op.inS last ∧
      homValue h = valProd ops ∧ NoHom (strip ops) ∧ homothetyRule ops = strip ops ++ [h] := by
  have hin := inSLast_eq_last ops last hl
  rcases homothetyRule_spec ops with ⟨hn, _⟩ | ⟨_, h, hh, _, hv, ⟨hs, _, _⟩ | ⟨_, hi, he⟩⟩
  · exact absurd hn hhom
  · rw [outSHead_eq_head ops first hf, hin] at hs
    exact absurd hs hside
  · exact ⟨h, hh, hi.trans hin, by rw [← homothety_square h hh, hi, hin], hv, NoHom_strip _, he⟩

/-- chains of length < 2 are returned unchanged -/
theorem scalar_relocation_short (ops : List Op) (h : ops.length < 2) : homothetyRule ops = ops := by
  match ops, h with
  | [], _ => rfl
  | [o], _ => rfl

/-- **The scalar side after the whole reduction** (invariant form). -/
theorem scalar_side (P : Op → Prop) (red : Op → Except PyErr Op)
    (hr : ∀ ru ∈ binaryRules red, RuleTypedOn P ru)
    (hid : ∀ s, P (mkIdentity s)) (hhom : ∀ v s, P (mkHomothety v s))
    (ops res : List Op) (s t : Struct) (hP : ∀ o ∈ ops, P o) (hwt : Typed ops s t)
    (hres : algebraicReduction red ops = .ok res) :
    (∀ o ∈ res, P o) ∧ Typed res s t ∧ ScalarSide (t.size ≤ s.size) res :=
  algebraicReduction_ScalarSide P red hr hid hhom ops res s t hP hwt hres

/-- **The scalar side after the whole reduction** (positions, relative to the first/last operands of the input
chain and, equivalently, of the result). -/
theorem scalar_side_positions (P : Op → Prop) (red : Op → Except PyErr Op)
    (hr : ∀ ru ∈ binaryRules red, RuleTypedOn P ru)
    (hid : ∀ s, P (mkIdentity s)) (hhom : ∀ v s, P (mkHomothety v s))
    (ops res : List Op) (first last : Op) (hP : ∀ o ∈ ops, P o) (hc : Chain ops)
    (hf : ops.head? = some first) (hl : ops.getLast? = some last)
    (hres : algebraicReduction red ops = .ok res) :
    (res.filter isHomothety).length ≤ 1 ∧
    (∀ h ∈ res, h.isHomothety = true →
      (first.outSize ≤ last.inSize → res.head? = some h) ∧
      (¬ first.outSize ≤ last.inSize → res.getLast? = some h)) ∧
    (∀ first' last', res.head? = some first' → res.getLast? = some last' →
      Op.outS first' = Op.outS first ∧ Op.inS last' = Op.inS last) := by
  have hwt := Typed_of_Chain ops (by rintro rfl; simp at hf) hc
  rw [inSLast_eq_last ops last hl, outSHead_eq_head ops first hf] at hwt
  obtain ⟨_, w, sd⟩ := algebraicReduction_ScalarSide P red hr hid hhom ops res _ _ hP hwt hres
  refine ⟨sd.count_le, fun h hm hh => ⟨fun hle => sd.head hle h hm hh, fun hle => sd.last hle h hm hh⟩,
    fun first' last' hf' hl' => ?_⟩
  obtain ⟨h1, h2⟩ := Typed_ends res _ _ (by rintro rfl; simp at hf') w
  exact ⟨(outSHead_eq_head res first' hf').symm.trans h2, (inSLast_eq_last res last' hl').symm.trans h1⟩

/-- the hypothesis on the rules follows from the leaf laws (`RuleLaws`, `ContainerLaws`) for the recursive call
`reduce fuel` that `CompositionOperator.reduce` makes -/
theorem scalar_side_of_laws {V : Type} (A : ArithSem V) (laws : RuleLaws A) (extra : ContainerLaws A laws)
    (fuel : Nat) (ops res : List Op) (s t : Struct) (hP : ∀ o ∈ ops, laws.WT o) (hwt : Typed ops s t)
    (hres : algebraicReduction (reduce fuel) ops = .ok res) :
    (∀ o ∈ res, laws.WT o) ∧ Typed res s t ∧ ScalarSide (t.size ≤ s.size) res :=
  algebraicReduction_ScalarSide laws.WT (reduce fuel)
    (binaryRules_typed A laws (reduce fuel) (reduce_RedSound A laws extra fuel)) laws.WT_mkIdentity
    laws.WT_mkHomothety ops res s t hP hwt hres

/-- CLOSED, in the faithful list denotation of C01 (`Sem/ListModel.lean`): for every chain of valid operator
expressions (`listLeafOK`: what the constructors guarantee) whose adjacent structures match, whatever
`AlgebraicReductionRule.apply` returns is again a chain of valid expressions from `s` to `t` with at most one
scalar operator, standing at the head when the output has no more elements than the input (`t.size ≤ s.size`)
and at the end otherwise — no semantic hypothesis left -/
theorem scalar_side_closed (E : ListSem.Env) (fuel : Nat) (ops res : List Op) (s t : Struct)
    (hP : ∀ o ∈ ops, WTExpr (ListSem.listArithSem E).invertible ListSem.listLeafOK o) (hwt : Typed ops s t)
    (hres : algebraicReduction (reduce fuel) ops = .ok res) :
    (∀ o ∈ res, WTExpr (ListSem.listArithSem E).invertible ListSem.listLeafOK o) ∧ Typed res s t ∧
      ScalarSide (t.size ≤ s.size) res :=
  scalar_side_of_laws (ListSem.listArithSem E) (ListSem.listRuleLaws E) (ListSem.listContainerLaws E)
    fuel ops res s t hP hwt hres

/-- closed instance, no semantic hypothesis: for the purely structural well-formedness
`WTExpr (fun _ => True) zeroLeafOK` (lazy inverses wrap square operands, compositions are chains, containers fit,
move-axis leaves and index leaves without indexed axis are declared square — the leaf validity of the consistency
witness of FuraxProofs/Lemmas/RuleLawsModel.lean) -/
theorem scalar_side_structural (fuel : Nat) (ops res : List Op) (s t : Struct)
    (hP : ∀ o ∈ ops, WTExpr (fun _ => True) zeroLeafOK o) (hwt : Typed ops s t)
    (hres : algebraicReduction (reduce fuel) ops = .ok res) :
    (∀ o ∈ res, WTExpr (fun _ => True) zeroLeafOK o) ∧ Typed res s t ∧ ScalarSide (t.size ≤ s.size) res :=
  scalar_side_of_laws zeroArithSem zeroRuleLaws zeroContainerLaws fuel ops res s t hP hwt hres

/-- without the hypothesis on the rules the positional statement is false in the model (on operands no furax
constructor builds: a `DiagonalInverseOperator` of a non-square operand) -/
theorem scalar_side_needs_typed_rules :
    ¬ ∀ (ops res : List Op) (first last : Op), Chain ops → ops.head? = some first → ops.getLast? = some last →
      algebraicReduction (reduce 4) ops = .ok res →
      ∀ h ∈ res, h.isHomothety = true → first.outSize ≤ last.inSize → res.head? = some h := by
  -- on `wrongForInput` the scalar operator of the result is not its head, although
  -- `first.outSize = 1 ≤ 3 = last.inSize`
  intro hall
  have hv := ScalarSideEx.scalar_wrong_side_untyped_input
  cases hres : algebraicReduction (reduce 4) ScalarSideEx.wrongForInput with
  | error e => rw [hres] at hv; cases hv
  | ok res =>
    rw [hres] at hv
    simp only [ScalarSideEx.viewR, Option.some.injEq] at hv
    match res, hv with
    | [a, b, c], hv =>
      simp only [ScalarSideEx.view, List.map_cons, List.map_nil, List.cons.injEq, Prod.mk.injEq, and_true] at hv
      have hc : c.isHomothety = true := hv.2.2.1
      have ha : a.isHomothety = false := hv.1.1
      have := hall ScalarSideEx.wrongForInput [a, b, c] ScalarSideEx.B51 (ScalarSideEx.dense 27 5 3)
        ScalarSideEx.wrongForInput_adjacent rfl rfl hres c (by simp) hc (by decide)
      simp only [List.head?_cons, Option.some.injEq] at this
      rw [this, hc] at ha
      exact absurd ha (by simp)

/-- non-vacuity of `scalar_side_structural`: the chain `A⁻¹·A·2·B·R·Rᵀ` satisfies its hypotheses and is reduced
to `B·2` (scalar on the 3-element input side) -/
example : (∀ o ∈ ScalarSideEx.busy, WTExpr (fun _ => True) zeroLeafOK o) ∧
    Typed ScalarSideEx.busy (ScalarSideEx.sv 3) (ScalarSideEx.sv 7) := ScalarSideEx.busy_ok

end Furax.C07
