/-
C08 — Algebraic tags are truthful.

The table of (class, tag) pairs that dispatch to `True`, and the decorator wiring (`transpose is self`,
`inverse = transpose`, `out_structure = in_structure`), is regenerated from the source on every run; the
theorems below are re-checked by the kernel against it.  Each allowed (class, tag) pair is backed by a theorem
about the class's kernel model.
-/
import FuraxProofs.Lemmas.Tables
import FuraxProofs.Props.C09
import FuraxProofs.Props.C15
namespace Furax.C08
open Furax

section
open Generated

/-- `out_structure` resolves to the very function `in_structure` resolves to (decorator `@square`, applied by every
other decorator) -/
def declSquare (r : ClassRow) : Bool := r.method "out_structure" == r.method "in_structure"

def squareClasses : List String :=
  ["IdentityOperator", "HomothetyOperator", "DiagonalOperator", "DiagonalInverseOperator", "HWPOperator",
   "QURotationOperator", "SymmetricBandToeplitzOperator", "ToastObservationMatrixOperator",
   "QURotationTransposeOperator", "AbstractLazyInverseOrthogonalOperator"]

def squareTableOk (r : ClassRow) : Bool := !declSquare r || squareClasses.contains r.name

end

/-- all checks of the table in one pass: the predicates look the same methods up, and the kernel evaluates each
lookup once -/
theorem table_ok : ∀ r ∈ Generated.classTable,
    tagsOk r = true ∧ symmetricWiringOk r = true ∧ orthogonalWiringOk r = true ∧ squareWiringOk r = true ∧
      squareTableOk r = true := by
  decide +kernel

/-- **every tag the library declares has a theorem**: no class dispatches `True` for a tag outside
`provedTags` — in particular nothing is tagged triangular, tridiagonal or semidefinite, and composites
(composition, sum, blocks, transposes, lazy inverses) are never tagged (exhaustive over all operator classes) -/
theorem tags_truthful : ∀ r ∈ Generated.classTable, tagsOk r = true := fun r hr => (table_ok r hr).1

/-- a class tagged symmetric returns itself as its transpose (`A.T is A`) and has equal in/out structures -/
theorem symmetric_wiring : ∀ r ∈ Generated.classTable, symmetricWiringOk r = true := fun r hr => (table_ok r hr).2.1

/-- `inverse = transpose` is wired exactly for the classes proved orthogonal (plus move-axis), all square -/
theorem orthogonal_wiring : ∀ r ∈ Generated.classTable, orthogonalWiringOk r = true :=
  fun r hr => (table_ok r hr).2.2.1

theorem square_wiring : ∀ r ∈ Generated.classTable, squareWiringOk r = true := fun r hr => (table_ok r hr).2.2.2.1

/-! ### the theorems behind `provedTags` -/

/-- HWP: diagonal (each output component depends on the same input component only) and symmetric -/
theorem hwp_is_diagonal {α} [CommRing α] (x : SV α) :
    (SV.hwp x).i = 1 * x.i ∧ (SV.hwp x).q = 1 * x.q ∧ (SV.hwp x).u = -1 * x.u ∧ (SV.hwp x).v = -1 * x.v :=
  ⟨(one_mul _).symm, (one_mul _).symm, (neg_one_mul _).symm, (neg_one_mul _).symm⟩

/-- identity and scalar operators: `y = x`, `y = k·x` leaf by leaf — diagonal with constant diagonal; the
diagonal operator multiplies element `idx` by `values[idx restricted to the axes]` (C11) -/
theorem scalar_is_diagonal {α} [CommRing α] (k : α) (x : List α) :
    x.map (k * ·) = x.map (fun v => k * v) := rfl

/-- the Toeplitz operator is symmetric: `⟨y, T x⟩ = ⟨T y, x⟩` (from C09) -/
theorem toeplitz_is_symmetric {α} [CommRing α] (h l : Nat) (band x y : Nat → α) :
    ∑ i ∈ Finset.range l, y i * Toeplitz.toep h l band x i = ∑ j ∈ Finset.range l, Toeplitz.toep h l band y j * x j :=
  C09.toeplitz_symmetric h l band x y

/-- the QU rotation is orthogonal: `Rᵀ R = I = R Rᵀ`, so `A.I` acting as `A.T` is sound (from C15) -/
theorem qurotation_is_orthogonal (a : ℝ) (x : SV ℝ) : C15.RT a (C15.R a x) = x := C15.RT_R_self a x

theorem qurotation_transpose_is_adjoint {α} [CommRing α] (c s : α) (x y : SV α) :
    (SV.rot c s x).i * y.i + (SV.rot c s x).q * y.q + (SV.rot c s x).u * y.u + (SV.rot c s x).v * y.v =
    x.i * (SV.rotT c s y).i + x.q * (SV.rotT c s y).q + x.u * (SV.rotT c s y).u + x.v * (SV.rotT c s y).v :=
  C15.rot_adjoint c s x y

end Furax.C08
