/-
C08 — Algebraic tags are truthful IN THE CLOSED DENOTATION.

FuraxProofs/Props/C08.lean proves facts about the TABLE regenerated from the Python source (`Generated.classTable`)
and, separately, facts about the kernels.  Here the two are tied together through the closed denotation `den E o` /
`denT E o` of operator expressions on flattened pytrees (FuraxProofs/Sem/ListSem.lean), its adjointness theorem
(FuraxProofs/Sem/AdjointList.lean) and the bridge to Mathlib matrices `asMatrix` (FuraxProofs/Sem/LinearList.lean):

every class the table tags `is_symmetric` is a symmetric map with a symmetric matrix (`SemSymmetric`), every class
tagged `is_diagonal` is the entry-wise product with one vector (`SemDiagonal`), every class whose `inverse` resolves
to its `transpose` is orthogonal (`SemOrthogonal`), every class whose `out_structure` resolves to its
`in_structure` is square.  `C08.tags_truthful_closed` is ONE theorem quantifying over the generated table; it fails
to compile when the Python source declares a tag (or a decorator wiring) for which no semantic lemma exists: a new
tag NAME makes `TagSem` `False`, a newly tagged CLASS falls out of `provedTags` / the class lists of this file, which
are checked against the regenerated table by `decide`, and a tagged class the model does not know is caught by
`declared_classes_modelled`.  Negative facts (kernel-checked witnesses): `QURotationOperator` is not symmetric,
`IndexOperator` is neither diagonal nor symmetric, and neither is tagged.

The hypothesis of `tags_truthful_closed` is `TagValid E o` (named below): the well-formedness predicate of the closed theorems
WITHOUT the invertibility part (`WTExpr (fun _ => True) listLeafOK`), `TFormOK` (a `DiagonalInverseOperator` wraps a
`DiagonalOperator`, which is all its constructor accepts — NEEDED: `ListSem.DiagInvCounterexample`), and, for
the leaves the denotation leaves to the environment (among the tagged classes only a Toeplitz leaf whose band array
has rank 0, `Negative.toeplitz_rank0_needs_env`), `EnvAdjOn` / `EnvSymOn`.  The
per-class theorems of FuraxProofs/Sem/TagsList.lean carry the weakest hypothesis of each class.
-/
import FuraxProofs.Sem.TagsList
import FuraxProofs.Props.C08
namespace Furax.C08
open Furax Op ListSem Generated

/-- the row is tagged `is_symmetric` (decorators `@symmetric`, `@diagonal`) -/
def declSymmetric (r : ClassRow) : Bool := r.tagsTrue.contains "is_symmetric"

/-- the row is tagged `is_diagonal` (decorator `@diagonal`) -/
def declDiagonal (r : ClassRow) : Bool := r.tagsTrue.contains "is_diagonal"

/-- `inverse` resolves to the very function `transpose` resolves to (decorator `@orthogonal`, or the class sets
`inverse = transpose` itself: `MoveAxisOperator`) — the `wired` of `orthogonalWiringOk` -/
def declOrthogonal (r : ClassRow) : Bool := r.method "inverse" == r.method "transpose" && !r.abstract

/-- **the hypothesis of the summary theorem**:
* `WTExpr (fun _ => True) listLeafOK o` — the well-formedness predicate of the closed theorems
  (`ListSem.reduce_sound_closed`), without its invertibility part: every leaf passed its constructor's validation
  (`listLeafOK`), every wrapper and container is structurally well formed;
* `TFormOK o` — a `DiagonalInverseOperator` wraps a `DiagonalOperator` leaf;
* `EnvAdjOn E o`, `EnvSymOn E o` — the maps of the environment standing for the leaves the denotation does not
  interpret are adjoint, and equal for Toeplitz leaves with a band array of rank 0; no constraint on any other
  leaf. -/
def TagValid (E : Env) (o : Op) : Prop :=
  WTExpr (fun _ => True) listLeafOK o ∧ TFormOK o ∧ EnvAdjOn E o ∧ EnvSymOn E o

/-- the hypothesis of the closed soundness theorem of `reduce()` implies the first component -/
theorem wt_of_closed (E : Env) (o : Op) (h : WTExpr (listArithSem E).invertible listLeafOK o) :
    WTExpr (fun _ => True) listLeafOK o :=
  WTExpr_mono (fun _ _ => trivial) (fun _ _ h => h) o h

/-- **what a lineax tag means for an expression**; a tag without a semantic statement means `False` -/
def TagSem (E : Env) (tag : String) (o : Op) : Prop :=
  if tag = "is_symmetric" then SemSymmetric E o
  else if tag = "is_diagonal" then SemDiagonal E o
  else False

theorem tagSem_symmetric (E : Env) (o : Op) : TagSem E "is_symmetric" o = SemSymmetric E o := if_pos rfl

theorem tagSem_diagonal (E : Env) (o : Op) : TagSem E "is_diagonal" o = SemDiagonal E o := by
  rw [TagSem, if_neg (by simp), if_pos rfl]

def symmetricClasses : List String :=
  ["IdentityOperator", "HomothetyOperator", "DiagonalOperator", "DiagonalInverseOperator", "HWPOperator",
   "SymmetricBandToeplitzOperator"]

def diagonalClasses : List String :=
  ["IdentityOperator", "HomothetyOperator", "DiagonalOperator", "DiagonalInverseOperator", "HWPOperator"]

def orthogonalClasses : List String :=
  ["IdentityOperator", "QURotationOperator", "QURotationTransposeOperator", "AbstractLazyInverseOrthogonalOperator",
   "MoveAxisOperator"]

/-- `AbstractLazyInverseOrthogonalOperator` (the base class of `QURotationTransposeOperator`, never instantiated by
furax itself) is the only class with a declaration that the model has no constructor for -/
theorem clsName_ne_abstractOrthogonal (o : Op) : o.clsName ≠ "AbstractLazyInverseOrthogonalOperator" :=
  fun h => (by decide +kernel : "AbstractLazyInverseOrthogonalOperator" ∉ classNames) (h ▸ o.clsName_mem)

theorem valid_diagInv {E : Env} {w : Nat} {o' : Op} (hv : TagValid E (.wrap w .diagInv o')) :
    ∃ u p, o' = .leaf u .diagonal p ∧ diagonalOK p := by
  obtain ⟨hwt, hf, -, -⟩ := hv
  obtain ⟨u, p, rfl⟩ := hf rfl
  simp only [WTExpr] at hwt
  exact ⟨u, p, rfl, hwt.1⟩

theorem valid_qurotT {E : Env} {w : Nat} {o' : Op} (hv : TagValid E (.wrap w .qurotT o')) :
    ∃ u p, o' = .leaf u .qurot p ∧ stokesOK .qurot p := by
  obtain ⟨hwt, -, -, -⟩ := hv
  simp only [WTExpr] at hwt
  obtain ⟨u, p, rfl⟩ := isLeafCls_iff.mp (hwt.2.2.1 rfl)
  exact ⟨u, p, rfl, hwt.1⟩

/-- every well-formed operator of a class tagged `is_symmetric` is symmetric in the closed denotation -/
theorem symmetric_classes (E : Env) (name : String) (hn : name ∈ symmetricClasses) (o : Op)
    (ho : o.clsName = name) (hv : TagValid E o) : SemSymmetric E o := by
  simp only [symmetricClasses, List.mem_cons, List.not_mem_nil, or_false] at hn
  rcases hn with rfl | rfl | rfl | rfl | rfl | rfl
  · obtain ⟨u, p, rfl⟩ := Op.clsName_eq_leaf (c := .identity) ho
    exact identity_symmetric E u p
  · obtain ⟨u, p, rfl⟩ := Op.clsName_eq_leaf (c := .homothety) ho
    exact homothety_symmetric E u p
  · obtain ⟨u, p, rfl⟩ := Op.clsName_eq_leaf (c := .diagonal) ho
    exact diagonal_symmetric E u p
  · obtain ⟨w, o', rfl⟩ := Op.clsName_eq_wrap (k := .diagInv) ho
    obtain ⟨u, p, rfl, -⟩ := valid_diagInv hv
    exact diagInv_symmetric E w u p
  · obtain ⟨u, p, rfl⟩ := Op.clsName_eq_leaf (c := .hwp) ho
    exact hwp_symmetric E u p hv.1
  · obtain ⟨u, p, rfl⟩ := Op.clsName_eq_leaf (c := .toeplitz) ho
    obtain ⟨-, -, hA, hS⟩ := hv
    exact toeplitz_symmetric E u p (fun hK => hS rfl hK) (fun hK => hA (by simp [isEnvLeaf, hK]))

/-- **(a′) `A.T.mv` IS `A.mv`, as functions on all inputs**, without any hypothesis on the parameters, for the
symmetric classes the denotation interprets by a kernel: identity, scalar, diagonal, half-wave plate, Toeplitz with a
band array of rank at least 1, and `DiagonalInverseOperator(DiagonalOperator)` -/
theorem symmetric_transpose_map_is_map (E : Env) (u : Nat) (p : Params) :
    denT E (.leaf u .identity p) = den E (.leaf u .identity p) ∧
    denT E (.leaf u .homothety p) = den E (.leaf u .homothety p) ∧
    denT E (.leaf u .diagonal p) = den E (.leaf u .diagonal p) ∧
    denT E (.leaf u .hwp p) = den E (.leaf u .hwp p) ∧
    (toepK p.vals ≠ none → denT E (.leaf u .toeplitz p) = den E (.leaf u .toeplitz p)) ∧
    ∀ w, denT E (.wrap w .diagInv (.leaf u .diagonal p)) = den E (.wrap w .diagInv (.leaf u .diagonal p)) :=
  ⟨denT_eq_den_leaf E u _ p (.inl rfl), denT_eq_den_leaf E u _ p (.inr (.inl rfl)),
   denT_eq_den_leaf E u _ p (.inr (.inr (.inl rfl))), denT_eq_den_leaf E u _ p (.inr (.inr (.inr rfl))),
   denT_toeplitz_eq_den E u p, fun w => denT_eq_den_diagInv E w u p⟩

/-- every well-formed operator of a class tagged `is_diagonal` is an entry-wise product -/
theorem diagonal_classes (E : Env) (name : String) (hn : name ∈ diagonalClasses) (o : Op)
    (ho : o.clsName = name) (hv : TagValid E o) : SemDiagonal E o := by
  simp only [diagonalClasses, List.mem_cons, List.not_mem_nil, or_false] at hn
  rcases hn with rfl | rfl | rfl | rfl | rfl
  · obtain ⟨u, p, rfl⟩ := Op.clsName_eq_leaf (c := .identity) ho
    exact identity_diagonal E u p
  · obtain ⟨u, p, rfl⟩ := Op.clsName_eq_leaf (c := .homothety) ho
    exact homothety_diagonal E u p
  · obtain ⟨u, p, rfl⟩ := Op.clsName_eq_leaf (c := .diagonal) ho
    exact diagonal_diagonal E u p hv.1
  · obtain ⟨w, o', rfl⟩ := Op.clsName_eq_wrap (k := .diagInv) ho
    obtain ⟨u, p, rfl, hp⟩ := valid_diagInv hv
    exact diagInv_diagonal E w u p hp
  · obtain ⟨u, p, rfl⟩ := Op.clsName_eq_leaf (c := .hwp) ho
    exact hwp_diagonal E u p hv.1

/-- every well-formed operator of a class whose `inverse` IS its `transpose` is orthogonal -/
theorem orthogonal_classes (E : Env) (name : String) (hn : name ∈ orthogonalClasses) (o : Op)
    (ho : o.clsName = name) (hv : TagValid E o) : SemOrthogonal E o := by
  simp only [orthogonalClasses, List.mem_cons, List.not_mem_nil, or_false] at hn
  rcases hn with rfl | rfl | rfl | rfl | rfl
  · obtain ⟨u, p, rfl⟩ := Op.clsName_eq_leaf (c := .identity) ho
    exact identity_orthogonal E u p
  · obtain ⟨u, p, rfl⟩ := Op.clsName_eq_leaf (c := .qurot) ho
    exact qurot_orthogonal E u p hv.1
  · obtain ⟨w, o', rfl⟩ := Op.clsName_eq_wrap (k := .qurotT) ho
    obtain ⟨u, p, rfl, hp⟩ := valid_qurotT hv
    exact qurotT_orthogonal E w u p hp
  · exact absurd ho (clsName_ne_abstractOrthogonal o)
  · obtain ⟨u, p, rfl⟩ := Op.clsName_eq_leaf (c := .moveAxis) ho
    exact moveAxis_orthogonal E u p hv.1

/-- every structurally well-formed operator (`StructOK`: only used for `QURotationTransposeOperator`, whose
structures are those of its operand, swapped) of a class whose `out_structure` IS its `in_structure` is square -/
theorem square_classes (name : String) (hn : name ∈ squareClasses) (o : Op)
    (ho : o.clsName = name) (hs : StructOK o) : Op.outS o = Op.inS o := by
  simp only [squareClasses, List.mem_cons, List.not_mem_nil, or_false] at hn
  rcases hn with rfl | rfl | rfl | rfl | rfl | rfl | rfl | rfl | rfl | rfl
  · obtain ⟨u, p, rfl⟩ := Op.clsName_eq_leaf (c := .identity) ho; rfl
  · obtain ⟨u, p, rfl⟩ := Op.clsName_eq_leaf (c := .homothety) ho; rfl
  · obtain ⟨u, p, rfl⟩ := Op.clsName_eq_leaf (c := .diagonal) ho; rfl
  · obtain ⟨w, o', rfl⟩ := Op.clsName_eq_wrap (k := .diagInv) ho; rfl
  · obtain ⟨u, p, rfl⟩ := Op.clsName_eq_leaf (c := .hwp) ho; rfl
  · obtain ⟨u, p, rfl⟩ := Op.clsName_eq_leaf (c := .qurot) ho; rfl
  · obtain ⟨u, p, rfl⟩ := Op.clsName_eq_leaf (c := .toeplitz) ho; rfl
  · obtain ⟨u, p, rfl⟩ := Op.clsName_eq_leaf (c := .obsMatrix) ho; rfl
  · obtain ⟨w, o', rfl⟩ := Op.clsName_eq_wrap (k := .qurotT) ho
    have hsq : Op.inS o' = Op.outS o' := (((StructOK_wrap_iff w _ o').mp hs).2.1 (.inr (.inl rfl))).1
    exact hsq
  · exact absurd ho (clsName_ne_abstractOrthogonal o)

-- `symmetricClasses` is written out as a literal; it unfolds to `diagonalClasses ++ ["SymmetricBandToeplitzOperator"]`
-- (the two literals are definitionally equal), which is what lets `List.mem_append_left` type-check here
theorem diagonal_sub_symmetric {n : String} (h : n ∈ diagonalClasses) : n ∈ symmetricClasses :=
  List.mem_append_left ["SymmetricBandToeplitzOperator"] h

/-- the classes `provedTags` (FuraxProofs/Lemmas/Tables.lean, checked against the regenerated table by
`C08.tags_truthful`) allows a tag for are the classes of the lists above -/
theorem provedTags_sound (name tag : String) (h : tag ∈ provedTags name) :
    (tag = "is_symmetric" ∧ name ∈ symmetricClasses) ∨ (tag = "is_diagonal" ∧ name ∈ diagonalClasses) := by
  unfold provedTags at h
  split at h
  · rename_i h1
    have hm : name ∈ diagonalClasses := List.contains_iff_mem.mp h1
    simp only [List.mem_cons, List.not_mem_nil, or_false] at h
    rcases h with rfl | rfl
    · exact .inr ⟨rfl, hm⟩
    · exact .inl ⟨rfl, diagonal_sub_symmetric hm⟩
  · split at h
    · rename_i h2
      simp only [List.mem_cons, List.not_mem_nil, or_false] at h
      subst h
      exact .inl ⟨rfl, List.mem_append_right diagonalClasses (List.mem_singleton.mpr (eq_of_beq h2))⟩
    · cases h

/-- `declOrthogonal` is the `wired` of `orthogonalWiringOk`, whose expected classes are `orthogonalClasses` -/
theorem orthogonal_table (r : ClassRow) (hr : r ∈ classTable) (h : declOrthogonal r = true) :
    r.name ∈ orthogonalClasses := by
  have hw := orthogonal_wiring r hr
  unfold orthogonalWiringOk at hw
  simp only [Bool.and_eq_true] at hw
  have h1 := hw.1
  unfold declOrthogonal at h
  rw [h] at h1
  simpa [orthogonalClasses] using h1

/-- the classes whose `out_structure` resolves to their `in_structure` are `squareClasses` -/
theorem square_table : ∀ r ∈ classTable, squareTableOk r = true := fun r hr => (table_ok r hr).2.2.2.2

theorem square_mem (r : ClassRow) (hr : r ∈ classTable) (h : declSquare r = true) : r.name ∈ squareClasses := by
  have hs := square_table r hr
  rw [squareTableOk, h] at hs
  exact List.contains_iff_mem.mp hs

theorem tag_proved (r : ClassRow) (hr : r ∈ classTable) {tag : String} (ht : tag ∈ r.tagsTrue) :
    (tag = "is_symmetric" ∧ r.name ∈ symmetricClasses) ∨ (tag = "is_diagonal" ∧ r.name ∈ diagonalClasses) :=
  provedTags_sound r.name tag (List.contains_iff_mem.mp (List.all_eq_true.mp (tags_truthful r hr) tag ht))

theorem not_tagged (r : ClassRow) (hr : r ∈ classTable) (h : r.name ∉ symmetricClasses) : r.tagsTrue = [] :=
  List.eq_nil_iff_forall_not_mem.mpr fun _ ht => h <| by
    rcases tag_proved r hr ht with ⟨-, hn⟩ | ⟨-, hn⟩
    · exact hn
    · exact diagonal_sub_symmetric hn

/-- every class with a declaration is a class of the model (`LeafCls.ofName?` / `WrapCls.ofName?` of
FuraxModel/Codec.lean: the names the harness encodes with), except `AbstractLazyInverseOrthogonalOperator` -/
def modelledOk (r : ClassRow) : Bool :=
  !(r.tagsTrue != [] || declOrthogonal r || declSquare r) ||
    (LeafCls.ofName? r.name).isSome || (WrapCls.ofName? r.name).isSome ||
    r.name == "AbstractLazyInverseOrthogonalOperator"

/-- the name is that of a class of the model, or of the abstract base class the model has no constructor for -/
def nameModelled (n : String) : Bool :=
  (LeafCls.ofName? n).isSome || ((WrapCls.ofName? n).isSome || n == "AbstractLazyInverseOrthogonalOperator")

/-- the classes of the three lists, each with its constructor in the model -/
theorem modelled_name {n : String} (h : n ∈ symmetricClasses ∨ n ∈ orthogonalClasses ∨ n ∈ squareClasses) :
    nameModelled n = true := by
  have L : ∀ c : LeafCls, nameModelled c.name = true := fun c =>
    Bool.or_eq_true_iff.mpr (.inl (List.find?_isSome.mpr ⟨c, c.mem_all, beq_self_eq_true _⟩))
  have W : ∀ k : WrapCls, nameModelled k.name = true := fun k =>
    Bool.or_eq_true_iff.mpr (.inr (Bool.or_eq_true_iff.mpr (.inl
      (List.find?_isSome.mpr ⟨k, k.mem_all, beq_self_eq_true _⟩))))
  have A : nameModelled "AbstractLazyInverseOrthogonalOperator" = true := by
    rw [nameModelled, beq_self_eq_true, Bool.or_true, Bool.or_true]
  rcases h with h | h | h
  · simp only [symmetricClasses, List.mem_cons, List.not_mem_nil, or_false] at h
    rcases h with rfl | rfl | rfl | rfl | rfl | rfl
    exacts [L .identity, L .homothety, L .diagonal, W .diagInv, L .hwp, L .toeplitz]
  · simp only [orthogonalClasses, List.mem_cons, List.not_mem_nil, or_false] at h
    rcases h with rfl | rfl | rfl | rfl | rfl
    exacts [L .identity, L .qurot, W .qurotT, A, L .moveAxis]
  · simp only [squareClasses, List.mem_cons, List.not_mem_nil, or_false] at h
    rcases h with rfl | rfl | rfl | rfl | rfl | rfl | rfl | rfl | rfl | rfl
    exacts [L .identity, L .homothety, L .diagonal, W .diagInv, L .hwp, L .qurot, L .toeplitz, L .obsMatrix,
      W .qurotT, A]

theorem declared_classes_modelled : ∀ r ∈ classTable, modelledOk r = true := by
  intro r hr
  rw [modelledOk, Bool.or_assoc, Bool.or_assoc]
  by_cases hd : (r.tagsTrue != [] || declOrthogonal r || declSquare r) = true
  · refine Bool.or_eq_true_iff.mpr (.inr (modelled_name ?_))
    simp only [Bool.or_eq_true, bne_iff_ne] at hd
    rcases hd with (ht | ho) | hs
    · exact .inl (Decidable.not_not.mp fun h => ht (not_tagged r hr h))
    · exact .inr (.inl (orthogonal_table r hr ho))
    · exact .inr (.inr (square_mem r hr hs))
  · rw [(Bool.not_eq_true _).mp hd]
    rfl

/-- **the algebraic tags are truthful in the closed denotation.**  For every row `r` of the table regenerated
from the Python source and every well-formed operator expression `o` of the class of that row (`TagValid E o`), in
every environment `E` of the uninterpreted leaves:
* for every lineax tag the row declares, the semantic statement of that tag holds of `o` (`TagSem`: `is_symmetric`
  means `SemSymmetric`, `is_diagonal` means `SemDiagonal`, any other tag means `False`);
* if `inverse` resolves to `transpose` for the row, `o` is orthogonal (`SemOrthogonal`), `op.I` being the form `op.T`;
* if `out_structure` resolves to `in_structure` for the row, `o` is square. -/
theorem tags_truthful_closed (E : Env) : ∀ r ∈ classTable, ∀ o : Op, o.clsName = r.name → TagValid E o →
    (∀ tag ∈ r.tagsTrue, TagSem E tag o) ∧
    (declOrthogonal r = true → SemOrthogonal E o) ∧
    (declSquare r = true → Op.outS o = Op.inS o) := by
  intro r hr o ho hv
  refine ⟨fun tag ht => ?_, fun h => ?_, fun h => ?_⟩
  · rcases tag_proved r hr ht with ⟨rfl, hn⟩ | ⟨rfl, hn⟩
    · rw [tagSem_symmetric]
      exact symmetric_classes E r.name hn o ho hv
    · rw [tagSem_diagonal]
      exact diagonal_classes E r.name hn o ho hv
  · exact orthogonal_classes E r.name (orthogonal_table r hr h) o ho hv
  · exact square_classes r.name (square_mem r hr h) o ho hv.1.structOK

/-- read off `tags_truthful_closed`: every row tagged `is_symmetric` -/
theorem symmetric_rows (E : Env) : ∀ r ∈ classTable, declSymmetric r = true → ∀ o : Op, o.clsName = r.name →
    TagValid E o → SemSymmetric E o := by
  intro r hr h o ho hv
  rw [← tagSem_symmetric]
  exact (tags_truthful_closed E r hr o ho hv).1 _ (List.contains_iff_mem.mp h)

/-- read off `tags_truthful_closed`: every row tagged `is_diagonal` -/
theorem diagonal_rows (E : Env) : ∀ r ∈ classTable, declDiagonal r = true → ∀ o : Op, o.clsName = r.name →
    TagValid E o → SemDiagonal E o := by
  intro r hr h o ho hv
  rw [← tagSem_diagonal]
  exact (tags_truthful_closed E r hr o ho hv).1 _ (List.contains_iff_mem.mp h)

/-- the table declares nothing but these two lineax tags (anything else would make `TagSem` false) -/
theorem only_two_tags : ∀ r ∈ classTable, ∀ tag ∈ r.tagsTrue, tag = "is_symmetric" ∨ tag = "is_diagonal" := by
  intro r hr tag ht
  rcases tag_proved r hr ht with ⟨h, -⟩ | ⟨h, -⟩
  · exact .inl h
  · exact .inr h

/-- a leaf the denotation interprets by a kernel, with valid parameters, satisfies the hypothesis of the summary
theorem in every environment -/
theorem tagValid_leaf (E : Env) (u : Nat) (c : LeafCls) (p : Params) (hok : listLeafOK c p) (hd : c ≠ .dense)
    (he : isEnvLeaf c p = false) : TagValid E (.leaf u c p) :=
  ⟨hok, fun h => absurd h hd, envAdjOn_of_noEnvLeaf E _ he, envSymOn_of_noEnvLeaf E _ he⟩

/-! ### negative facts -/

namespace Negative

/-! #### `QURotationOperator` is orthogonal but NOT symmetric, and is not tagged symmetric -/

def qu1 : Struct := ⟨[.node "stokes:QU" 2, .leaf, .leaf], [⟨[1], .f64⟩, ⟨[1], .f64⟩]⟩
/-- one QU sample rotated by the angle `1` (radian) -/
def rotW : Params := { inS := qu1, outS := qu1, vals := ⟨[1], [1]⟩ }
def rotOp : Op := .leaf 1 .qurot rotW

theorem rotW_ok : stokesOK .qurot rotW :=
  ⟨⟨.QU, rfl⟩, by decide, fun _ => ⟨rfl, by decide⟩, fun h => by cases h⟩

theorem rotOp_valid (E : Env) : TagValid E rotOp := by
  exact tagValid_leaf E 1 _ rotW rotW_ok (by simp) rfl

theorem angle_rotW : angleAt rotW.vals (leafShape rotW) 0 = 1 := by
  rw [angleAt_eq _ _ _ rfl (by decide) (by decide)]
  have : angleQ rotW.vals (leafShape rotW) 0 = 1 := rfl
  rw [this]
  norm_num

theorem den_rotOp (E : Env) (q u : ℝ) :
    den E rotOp [q, u] = [q * Real.cos 2 - u * Real.sin 2, q * Real.sin 2 + u * Real.cos 2] := by
  have hk : kindOf rotW.inS.leaves.length = some .QU := rfl
  rw [rotOp, den_qurot E 1 rotW_ok hk [q, u] rfl]
  have hn : prodNat (leafShape rotW) = 1 := rfl
  rw [hn]
  simp [stokesMap_eq, svAt, ncomp, chunks, headChunk, fit, SV.present, SV.ofPresent, rotG, angle_rotW, SV.rot,
    List.range_succ]

theorem sin_two_pos : 0 < Real.sin 2 :=
  Real.sin_pos_of_pos_of_le_two (by norm_num) le_rfl

/-- **a rotation is not self-adjoint**: `⟨R e₁, e₂⟩ = sin 2 ≠ −sin 2 = ⟨e₁, R e₂⟩` -/
theorem qurot_not_selfAdjoint (E : Env) : dot (den E rotOp [1, 0]) [0, 1] ≠ dot [1, 0] (den E rotOp [0, 1]) := by
  rw [den_rotOp, den_rotOp]
  have := sin_two_pos
  simp [dot]
  linarith

/-- **`QURotationOperator` is NOT symmetric** (a valid instance on which every clause about the map fails), although it
is orthogonal; `op.T` is not `op` either -/
theorem qurot_not_symmetric (E : Env) :
    TagValid E rotOp ∧ SemOrthogonal E rotOp ∧ ¬ SemSymmetric E rotOp ∧ transposeOp rotOp ≠ .ok rotOp := by
  refine ⟨rotOp_valid E, qurot_orthogonal E 1 rotW rotW_ok, fun h => ?_, by simp [rotOp, transposeOp, isSymmetricLeaf]⟩
  exact qurot_not_selfAdjoint E (h.selfAdjoint [1, 0] [0, 1] rfl rfl)

/-- … and the table does not tag it -/
theorem qurot_not_tagged : ∀ r ∈ classTable, r.name = "QURotationOperator" → r.tagsTrue = [] :=
  fun r hr hn => not_tagged r hr (by simp [hn, symmetricClasses])

/-! #### `IndexOperator` is neither diagonal nor symmetric, and is not tagged -/

open DiagInvCounterexample in
theorem cyc_valid (E : Env) : TagValid E cyc := by
  refine tagValid_leaf E 1 _ cycP
    ⟨⟨rfl, .cons ⟨[1, 2, 0], by decide, by decide, fun _ => by decide, rfl⟩ .nil⟩, ?_, ?_⟩ (by simp) rfl
  · intro sh vals h
    simp only [cycP, List.mem_singleton, IdxEntry.iarr.injEq] at h
    obtain ⟨rfl, rfl⟩ := h
    rfl
  · intro axis ha sh vals hget l hl n hn i hi
    have h0 : indexedAxes cycP.idx = [0] := by decide
    rw [h0, List.mem_singleton] at ha
    subst ha
    have h1 : pyGet? cycP.idx 0 = some (.iarr [3] [1, 2, 0]) := by decide
    rw [h1] at hget
    simp only [Option.some.injEq, IdxEntry.iarr.injEq] at hget
    obtain ⟨rfl, rfl⟩ := hget
    simp only [cycP, s3, List.mem_singleton] at hl
    subst hl
    have h2 : pyGet? [3] (0 : Int) = some 3 := by decide
    rw [h2] at hn
    cases hn
    simp only [List.mem_cons, List.not_mem_nil, or_false] at hi
    rcases hi with rfl | rfl | rfl <;> decide

open DiagInvCounterexample in
/-- **`IndexOperator` is NOT diagonal and NOT symmetric**: the cyclic shift of ℝ³, a valid index operator with equal
input and output structures -/
theorem index_not_diagonal_nor_symmetric (E : Env) :
    TagValid E cyc ∧ Op.outS cyc = Op.inS cyc ∧ ¬ SemDiagonal E cyc ∧ ¬ SemSymmetric E cyc := by
  refine ⟨cyc_valid E, rfl, fun h => ?_, fun h => ?_⟩
  · obtain ⟨d, hd, hz, -⟩ := h.diag
    obtain ⟨a, b, c, rfl⟩ := len3 (x := d) hd
    have := hz [1, 0, 0] rfl
    rw [den_cyc] at this
    simp at this
  · have := h.denT_eq [1, 0, 0] rfl
    rw [den_cyc, denT_cyc] at this
    simp at this

theorem index_not_tagged : ∀ r ∈ classTable, r.name = "IndexOperator" → r.tagsTrue = [] :=
  fun r hr hn => not_tagged r hr (by simp [hn, symmetricClasses])

/-- `BroadcastDiagonalOperator` (a diagonal that may CHANGE the shape: not square in general) is not tagged either -/
theorem broadcastDiagonal_not_tagged :
    ∀ r ∈ classTable, r.name = "BroadcastDiagonalOperator" → r.tagsTrue = [] ∧ declSquare r = false :=
  fun r hr hn => ⟨not_tagged r hr (by simp [hn, symmetricClasses]),
    Bool.eq_false_iff.mpr fun h => absurd (square_mem r hr h) (by simp [hn, squareClasses])⟩

/-! #### a Toeplitz leaf whose band array has rank 0 is the only one left to the environment

Since the denotation interprets BATCHED band arrays row by row (`Sem/ListSem.lean`, `toepBandAt`), the statement
`denT = den` needs no hypothesis on the environment for any band array with at least one axis; a rank-0 array is
not a band array (the constructor reads `band_values.shape[-1]`), the denotation hands it to the environment, and
for an environment whose two maps differ the clause fails — which is why `TagValid` keeps `EnvSymOn`. -/

def badEnv : Env := ⟨fun _ x => x, fun _ _ => [], fun _ _ _ => rfl, fun _ _ _ => rfl⟩
def sB : Struct := ⟨[.leaf], [⟨[1, 1], .f64⟩]⟩
def rank0P : Params := { inS := sB, outS := sB, vals := ⟨[], [3]⟩ }

theorem toeplitz_rank0_needs_env :
    listLeafOK .toeplitz rank0P ∧ ¬ SemSymmetric badEnv (.leaf 1 .toeplitz rank0P) := by
  refine ⟨fun h => absurd rfl h, fun h => ?_⟩
  have := h.denT_eq [1] rfl
  simp [den, denT, leafDen, leafDenT, squareLeaf, toepK, rank0P, badEnv, fit, sB, Struct.size, LeafS.size,
    prodNat] at this

end Negative
/-! ### non-vacuity: concrete well-formed operators of the tagged classes -/

namespace Instances
open Examples AdjExamples ToeplitzExample

/-- `HWPOperator` on IQU maps of shape (2, 3) -/
def hwpP : Params := { inS := iqu, outS := iqu }
def hwpOp : Op := .leaf 3 .hwp hwpP
theorem hwpP_ok : stokesOK .hwp hwpP := ⟨⟨.IQU, rfl⟩, by decide, fun h => (by cases h), fun h => (by cases h)⟩
theorem hwpOp_valid (E : Env) : TagValid E hwpOp := tagValid_leaf E 3 _ hwpP hwpP_ok (by simp) rfl

/-- `DiagonalInverseOperator(DiagonalOperator([2, 0, 5]))`: a SINGULAR diagonal -/
def dinvOp : Op := .wrap 9 .diagInv (.leaf 5 .diagonal diagP)
theorem dinvOp_valid (E : Env) : TagValid E dinvOp := by
  have hI : AllLeaves (fun _ c p => isEnvLeaf c p = false) dinvOp := by simp [dinvOp, AllLeaves, isEnvLeaf]
  refine ⟨⟨diagP_ok, fun _ => ⟨rfl, trivial⟩, by simp, by simp, by simp⟩, fun _ => ⟨5, diagP, rfl⟩,
    envAdjOn_of_noEnvLeaf E _ hI, envSymOn_of_noEnvLeaf E _ hI⟩

/-- `SymmetricBandToeplitzOperator`, four bands on two rows of length 3, method `overlap_save` -/
def toepOp : Op := .leaf 1 .toeplitz tP
theorem toepOp_valid (E : Env) : TagValid E toepOp :=
  tagValid_leaf E 1 _ tP (listLeafOK_toeplitz tP_ok) (by simp) rfl

/-- `QURotationTransposeOperator(QURotationOperator)` on IQU maps of shape (2, 3), one angle per column -/
def rotTOp : Op := .wrap 5 .qurotT (.leaf 3 .qurot rotP)
theorem rotTOp_valid (E : Env) : TagValid E rotTOp := by
  have hI : AllLeaves (fun _ c p => isEnvLeaf c p = false) rotTOp := by simp [rotTOp, AllLeaves, isEnvLeaf]
  refine ⟨⟨rotP_ok, fun _ => ⟨rfl, trivial⟩, fun _ => rfl, by simp, by simp⟩, fun h => (by cases h),
    envAdjOn_of_noEnvLeaf E _ hI, envSymOn_of_noEnvLeaf E _ hI⟩

/-- `MoveAxisOperator(0, 1)` from shape (2, 3) to shape (3, 2) -/
def mvP : Params := { inS := ⟨[.leaf], [⟨[2, 3], .f64⟩]⟩, outS := ⟨[.leaf], [⟨[3, 2], .f64⟩]⟩, ints := [[0], [1]] }
def mvOp : Op := .leaf 6 .moveAxis mvP
theorem mvP_ok : moveAxisOK mvP := ⟨rfl, .cons ⟨[1, 0], by decide, rfl, rfl⟩ .nil⟩
theorem mvOp_valid (E : Env) : TagValid E mvOp := tagValid_leaf E 6 _ mvP mvP_ok (by simp) rfl

/-- `symmetric_classes` on the Toeplitz operator and on the pseudo-inverse of a singular diagonal -/
example (E : Env) : SemSymmetric E toepOp ∧ SemSymmetric E dinvOp :=
  ⟨symmetric_classes E _ (by decide +kernel) toepOp rfl (toepOp_valid E),
   symmetric_classes E _ (by decide +kernel) dinvOp rfl (dinvOp_valid E)⟩

/-- `diagonal_classes` on the half-wave plate and on the pseudo-inverse of a singular diagonal -/
example (E : Env) : SemDiagonal E hwpOp ∧ SemDiagonal E dinvOp :=
  ⟨diagonal_classes E _ (by decide +kernel) hwpOp rfl (hwpOp_valid E),
   diagonal_classes E _ (by decide +kernel) dinvOp rfl (dinvOp_valid E)⟩

/-- `orthogonal_classes` on the transposed rotation and on a move-axis operator between two different structures -/
example (E : Env) : SemOrthogonal E rotTOp ∧ SemOrthogonal E mvOp :=
  ⟨orthogonal_classes E _ (by decide +kernel) rotTOp rfl (rotTOp_valid E),
   orthogonal_classes E _ (by decide +kernel) mvOp rfl (mvOp_valid E)⟩

/-- `square_classes` on the transposed rotation -/
example (E : Env) : Op.outS rotTOp = Op.inS rotTOp :=
  square_classes _ (by decide +kernel) rotTOp rfl (rotTOp_valid E).1.structOK

/-- the row of `HWPOperator` declares both tags, and `tags_truthful_closed` gives both statements -/
example : ∃ r ∈ classTable, r.name = "HWPOperator" ∧ r.tagsTrue = ["is_diagonal", "is_symmetric"] ∧
    declSquare r = true ∧ declOrthogonal r = false := by decide +kernel

example (E : Env) (r : ClassRow) (hr : r ∈ classTable) (hn : r.name = "HWPOperator")
    (ht : r.tagsTrue = ["is_diagonal", "is_symmetric"]) : SemDiagonal E hwpOp ∧ SemSymmetric E hwpOp := by
  have h := (tags_truthful_closed E r hr hwpOp (by rw [hn]; rfl) (hwpOp_valid E)).1
  rw [ht] at h
  have h1 := h "is_diagonal" (by simp)
  have h2 := h "is_symmetric" (by simp)
  rw [tagSem_diagonal] at h1
  rw [tagSem_symmetric] at h2
  exact ⟨h1, h2⟩

/-- the hypothesis of the closed soundness theorem of `reduce()` is a sufficient well-formedness -/
example (E : Env) : WTExpr (fun _ => True) listLeafOK ex1 := wt_of_closed E ex1 (ex1_wt E)

end Instances

/-! #### a Toeplitz leaf with a BATCHED band (one band row per detector): symmetric in EVERY environment -/

namespace Batched
open ToeplitzExample

/-- `band_values.shape = (2, 2)` on data of shape `(2, 3)` (`ToeplitzExample.tB`): no hypothesis on the environment -/
def batchedOp : Op := .leaf 1 .toeplitz tB
theorem batchedOp_valid (E : Env) : TagValid E batchedOp :=
  tagValid_leaf E 1 _ tB (listLeafOK_toeplitz tB_ok) (by simp) rfl

example (E : Env) : SemSymmetric E batchedOp :=
  symmetric_classes E _ (by decide +kernel) batchedOp rfl (batchedOp_valid E)

end Batched


#print axioms Furax.C08.tags_truthful_closed
#print axioms Furax.C08.symmetric_classes
#print axioms Furax.C08.symmetric_rows
#print axioms Furax.C08.diagonal_rows
#print axioms Furax.C08.diagonal_classes
#print axioms Furax.C08.orthogonal_classes
#print axioms Furax.C08.square_classes
#print axioms Furax.C08.Negative.qurot_not_symmetric
#print axioms Furax.C08.Negative.index_not_diagonal_nor_symmetric
#print axioms Furax.C08.Negative.toeplitz_rank0_needs_env

end Furax.C08
