/-
C09 — All Toeplitz evaluation methods compute the same banded product.

`toep h l band x i = Σ_j [|i−j| ≤ h] band[|i−j|]·x[j]` is the specification (`K = h + 1` bands).
`applyDirect`, `applyFft`, `applyOverlapSave`, `toeplitzCtor`, `defaultFftSize` are the functions the compiled
driver executes.  The FFT is abstracted as exact circular convolution (A3).
-/
import FuraxProofs.Lemmas.ToeplitzSums
import FuraxProofs.Lemmas.ToeplitzDense
import FuraxGenerated.Tables
namespace Furax.C09
open Furax Toeplitz Finset
variable {α : Type} [CommRing α]

/-- the method list of the source is the one the model's constructor accepts -/
theorem methods_pinned : Generated.toeplitzMethods = ["dense", "direct", "fft", "overlap_save"] := rfl

/-- **direct** method = specification, every `n ≥ 1`, `K ≥ 1` (also `K > n`), every input -/
theorem direct_correct (h l : Nat) (band x : Nat → α) (i : Nat) (hi : i < l) :
    applyDirect h l band x i = toep h l band x i := direct_eq h l band x i hi

/-- **fft** method = specification -/
theorem fft_correct (h l : Nat) (band x : Nat → α) (i : Nat) (hi : i < l) :
    applyFft h l band x i = toep h l band x i := fft_eq h l band x i hi

/-- **overlap_save** = specification for every admissible FFT size `F ≥ 2K − 1 = 2h + 1`, every number
of blocks, every length -/
theorem overlapSave_correct (F h l : Nat) (band x : Nat → α) (hF : 2 * h + 1 ≤ F) (i : Nat) (hi : i < l) :
    applyOverlapSave F h l band x i = toep h l band x i := overlapSave_eq F h l band x hF i hi

/-- **the dense scatter builds the band matrix**: entry (r, c) of `dense_symmetric_band_toeplitz(n, band)`
is `band[|r−c|]` when `|r−c| < K` and 0 otherwise — every `n`, every `K` including `K > n` (out-of-range
scatter updates are dropped, wrapped indices never land in range) -/
theorem dense_entry_correct {β : Type} [Zero β] (n h : Nat) (band : Nat → β) (r c : Nat) (hr : r < n) (hc : c < n) :
    denseEntry n h band r c = if dist r c ≤ h then band (dist r c) else 0 := dense_entry n h band r c hr hc

/-- **dense** method = specification; `as_matrix()` of one batch row is this matrix, and it is symmetric -/
theorem dense_correct (h l : Nat) (band x : Nat → α) (i : Nat) (hi : i < l) :
    applyDense h l band x i = toep h l band x i := applyDense_eq h l band x i hi

theorem dense_symmetric {β : Type} [Zero β] (n h : Nat) (band : Nat → β) (r c : Nat) (hr : r < n) (hc : c < n) :
    denseEntry n h band r c = denseEntry n h band c r := dense_symm n h band r c hr hc

/-- hence the three matrix-free methods agree with each other on every input -/
theorem methods_agree (F h l : Nat) (band x : Nat → α) (hF : 2 * h + 1 ≤ F) (i : Nat) (hi : i < l) :
    applyDirect h l band x i = applyFft h l band x i ∧
    applyFft h l band x i = applyOverlapSave F h l band x i := by
  rw [direct_correct h l band x i hi, fft_correct h l band x i hi, overlapSave_correct F h l band x hF i hi]
  exact ⟨rfl, rfl⟩

/-- the blocks computed by the loop (`nblock = ⌈(n + 2h)/step⌉`) cover every output position -/
theorem blocks_cover (F h l i : Nat) (hF : 2 * h + 1 ≤ F) (hi : i < l) :
    (i + h) / (F - 2 * h) < nblock F h l := block_in_range F h l i hF hi

/-- **T is symmetric**: `⟨y, T x⟩ = ⟨T y, x⟩` -/
theorem toeplitz_symmetric (h l : Nat) (band x y : Nat → α) :
    ∑ i ∈ range l, y i * toep h l band x i = ∑ j ∈ range l, toep h l band y j * x j := by
  simpa only [mul_comm] using (toep_adjoint h l band y x).symm

/-- `2^⌈log₂ n⌉ ≥ n` -/
theorem two_pow_clog2 (n : Nat) : n ≤ 2 ^ clog2 n := by
  unfold clog2
  split
  · rename_i h; simp only [Nat.pow_zero]; omega
  · have := Nat.lt_log2_self (n := n - 1)
    omega

/-- the default FFT size is admissible: `defaultFftSize (2K−1) ≥ 2K−1` (it is at least twice that) -/
theorem defaultFft_admissible (bn : Nat) : bn ≤ defaultFftSize bn ∧ 2 * bn ≤ defaultFftSize bn := by
  have h := two_pow_clog2 bn
  have : defaultFftSize bn = 2 * 2 ^ clog2 bn := by unfold defaultFftSize; rw [Nat.pow_add, Nat.pow_one]
  omega

/-- the constructor on the method `overlap_save` -/
theorem toeplitzCtor_overlap_save (K : Nat) (fft : Option Nat) :
    toeplitzCtor "overlap_save" K fft =
      match fft with
      | some f => if f < 2 * K - 1 then .valueError else .ok (some f)
      | none => .ok (some (defaultFftSize (2 * K - 1))) := by
  cases fft <;> rfl

/-- `overlap_save` is only ever accepted with an FFT size, and an admissible one -/
theorem ctor_overlap_save_ok (K : Nat) (fft r : Option Nat) (h : toeplitzCtor "overlap_save" K fft = .ok r) :
    ∃ f, r = some f ∧ 2 * K - 1 ≤ f := by
  rw [toeplitzCtor_overlap_save] at h
  split at h
  · split at h
    · cases h
    · cases h
      exact ⟨_, rfl, by omega⟩
  · cases h
    exact ⟨_, rfl, (defaultFft_admissible _).1⟩

/-- an accepted configuration of an overlap method always carries an admissible FFT size, so
`overlapSave_correct` applies to whatever the constructor lets through -/
theorem ctor_fft_admissible (K f : Nat) (fft : Option Nat)
    (h : toeplitzCtor "overlap_save" K fft = .ok (some f)) : 2 * K - 1 ≤ f := by
  obtain ⟨g, hg, hle⟩ := ctor_overlap_save_ok K fft _ h
  cases hg
  exact hle

/-- FFT sizes below the number of bands are rejected -/
theorem ctor_rejects_small_fft (K f : Nat) (hf : f < 2 * K - 1) :
    toeplitzCtor "overlap_save" K (some f) = .valueError := by
  rw [toeplitzCtor_overlap_save]
  exact if_pos hf

/-- an FFT size given to a non-overlap method, and unknown methods, are rejected -/
theorem ctor_rejects_examples :
    toeplitzCtor "fft" 3 (some 8) = .valueError ∧ toeplitzCtor "dense" 3 (some 8) = .valueError ∧
    toeplitzCtor "overlap_add" 3 none = .valueError ∧ toeplitzCtor "bogus" 1 none = .valueError ∧
    toeplitzCtor "direct" 3 none = .ok none ∧ toeplitzCtor "overlap_save" 3 none = .ok (some 16) := by
  decide

/-! non-vacuity: a concrete non-trivial instance of the overlap-save hypotheses (n = 5, K = 2, F = 4) -/
example : applyOverlapSave 4 1 5 (fun k => [4, 1].getD k (0 : Int)) (fun k => [1, 2, 3, 4, 5].getD k 0) 2 = 18 := by
  decide

end Furax.C09
