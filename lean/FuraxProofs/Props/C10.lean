/-
C10 — Block operators act as the block matrices of their blocks.

`BlockSem.denDiag / denCol / denRow` (FuraxModel/BlockSem.lean) are what the three block operators compute on
flattened pytrees (leaves in pytree-leaf order); `transposeOp`, `inverseOp`, `blockCtor`, `blockRule` are the
Level-A form functions the compiled driver executes and the correspondence compares with the implementation.
-/
import FuraxModel.Dual
import FuraxProofs.Lemmas.BlockLaws
namespace Furax.C10
open Furax BlockSem

variable {W : Type}

/-- BlockDiagonal(A_i) @ BlockDiagonal(B_i) = BlockDiagonal(A_i @ B_i), any number of blocks -/
theorem diag_diag_rule (ls rs : List (Block W)) (h : Composable ls rs) (hr : AllHonest rs) (x : List W)
    (hx : x.length = (rs.map (·.cin)).sum) :
    denDiag ls (denDiag rs x) = denDiag (List.zipWith Block.comp ls rs) x := diag_diag h hr x hx

/-- BlockDiagonal(A_i) @ BlockColumn(B_i) = BlockColumn(A_i @ B_i) -/
theorem diag_col_rule (ls rs : List (Block W)) (h : Composable ls rs) (hr : AllHonest rs) (x : List W)
    (hx : ∀ r ∈ rs, r.cin = x.length) :
    denDiag ls (denCol rs x) = denCol (List.zipWith Block.comp ls rs) x := diag_col h hr x hx

/-- BlockRow(A_i) @ BlockDiagonal(B_i) = BlockRow(A_i @ B_i) -/
theorem row_diag_rule [Add W] (ls rs : List (Block W)) (h : Composable ls rs) (hr : AllHonest rs) (x : List W)
    (hx : x.length = (rs.map (·.cin)).sum) :
    denRow ls (denDiag rs x) = denRow (List.zipWith Block.comp ls rs) x := row_diag h hr x hx

/-- BlockRow(A_i) @ BlockColumn(B_i) = Σ_i A_i @ B_i -/
theorem row_col_rule [Add W] (ls rs : List (Block W)) (h : Composable ls rs) (hr : AllHonest rs) (x : List W)
    (hx : ∀ r ∈ rs, r.cin = x.length) :
    denRow ls (denCol rs x) = sumLeaves (List.zipWith (fun l r => l.f (r.f x)) ls rs) :=
  row_col_sumLeaves h hr x hx

/-- a single block: the row / diagonal / column operator of one block is that block (finding F3 of DESIGN.md §6 is an
implementation in which the first equation fails) -/
theorem single_block [Add W] (b : Block W) (x : List W) (hx : x.length = b.cin) :
    denRow [b] x = b.f x ∧ denDiag [b] x = b.f x ∧ denCol [b] x = b.f x :=
  ⟨denRow_single_of_length b x hx, denDiag_single_of_length b x hx, denCol_single b x⟩

/-- transposes: the row operator's adjoint is the column operator of the adjoint blocks (and vice versa), the
diagonal operator's adjoint is the diagonal operator of the adjoint blocks -/
theorem row_transpose_is_column [CommSemiring W] (ls ts : List (Block W)) (h : Adjoints ls ts)
    (hl : AllHonest ls) (ht : AllHonest ts) (x y : List W) (hx : x.length = (ls.map (·.cin)).sum)
    (hy : ∀ l ∈ ls, l.cout = y.length) : dotL (denRow ls x) y = dotL x (denCol ts y) :=
  denRow_adjoint h hl ht x y hx hy

theorem column_transpose_is_row [CommSemiring W] (ls ts : List (Block W)) (h : Adjoints ls ts)
    (hl : AllHonest ls) (ht : AllHonest ts) (x y : List W) (hx : ∀ l ∈ ls, l.cin = x.length)
    (hy : y.length = (ls.map (·.cout)).sum) : dotL (denCol ls x) y = dotL x (denRow ts y) :=
  denCol_adjoint h hl ht x y hx hy

theorem diagonal_transpose_is_diagonal [CommSemiring W] (ls ts : List (Block W)) (h : Adjoints ls ts)
    (hl : AllHonest ls) (ht : AllHonest ts) (x y : List W) (hx : x.length = (ls.map (·.cin)).sum)
    (hy : y.length = (ls.map (·.cout)).sum) : dotL (denDiag ls x) y = dotL x (denDiag ts y) :=
  denDiag_adjoint h hl ht x y hx hy

/-! ### Level-A forms -/

/-- `.T` of a block row is a block column of the transposed blocks over the same container, and so on -/
theorem transpose_form (u : Nat) (td : TreeDef) (ops ts : List Op) (h : transposeList ops = .ok ts) :
    transposeOp (.cont u .blockRow td ops) = .ok (.cont 0 .blockCol td ts) ∧
    transposeOp (.cont u .blockCol td ops) = .ok (.cont 0 .blockRow td ts) ∧
    transposeOp (.cont u .blockDiag td ops) = .ok (.cont 0 .blockDiag td ts) := by
  simp only [transposeOp, h, and_self]

/-- blocks whose shared structures differ are refused at construction -/
theorem ctor_refuses_mismatch (o b : Op) (rest : List Op) :
    (Op.outS b ≠ Op.outS o → blockCtor .blockRow (o :: b :: rest) = .error .valueError) ∧
    (Op.inS b ≠ Op.inS o → blockCtor .blockCol (o :: b :: rest) = .error .valueError) := by
  constructor <;> intro h <;>
    simp only [blockCtor, List.all_cons, beq_eq_false_iff_ne.mpr h, Bool.false_and, Bool.false_eq_true, if_false]

/-- the block rules only combine identically nested containers (finding F4 of DESIGN.md §6: a `TypeError` in an
implementation that lets them fire) -/
theorem rule_needs_same_layout (red : Op → Except PyErr Op) (name : String) (lk rk res : ContCls)
    (u u' : Nat) (ltd rtd : TreeDef) (lops rops : List Op) (h : ltd ≠ rtd) :
    (blockRule red name lk rk res).fire (.cont u lk ltd lops) (.cont u' rk rtd rops) = .ok none := by
  simp only [blockRule, bne_iff_ne.mpr h, Bool.true_or, if_true, ite_self]

end Furax.C10
