/-
C11 — Diagonal operators multiply along the requested axes.

`Diagonal.apply strict values spec x` (FuraxModel/Diagonal.lean) is what the compiled driver executes for one
leaf: constructor normalisation of `axis_destination`, `_normalize_axes`, left/right broadcast padding, the
move-axis of the reshaped values, NumPy broadcasting, and the strict variant's shape check.
-/
import FuraxProofs.Lemmas.DiagonalSpec
namespace Furax.C11
open Furax Diagonal

variable {α : Type} [Inhabited α] [Mul α]

/-- **the specification**: for values of any rank `r ≥ 1` laid along pairwise distinct destination axes (given
non-negative or negative, in any order) whose sizes match the leaf, every output element is
`values[idx restricted to the axes] · x[idx]`, the shape is the leaf's — strict or broadcast variant alike -/
theorem multiplies_along_axes (strict : Bool) (values x : Tensor α) (axes : List Int)
    (hv : values.shape ≠ []) (hlen : axes.length = values.shape.length)
    (hnd : (normalizedAxes axes x.shape.length).Nodup)
    (hrange : ∀ a ∈ axes, -(x.shape.length : Int) ≤ a ∧ a < x.shape.length)
    (hshape : ∀ k, k < values.shape.length →
      values.shape.getD k 0 = x.shape.getD ((normalizedAxes axes x.shape.length).getD k 0).toNat 0) :
    ∃ y, apply strict values (.seq axes) x = .ok y ∧ y.shape = x.shape ∧ y.data.length = prodNat x.shape ∧
      ∀ p, p < prodNat x.shape →
        y.data.getD p default =
          values.data.getD (ravelIdx values.shape
            (valuesIndex (normalizedAxes axes x.shape.length) (unravel x.shape p))) default * x.data.getD p default :=
  apply_inrange_signed strict values x axes hv hlen hnd hrange hshape

/-- NumPy broadcasting: a value dimension of size 1 is repeated along its axis -/
theorem broadcasts_unit_dimensions (strict : Bool) (values x : Tensor α) (axes : List Int)
    (hv : values.shape ≠ []) (hlen : axes.length = values.shape.length) (hnd : axes.Nodup)
    (hrange : ∀ a ∈ axes, 0 ≤ a ∧ a < x.shape.length)
    (hshape : ∀ k, k < values.shape.length →
      values.shape.getD k 0 = x.shape.getD (axes.getD k 0).toNat 0 ∨ values.shape.getD k 0 = 1) :
    ∃ y, apply strict values (.seq axes) x = .ok y ∧ y.shape = x.shape ∧ y.data.length = prodNat x.shape ∧
      ∀ p, p < prodNat x.shape →
        y.data.getD p default =
          values.data.getD (ravelIdx values.shape ((List.range values.shape.length).map fun k =>
              if values.shape.getD k 0 = 1 then 0
              else (unravel x.shape p).getD (axes.getD k 0).toNat 0)) default * x.data.getD p default :=
  apply_inrange_bcast strict values x axes hv hlen hnd hrange hshape

/-- a non-negative scalar `a` means the axes `a, …, a + r − 1`; a negative one `a − r + 1, …, a` -/
theorem scalar_axis_forms (r : Nat) (a : Int) :
    (0 ≤ a → normalizeSpec r (.scalar a) = (List.range r).map (fun (k : Nat) => a + Int.ofNat k)) ∧
    (a < 0 → normalizeSpec r (.scalar a) = (List.range r).map (fun (k : Nat) => a - Int.ofNat r + 1 + Int.ofNat k)) :=
  ⟨normalizeSpec_nonneg r a, normalizeSpec_neg r a⟩

/-- the strict variant never changes a leaf's shape: anything else is rejected -/
theorem strict_keeps_shape (values : Tensor α) (spec : AxisSpec) (x y : Tensor α)
    (h : apply true values spec x = .ok y) : y.shape = x.shape := apply_strict_shape values spec x y h

/-- scalar values, duplicated axes and incompatible sizes raise `ValueError` — and nothing else is ever raised -/
theorem rejects_scalar_values (strict : Bool) (values : Tensor α) (spec : AxisSpec) (x : Tensor α)
    (h : values.shape = []) : apply strict values spec x = .error .valueError :=
  apply_rejects_scalar_values strict values spec x h

theorem rejects_duplicate_axes (strict : Bool) (values : Tensor α) (spec : AxisSpec) (x : Tensor α)
    (hv : values.shape ≠ [])
    (h : ¬ (normalizedAxes (normalizeSpec values.shape.length spec) x.shape.length).Nodup) :
    apply strict values spec x = .error .valueError :=
  apply_rejects_duplicate_axes' strict values spec x hv h

theorem only_value_errors (strict : Bool) (values : Tensor α) (spec : AxisSpec) (x : Tensor α) (e : PyErr)
    (h : apply strict values spec x = .error e) : e = .valueError := apply_error_kind strict values spec x e h

/-- the pseudo-inverse values satisfy the Moore–Penrose identities entry by entry and never divide by zero -/
theorem pinv_moore_penrose (d : Rat) :
    d * (if d != 0 then 1 / d else 0) * d = d ∧
    (if d != 0 then 1 / d else 0) * d * (if d != 0 then 1 / d else 0) = (if d != 0 then 1 / d else 0) :=
  pinv_scalar d

theorem pinv_of_zero_is_zero : pinvValues [0] = [0] := pinv_zero

end Furax.C11
