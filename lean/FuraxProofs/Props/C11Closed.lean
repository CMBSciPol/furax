/-
C11 — Diagonal operators multiply along the requested axes: the closed statements, in the ONE list denotation
`den E o : List ℝ → List ℝ` (FuraxProofs/Sem/ListSem.lean).

A flat vector is the leaves of the pytree concatenated, each leaf row-major: entry `q` of leaf `k` sits at
`offset sizes k + q` (`offset` = sum of the sizes of the leaves before `k`).  `diagonalOK p` (FuraxProofs/Sem/ListModel.lean):
the strict broadcasting product `Diagonal.apply true` is accepted on every leaf of the input structure — what the
constructor `DiagonalOperator(values, axis_destination=axes, in_structure=…)` checks.

Entry `q` of leaf `k` of `den E (.leaf u .diagonal p) x` is
`values[(multi-index of q in leaf k)[axis_j] for j < rank(values), 0 where values.shape[j] = 1] * x[same position]` — the
closed form of `Diagonal.apply` (`apply_general`, FuraxProofs/Lemmas/DiagonalSpec.lean), leaf by leaf, so that pytrees
whose leaves have DIFFERENT ranks and shapes are covered.  The operator is the entry-wise product with ONE vector
`diagVec p`, `DiagonalInverseOperator(D)` (what `D.I` builds) the product with `where(d ≠ 0, 1/d, 0)` of it, and the
four Moore–Penrose identities hold as equalities of `den E (.comp …)` (and `denT`, the transpose map).

The entry-wise statements have the hypothesis `haxes`: there are as many destination axes as dimensions of the
values.  The docstring of the Python class asks for it, the constructor does not check it (with fewer axes
`jnp.moveaxis` moves the leading dimensions of the values only, and the model does the same): the closed form of
FuraxProofs/Lemmas/DiagonalSpec.lean covers the documented case.  The vector-level statements do not need it.
-/
import FuraxProofs.Props.C11
import FuraxProofs.Sem.DiagonalClosed
import FuraxProofs.Sem.AxesClosed
import FuraxProofs.Sem.TagsList
import FuraxProofs.Sem.ValidDecide
namespace Furax.C11
open Furax ListSem Op

/-- the destination axes of a diagonal leaf (`axis_destination` after the constructor's normalisation) -/
abbrev axesOf (p : Params) : List Int := p.ints.getD 0 []

/-- the position of leaf `k` in the flat vector -/
abbrev leafOffset (s : Struct) (k : Nat) : Nat := offset (s.leaves.map LeafS.size) k

/-- the entry of `values` a `DiagonalOperator` multiplies entry `q` of a leaf of shape `sh` by: the multi-index of `q`
(`unravel`), restricted to the destination axes (`destAxis`: negative axes counted from the end of the leaf), `0`
along the dimensions of the values of length `1` (NumPy broadcasting), flattened in the values (`ravelIdx`) -/
def valueAt (vals : Tensor Rat) (axes : List Int) (sh : List Nat) (q : Nat) : Rat :=
  vals.data.getD (ravelIdx vals.shape (diagIndex vals.shape axes sh.length (unravel sh q))) 0

theorem diagIndex_getD (vshape : List Nat) (axes : List Int) (n : Nat) (idx : List Nat) (j : Nat)
    (hj : j < vshape.length) :
    (diagIndex vshape axes n idx).getD j 0
      = if vshape.getD j 0 = 1 then 0 else idx.getD ((Diagonal.normalizedAxes axes n).getD j 0).toNat 0 := by
  rw [diagIndex, Axes.ma_getD_map_range _ _ j hj]
  rfl

section leaf
variable (E : Env) {p : Params}

theorem leaf_mem {k : Nat} (hk : k < p.inS.leaves.length) : p.inS.leaves.getD k default ∈ p.inS.leaves := by
  rw [List.getD_eq_getElem _ _ hk]; exact List.getElem_mem _

/-- **the side conditions follow from the constructor's check** (`diagonalOK`), leaf by leaf: the values are not a
scalar; the normalised destination axes are pairwise distinct and lie inside the rank of the leaf; every dimension
of the values is `1` or the dimension of the leaf along its destination axis -/
theorem diagonal_leaf_facts (h : diagonalOK p) (haxes : (axesOf p).length = p.vals.shape.length)
    (k : Nat) (hk : k < p.inS.leaves.length) :
    DiagLeafFacts p.vals.shape (axesOf p) (p.inS.leaves.getD k default).shape := by
  obtain ⟨y, hy, -⟩ := h _ (leaf_mem hk) []
  exact (diag_leaf_closed (castT p.vals) (axesOf p) _ [] y haxes hy).1

theorem diagVec_getD_valueAt (h : diagonalOK p) (haxes : (axesOf p).length = p.vals.shape.length)
    (k : Nat) (hk : k < p.inS.leaves.length) (q : Nat) (hq : q < (p.inS.leaves.getD k default).size) :
    (diagVec p).getD (leafOffset p.inS k + q) 0
      = ((valueAt p.vals (axesOf p) (p.inS.leaves.getD k default).shape q : Rat) : ℝ) := by
  obtain ⟨y, hy, -⟩ := h _ (leaf_mem hk) []
  rw [diagVec_getD p h k q hk hq, (diag_leaf_closed (castT p.vals) (axesOf p) _ [] y haxes hy).2 q hq, castT_getD]
  rfl

/-- **C11, closed, entry by entry.**  Entry `q` of leaf `k` of `DiagonalOperator.mv(x)` is the entry of `values` at
the multi-index of `q` restricted to the destination axes (NumPy-broadcast: index `0` where `values` has length `1`)
times entry `q` of leaf `k` of `x` — for every leaf of the input structure, whatever its rank -/
theorem diagonal_entry_closed (u : Nat) (h : diagonalOK p) (haxes : (axesOf p).length = p.vals.shape.length)
    (x : V) (hx : x.length = p.inS.size) (k : Nat) (hk : k < p.inS.leaves.length) (q : Nat)
    (hq : q < (p.inS.leaves.getD k default).size) :
    (den E (.leaf u .diagonal p) x).getD (leafOffset p.inS k + q) 0
      = ((valueAt p.vals (axesOf p) (p.inS.leaves.getD k default).shape q : Rat) : ℝ)
          * x.getD (leafOffset p.inS k + q) 0 := by
  rw [den_diagonal E u p h x hx, getD_zipWith_mul, diagVec_getD_valueAt h haxes k hk q hq]

/-- **the output has the declared structure**: `@diagonal` makes the output structure the input structure, and the
result has one entry per element of it (leaf `k` of the output is leaf `k` of the input, same shape) -/
theorem diagonal_structure_closed (u : Nat) (x : V) :
    Op.outS (.leaf u .diagonal p) = p.inS ∧ (den E (.leaf u .diagonal p) x).length = p.inS.size :=
  ⟨rfl, leafDen_length E u .diagonal p x⟩

/-- **the operator is the entry-wise product with ONE vector** `d = diagVec p` (the values broadcast to every leaf,
concatenated): `den` is `x ↦ d * x` on the vectors of the input size, its dense matrix is `Matrix.diagonal d`
(`SemDiagonal`), and the entries of `d` are the broadcast values -/
theorem diagonal_one_vector (u : Nat) (h : diagonalOK p) :
    SemDiagonal E (.leaf u .diagonal p) ∧
    (diagVec p).length = p.inS.size ∧
    (∀ x : V, x.length = p.inS.size → den E (.leaf u .diagonal p) x = List.zipWith (· * ·) (diagVec p) x) ∧
    ((axesOf p).length = p.vals.shape.length → ∀ k, k < p.inS.leaves.length →
      ∀ q, q < (p.inS.leaves.getD k default).size →
        (diagVec p).getD (leafOffset p.inS k + q) 0
          = ((valueAt p.vals (axesOf p) (p.inS.leaves.getD k default).shape q : Rat) : ℝ)) :=
  ⟨diagonal_diagonal E u p h, diagVec_length p h, fun x hx => den_diagonal E u p h x hx,
    fun haxes k hk q hq => diagVec_getD_valueAt h haxes k hk q hq⟩

/-- `where(d ≠ 0, 1/d, 0)` on the rationals, the values `DiagonalInverseOperator` is built with (`Diagonal.pinvValues`) -/
def pinvQ (v : Rat) : Rat := if v != 0 then 1 / v else 0

theorem pinvValues_eq (l : List Rat) : Diagonal.pinvValues l = l.map pinvQ := rfl

/-- **`DiagonalInverseOperator(D)`, closed.**  `D.I` is that wrapper (`inverseOp`); its denotation is the entry-wise
product with ONE vector, `where(d ≠ 0, 1/d, 0)` of the vector `d` of `D` (no division by zero is performed); it is a
diagonal operator too (`SemDiagonal`); and entry by entry it multiplies by `where(v ≠ 0, 1/v, 0)` of the broadcast
value `v` -/
theorem diagInv_closed (w u : Nat) (h : diagonalOK p) :
    inverseOp (.leaf u .diagonal p) = .ok (.wrap 0 .diagInv (.leaf u .diagonal p)) ∧
    SemDiagonal E (.wrap w .diagInv (.leaf u .diagonal p)) ∧
    (∀ x : V, x.length = p.inS.size →
      den E (.wrap w .diagInv (.leaf u .diagonal p)) x = List.zipWith (· * ·) ((diagVec p).map pinvR) x) ∧
    (∀ i, i < p.inS.size → ((diagVec p).map pinvR).getD i 0
        = if (diagVec p).getD i 0 = 0 then 0 else 1 / (diagVec p).getD i 0) :=
  ⟨inverseOp_diagonal u p, diagInv_diagonal E w u p h, fun x hx => den_diagInv E w u p h x hx, fun i _ => getD_map_default pinvR pinvR_default _ i⟩

theorem diagInv_entry_closed (w u : Nat) (h : diagonalOK p) (haxes : (axesOf p).length = p.vals.shape.length)
    (x : V) (hx : x.length = p.inS.size) (k : Nat) (hk : k < p.inS.leaves.length) (q : Nat)
    (hq : q < (p.inS.leaves.getD k default).size) :
    (den E (.wrap w .diagInv (.leaf u .diagonal p)) x).getD (leafOffset p.inS k + q) 0
      = ((pinvQ (valueAt p.vals (axesOf p) (p.inS.leaves.getD k default).shape q) : Rat) : ℝ)
          * x.getD (leafOffset p.inS k + q) 0 := by
  rw [den_diagInv E w u p h x hx, getD_zipWith_mul,
    show ((diagVec p).map pinvR).getD _ 0 = pinvR ((diagVec p).getD _ 0) from getD_map_default pinvR pinvR_default _ _,
    diagVec_getD_valueAt h haxes k hk q hq, ← cast_pinv]
  rfl

/-- the model builds the wrapper's values exactly so: `DiagonalInverseOperator.diagonal = where(d != 0, 1/d, 0)` -/
theorem diagInv_values (w u : Nat) :
    den E (.wrap w .diagInv (.leaf u .diagonal p))
      = den E (.leaf u .diagonal { p with vals := ⟨p.vals.shape, p.vals.data.map pinvQ⟩ }) := by
  funext x
  simp only [den]
  rfl

/-- **the four Moore–Penrose identities, in `den`.**  With `D = DiagonalOperator(values, …)` and
`D⁺ = DiagonalInverseOperator(D)`, for ARBITRARY values (zeros allowed), on the vectors of the input size:
`D D⁺ D = D`, `D⁺ D D⁺ = D⁺`, and `D D⁺`, `D⁺ D` are symmetric: the transpose map (`denT`) of the composition is
its map, and it is self-adjoint for the Euclidean pairing -/
theorem moore_penrose_closed (uc w u : Nat) (h : diagonalOK p) (x : V) (hx : x.length = p.inS.size) :
    let D : Op := .leaf u .diagonal p
    let Dp : Op := .wrap w .diagInv D
    den E (.comp uc [D, Dp, D]) x = den E D x ∧
    den E (.comp uc [Dp, D, Dp]) x = den E Dp x ∧
    denT E (.comp uc [D, Dp]) x = den E (.comp uc [D, Dp]) x ∧
    denT E (.comp uc [Dp, D]) x = den E (.comp uc [Dp, D]) x ∧
    (∀ y : V, y.length = p.inS.size → dot (den E (.comp uc [D, Dp]) x) y = dot x (den E (.comp uc [D, Dp]) y)) ∧
    (∀ y : V, y.length = p.inS.size → dot (den E (.comp uc [Dp, D]) x) y = dot x (den E (.comp uc [Dp, D]) y)) := by
  intro D Dp
  -- both compositions multiply entry-wise by the vector of the `d * d⁺`
  have hDDp : ∀ z : V, z.length = p.inS.size → den E (.comp uc [D, Dp]) z
      = List.zipWith (· * ·) ((diagVec p).map fun d => d * pinvR d) z := fun z hz => by
    show den E D (den E Dp z) = _
    rw [den_diagonal E u p h _ (den_diagInv_length E w u p z), den_diagInv E w u p h z hz, List.zipWith_map_left,
      List.zipWith_map_left, zipWith_fuse _ _ _ _ _ fun d _ v => (mul_assoc d (pinvR d) v).symm]
  have hDpD : ∀ z : V, z.length = p.inS.size → den E (.comp uc [Dp, D]) z
      = List.zipWith (· * ·) ((diagVec p).map fun d => d * pinvR d) z := fun z hz => by
    show den E Dp (den E D z) = _
    rw [den_diagInv E w u p h _ (diagonal_structure_closed E u z).2, den_diagonal E u p h z hz,
      List.zipWith_map_left, List.zipWith_map_left,
      zipWith_fuse _ _ _ _ _ fun d _ v => (mul_left_comm (pinvR d) d v).trans (mul_assoc d (pinvR d) v).symm]
  have mp := diagonal_moore_penrose E w u p h x hx
  refine ⟨mp.1, mp.2, ?_, ?_, fun y hy => ?_, fun y hy => ?_⟩
  · show denT E Dp (denT E D x) = _
    rw [denT_eq_den_leaf E u _ p (.inr (.inr (.inl rfl))), denT_eq_den_diagInv, hDDp x hx]
    exact hDpD x hx
  · show denT E D (denT E Dp x) = _
    rw [denT_eq_den_leaf E u _ p (.inr (.inr (.inl rfl))), denT_eq_den_diagInv, hDpD x hx]
    exact hDDp x hx
  · rw [hDDp x hx, hDDp y hy]
    exact dot_zipWith_mul _ _ _
  · rw [hDpD x hx, hDpD y hy]
    exact dot_zipWith_mul _ _ _

/-- when no value vanishes, `D⁺` is the inverse: `D⁺ D = id = D D⁺` (`hw`, as in
`ListSem.diagonal_inverts`: the array of values is well formed) -/
theorem diagInv_inverse_closed (uc w u : Nat) (h : diagonalOK p) (hw : p.vals.wellFormed = true)
    (hnz : ∀ v ∈ p.vals.data, v ≠ 0) (x : V) (hx : x.length = p.inS.size) :
    den E (.comp uc [.wrap w .diagInv (.leaf u .diagonal p), .leaf u .diagonal p]) x = x ∧
    den E (.comp uc [.leaf u .diagonal p, .wrap w .diagInv (.leaf u .diagonal p)]) x = x := by
  obtain ⟨-, -, -, -, hl, hr⟩ := diagonal_inverts E w u p h hw hnz
  exact ⟨hl x hx, hr x hx⟩

/-! ### the broadcasting variant `BroadcastDiagonalOperator`

Its output structure differs from its input structure in general (dimensions are added on the left / right of a leaf,
dimensions of length `1` of a leaf are stretched).  Its validity is stated like `diagonalOK`, with the non-strict
product and the declared output leaf; the closed form is then `apply_general`, leaf by leaf. -/

/-- `BroadcastDiagonalOperator(values, axis_destination=axes, in_structure=…)`: the same treedef, and on every leaf the
broadcasting product (`Diagonal.apply false`) is accepted and returns the shape of the declared output leaf -/
def broadcastDiagonalOK (p : Params) : Prop :=
  p.outS.td = p.inS.td ∧
  List.Forall₂ (fun li lo : LeafS => ∀ c : V, ∃ y,
      Diagonal.apply false (castT p.vals) (.seq (axesOf p)) (⟨li.shape, c⟩ : Tensor ℝ) = .ok y ∧ y.shape = lo.shape)
    p.inS.leaves p.outS.leaves

/-- **C11, broadcasting variant, closed.**  With `oi` the multi-index of the output position `q` in the declared
output leaf `k`: the entry is `values[oi along the destination axes, 0 where values has length 1]` times the entry
of leaf `k` of `x` at `oi` shifted by the number of dimensions added on the left, `0` where the leaf has length `1`;
the declared output shape is the explicit broadcast shape `outShape` -/
theorem broadcastDiagonal_entry_closed (u : Nat) (h : broadcastDiagonalOK p)
    (haxes : (axesOf p).length = p.vals.shape.length) (x : V) (hx : x.length = p.inS.size) (k : Nat)
    (hk : k < p.inS.leaves.length) (q : Nat) (hq : q < (p.outS.leaves.getD k default).size) :
    let li := p.inS.leaves.getD k default
    let lo := p.outS.leaves.getD k default
    let ax := Diagonal.normalizedAxes (axesOf p) li.shape.length
    let oi := unravel lo.shape q
    (den E (.leaf u .broadcastDiagonal p) x).getD (offset (p.outS.leaves.map LeafS.size) k + q) 0
      = ((p.vals.data.getD (ravelIdx p.vals.shape ((List.range p.vals.shape.length).map fun j =>
            if p.vals.shape.getD j 0 = 1 then 0 else oi.getD ((Diagonal.destAxes ax).getD j 0) 0)) 0 : Rat) : ℝ)
        * (leafChunk p.inS.leaves k x).getD (ravelIdx li.shape ((List.range li.shape.length).map fun j =>
            if li.shape.getD j 0 = 1 then 0 else oi.getD (Diagonal.leftDims ax + j) 0)) 0 ∧
    lo.shape = Diagonal.outShape p.vals.shape (Diagonal.destAxes ax)
      (Diagonal.padShape (Diagonal.leftDims ax) (Diagonal.rightDims ax li.shape.length) li.shape) ∧
    (den E (.leaf u .broadcastDiagonal p) x).length = p.outS.size := by
  intro li lo ax oi
  have hl : p.inS.leaves.length = p.outS.leaves.length := h.2.length_eq
  have hden : den E (.leaf u .broadcastDiagonal p) x
      = perLeaf (diagLeaf false p.vals (axesOf p)) p.inS.leaves p.outS.leaves x :=
    (leafDen_of_len hx).trans (fit_eq_self (perLeaf_length _ _ _ _ hl))
  obtain ⟨y, hy, hys⟩ := forall₂_getD h.2 k hk (leafChunk p.inS.leaves k x)
  obtain ⟨-, -, hshape, hyl, hyd⟩ := apply_ok_closed false (castT p.vals) _ y (axesOf p) haxes hy
  have hq' : q < prodNat y.shape := by rw [hys]; exact hq
  refine ⟨?_, by rw [← hys]; exact hshape, leafDen_length E u .broadcastDiagonal p x⟩
  rw [← leafChunk_getD p.outS.leaves k _ q hq, hden, perLeaf_leafChunk _ _ _ hl x k (by omega)]
  unfold diagLeaf
  rw [hy]
  simp only [exData]
  rw [fit_eq_self (by rw [hyl, hys]; rfl)]
  have e := hyd q hq'
  rw [hys] at e
  rw [show y.data.getD q 0 = y.data.getD q default from rfl, e, ← castT_getD]
  rfl

end leaf

end Furax.C11

/-! ### non-vacuity

`{'tod': (2, 3), 'ground': (2,)}` (leaves of DIFFERENT rank), gains `[5, 0]` along axis `0` — the example of the
Python docstring, smaller, with a vanishing gain. -/

namespace Furax.C11.ClosedExamples
open Furax ListSem Op

def sTG : Struct := ⟨[.node "dict:ground,tod" 2, .leaf, .leaf], [⟨[2], .f64⟩, ⟨[2, 3], .f64⟩]⟩
def gainP : Params := { inS := sTG, outS := sTG, vals := ⟨[2], [5, 0]⟩, ints := [[0]] }

/-- the executable validity check is sound and complete (`Valid.diagonal_iff`): it decides `diagonalOK` of a concrete
operator -/
theorem gainP_ok : diagonalOK gainP := (Valid.diagonal_iff gainP).mp (by decide)

theorem gainP_axes : (axesOf gainP).length = gainP.vals.shape.length := rfl

/-- the hypotheses of `diagonal_entry_closed` are met: entry `(1, 1)` (flat `4`) of the leaf `tod` (leaf `1`, offset
`2`) is multiplied by `values[1] = 0`, entry `0` of the leaf `ground` by `values[0] = 5` -/
example (E : Env) (x : V) (hx : x.length = 8) :
    (den E (.leaf 7 .diagonal gainP) x).getD (2 + 4) 0 = ((0 : Rat) : ℝ) * x.getD (2 + 4) 0 :=
  diagonal_entry_closed E 7 gainP_ok gainP_axes x hx 1 (by decide) 4 (by decide)

example (E : Env) (x : V) (hx : x.length = 8) :
    (den E (.leaf 7 .diagonal gainP) x).getD (0 + 0) 0 = ((5 : Rat) : ℝ) * x.getD (0 + 0) 0 :=
  diagonal_entry_closed E 7 gainP_ok gainP_axes x hx 0 (by decide) 0 (by decide)

example : valueAt gainP.vals (axesOf gainP) [2, 3] 4 = 0 ∧ valueAt gainP.vals (axesOf gainP) [2, 3] 2 = 5 ∧
    leafOffset gainP.inS 1 = 2 := by decide

/-- the pseudo-inverse multiplies by `1/5` and by `0` -/
example (E : Env) (x : V) (hx : x.length = 8) :
    (den E (.wrap 9 .diagInv (.leaf 7 .diagonal gainP)) x).getD (2 + 2) 0 = (((1 / 5 : Rat)) : ℝ) * x.getD (2 + 2) 0 :=
  diagInv_entry_closed E 9 7 gainP_ok gainP_axes x hx 1 (by decide) 2 (by decide)

example (E : Env) (x : V) (hx : x.length = 8) :
    den E (.comp 3 [.leaf 7 .diagonal gainP, .wrap 9 .diagInv (.leaf 7 .diagonal gainP), .leaf 7 .diagonal gainP]) x
      = den E (.leaf 7 .diagonal gainP) x :=
  (moore_penrose_closed E 3 9 7 gainP_ok x hx).1

/-- a rank-2 array of values with a dimension of length `1`, laid along the axes `(0, -1)` of a `(2, 3)` leaf:
`out[i, j] = values[0, j] * x[i, j]` -/
def rowP : Params :=
  { inS := ⟨[.leaf], [⟨[2, 3], .f64⟩]⟩, outS := ⟨[.leaf], [⟨[2, 3], .f64⟩]⟩, vals := ⟨[1, 3], [7, 8, 9]⟩, ints := [[0, -1]] }

theorem rowP_ok : diagonalOK rowP := (Valid.diagonal_iff rowP).mp (by decide)

example (E : Env) (x : V) (hx : x.length = 6) :
    (den E (.leaf 7 .diagonal rowP) x).getD (0 + 5) 0 = ((9 : Rat) : ℝ) * x.getD (0 + 5) 0 :=
  diagonal_entry_closed E 7 rowP_ok rfl x hx 0 (by decide) 5 (by decide)

/-- the broadcasting variant, the first example of the Python docstring: `x` of shape `(3,)`, values of shape `(2, 3)`,
`axis_destination = -1` (normalised by the constructor to `(-2, -1)`): the output has shape `(2, 3)` and
`out[i, j] = values[i, j] * x[j]` -/
def bcP : Params :=
  { inS := ⟨[.leaf], [⟨[3], .f64⟩]⟩, outS := ⟨[.leaf], [⟨[2, 3], .f64⟩]⟩, vals := ⟨[2, 3], [1, 1, 1, 2, 1, 0]⟩,
    ints := [[-2, -1]] }

example : Diagonal.normalizeSpec 2 (.scalar (-1)) = [-2, -1] := by decide

theorem bcP_ok : broadcastDiagonalOK bcP := by
  refine ⟨rfl, .cons (fun c => ?_) .nil⟩
  obtain ⟨y, hy, hys, -⟩ := Diagonal.apply_general false (castT bcP.vals) (⟨[3], c⟩ : Tensor ℝ) (.seq [-2, -1])
    [-1, 0] (by rfl) (List.cons_ne_nil _ _) (by rfl) (by decide)
    (by intro k hk
        have : k = 0 ∨ k = 1 := by change k < 2 at hk; omega
        rcases this with rfl | rfl
        · exact Or.inr (Or.inr (by rfl))
        · exact Or.inl (by rfl))
  refine ⟨y, hy, ?_⟩
  rw [hys]
  rfl

/-- `out[1, 0] = values[1, 0] * x[0] = 2 * x[0]` (flat position `3` of the only output leaf) -/
example (E : Env) (x : V) (hx : x.length = 3) :
    (den E (.leaf 7 .broadcastDiagonal bcP) x).getD (0 + 3) 0
      = ((2 : Rat) : ℝ) * (leafChunk bcP.inS.leaves 0 x).getD 0 0 :=
  (broadcastDiagonal_entry_closed E 7 bcP_ok rfl x hx 0 (by decide) 3 (by decide)).1

/-! #### the hypothesis `haxes` is needed

ONE destination axis for a 2-dimensional array of values: the constructor accepts it (`diagonalOK`; so does the Python
class, whose docstring asks for as many axes as dimensions but whose constructor does not check it — `jnp.moveaxis`
then moves the leading dimension of the values only), and the operator multiplies entry `(0, 1)` by `values[0, 1] = 2`,
not by the entry `values[0, 0] = 1` the formula of `diagonal_entry_closed` would read. -/

def shortP : Params :=
  { inS := ⟨[.leaf], [⟨[2, 3], .f64⟩]⟩, outS := ⟨[.leaf], [⟨[2, 3], .f64⟩]⟩, vals := ⟨[2, 3], [1, 2, 3, 4, 5, 6]⟩,
    ints := [[0]] }

theorem shortP_ok : diagonalOK shortP := (Valid.diagonal_iff shortP).mp (by decide)

theorem short_diagVec : diagVec shortP
    = [((1 : Rat) : ℝ), ((2 : Rat) : ℝ), ((3 : Rat) : ℝ), ((4 : Rat) : ℝ), ((5 : Rat) : ℝ), ((6 : Rat) : ℝ)] := by
  with_unfolding_all rfl

theorem haxes_needed (E : Env) :
    diagonalOK shortP ∧ (axesOf shortP).length ≠ shortP.vals.shape.length ∧
    (den E (.leaf 1 .diagonal shortP) [1, 1, 1, 1, 1, 1]).getD (leafOffset shortP.inS 0 + 1) 0
      ≠ ((valueAt shortP.vals (axesOf shortP) [2, 3] 1 : Rat) : ℝ)
          * ([1, 1, 1, 1, 1, 1] : V).getD (leafOffset shortP.inS 0 + 1) 0 := by
  refine ⟨shortP_ok, by decide, ?_⟩
  rw [den_diagonal E 1 shortP shortP_ok _ rfl, short_diagVec]
  have hv : valueAt shortP.vals (axesOf shortP) [2, 3] 1 = 1 := by decide
  rw [hv]
  show ((2 : Rat) : ℝ) * 1 ≠ ((1 : Rat) : ℝ) * 1
  norm_num

end Furax.C11.ClosedExamples

#print axioms Furax.C11.diagonal_leaf_facts
#print axioms Furax.C11.diagonal_entry_closed
#print axioms Furax.C11.diagonal_structure_closed
#print axioms Furax.C11.diagonal_one_vector
#print axioms Furax.C11.diagInv_closed
#print axioms Furax.C11.diagInv_entry_closed
#print axioms Furax.C11.diagInv_values
#print axioms Furax.C11.moore_penrose_closed
#print axioms Furax.C11.diagInv_inverse_closed
#print axioms Furax.C11.broadcastDiagonal_entry_closed
#print axioms Furax.C11.ClosedExamples.haxes_needed
