/-
C12 — Indexing and packing select, and their transposes scatter-add.

`Index.gather`, `Index.scatterAdd`, `ruleCoverage`, `Index.uniqueFlag`, `Index.indexCtor`, `indexedAxes`,
`Index.indexPositions` are the functions the compiled driver executes.  The position map of an index
expression (`indexPositions`, NumPy's rules) is validated differentially; the theorems below hold for ANY
position list, hence for whatever positions an index expression selects.
-/
import FuraxProofs.Lemmas.GatherScatter
namespace Furax.C12
open Furax Index

/-- **the transpose accumulates the selected positions into a zero array**: scatter-add is the exact adjoint
of gather, `⟨P x, y⟩ = ⟨x, Pᵀ y⟩`, for every position list (repeated positions allowed) -/
theorem transpose_is_scatter_add {α : Type} [CommSemiring α] [Inhabited α] (n : Nat) (pos : List Nat)
    (y x : List α) (hpos : ∀ p ∈ pos, p < n) (hy : y.length = pos.length) (hx : x.length = n) :
    (((gather pos x).zip y).map fun p => p.1 * p.2).sum =
    (((scatterAdd n pos y).zip x).map fun p => p.1 * p.2).sum :=
  scatter_adjoint n pos y x hpos hy hx

/-- **`P @ P.T` is the identity when no input element is selected twice** … -/
theorem ppT_identity_of_nodup {α : Type} [AddMonoid α] [Inhabited α] (n : Nat) (pos : List Nat) (y : List α)
    (hnd : pos.Nodup) (hpos : ∀ p ∈ pos, p < n) (hy : y.length = pos.length) :
    gather pos (scatterAdd n pos y) = y := gather_scatter_id n pos y hnd hpos hy

/-- … and only then: with a repeated position it is not (kernel-checked witness) -/
theorem ppT_not_identity_with_duplicates :
    gather [0, 0] (scatterAdd 1 [0, 0] [(1 : Int), 2]) ≠ [1, 2] := by decide

/-- **`P.T @ P` is the diagonal of selection multiplicities** -/
theorem pTp_is_multiplicity_diagonal {α : Type} [CommSemiring α] [Inhabited α] (n : Nat) (pos : List Nat)
    (x : List α) (hpos : ∀ p ∈ pos, p < n) (hx : x.length = n) :
    scatterAdd n pos (gather pos x) = (List.range n).map fun p => (pos.count p : α) * x.getD p 0 :=
  scatter_gather_mult n pos x hpos hx

/-- **what `TransposeIndexRule` computes is that diagonal**: for every in-bounds integer index array — negative
and repeated entries allowed — `unique(size=n, fill_value=-1)` + scatter-add gives the multiplicities -/
theorem rule_computes_multiplicities (n : Nat) (index : List Int)
    (h : ∀ i ∈ index, -(n : Int) ≤ i ∧ i < n) : ruleCoverage n index = mult n index :=
  ruleCoverage_eq_mult n index h

/-- the rule without normalisation of negative aliases (`ruleCoverageUnnormalised`, finding F2 of DESIGN.md §6) does
not: kernel-checked counterexample, replayed on the implementation by the harness corpus -/
theorem unnormalised_rule_counterexample :
    ruleCoverageUnnormalised 3 [0, 1, 2, -1, -2, -3] ≠ mult 3 [0, 1, 2, -1, -2, -3] := by decide

/-- **what `uniqueFlag` does**: the stored flag is `True` iff the tuple contains no integer array, or the caller
passed `unique_indices=True` -/
theorem unique_flag_iff (idx : List IdxEntry) (given : Option Bool) :
    uniqueFlag idx given = true ↔ (∀ e ∈ idx, ∀ sh v, e ≠ .iarr sh v) ∨ given = some true := by
  have hall : (idx.all fun e => match e with
      | .int _ | .slice .. | .ellipsis | .barr .. => true | .iarr .. => false) = true ↔
      ∀ e ∈ idx, ∀ sh v, e ≠ .iarr sh v := by
    rw [List.all_eq_true]
    refine forall₂_congr fun e _ => ?_
    cases e with
    | iarr sh v => exact ⟨(fun h => nomatch h), fun h => absurd rfl (h sh v)⟩
    | _ => exact ⟨(fun _ _ _ h => nomatch h), fun _ => rfl⟩
  unfold uniqueFlag
  split
  · rename_i h
    exact iff_of_true rfl (.inl (hall.mp h))
  · rename_i h
    rw [or_iff_right (fun h' => h (hall.mpr h'))]
    cases given with
    | none => exact ⟨(fun h => nomatch h), (fun h => nomatch h)⟩
    | some b => exact ⟨fun h => congrArg some h, fun h => Option.some.inj h⟩

/-- the `unique_indices` flag is forced for index tuples without integer arrays (ints, slices, an ellipsis,
boolean masks never select an element twice), whatever the caller passed -/
theorem unique_flag_forced (idx : List IdxEntry) (given : Option Bool)
    (h : ∀ e ∈ idx, ∀ sh v, e ≠ .iarr sh v) : uniqueFlag idx given = true :=
  (unique_flag_iff idx given).mpr (.inl h)

/-- with an integer array present the flag is what the caller says, `False` by default -/
theorem unique_flag_default (idx : List IdxEntry) (sh : List Nat) (v : List Int) (h : IdxEntry.iarr sh v ∈ idx) :
    uniqueFlag idx none = false ∧ uniqueFlag idx (some true) = true := by
  refine ⟨Bool.eq_false_iff.mpr fun ht => ?_, (unique_flag_iff idx (some true)).mpr (.inr rfl)⟩
  rcases (unique_flag_iff idx none).mp ht with h' | h'
  · exact h' _ h sh v rfl
  · cases h'

/-- construction: a second ellipsis, or a boolean mask without an explicit output structure, is refused;
everything else is accepted with or without an output structure -/
theorem ctor_accepts_without_output_structure (idx : List IdxEntry)
    (h1 : (idx.filter (· == .ellipsis)).length ≤ 1)
    (h2 : ∀ e ∈ idx, ∀ sh v, e ≠ .barr sh v) (hasOut : Bool) : indexCtor idx hasOut = .ok () := by
  unfold indexCtor
  split
  · omega
  · split
    · rename_i hc
      simp only [Bool.and_eq_true, List.any_eq_true] at hc
      obtain ⟨_, e, he, hm⟩ := hc
      cases e with
      | barr sh v => exact absurd rfl (h2 _ he sh v)
      | _ => simp at hm
    · rfl

end Furax.C12
