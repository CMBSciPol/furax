/-
C12 — indexing without integer arrays never selects an element twice.

`IndexOperator.__init__` (src/furax/_base/indices.py) forces `unique_indices = True` for an indices tuple made of
Python integers, slices, the ellipsis and boolean arrays, and `IndexTransposeRule` then rewrites `P @ P.T` to the
identity.  The theorems below prove, on the executable model (`Index.sliceIndices`, `Index.toSels`,
`Index.indexPositions`, `Index.uniqueFlag`), that this is sound for EVERY tuple for which the constructor infers
the flag (`inferred_flag_sound`), on every shape: the flat positions selected are pairwise distinct and in bounds, so
`gather pos ∘ scatterAdd n pos = id`.  Section (d) spells out the case of integers, slices and one ellipsis, for which
the flag is set whatever the caller passed.
A 0-d boolean mask (`x[jnp.array(True)]`, to which NumPy answers with a new axis of length 1) is a no-op in
`Index.toSels`: it selects no position of its own, and the statements about distinct positions hold either way.
-/
import FuraxProofs.Lemmas.BasicIndexNodup
import FuraxProofs.Lemmas.MaskIndexNodup
import FuraxProofs.Props.C12
import FuraxProofs.Sem.LeafLaws
namespace Furax.C12
open Furax Index

/-! ## (a) slices -/

/-- **a slice never selects a coordinate twice, and stays in bounds**: whatever the signs of start / stop / step and
whichever of them are `None`, `range(*slice(start, stop, step).indices(len))` is duplicate-free and in `[0, len)` -/
theorem slice_nodup_inbounds (start stop step : Option Int) (len : Nat) (l : List Nat)
    (h : sliceIndices start stop step len = .ok l) : l.Nodup ∧ ∀ x ∈ l, x < len :=
  sliceIndices_nodup start stop step len l h

example : sliceIndices (some 7) (some (-9)) (some (-3)) 5 = .ok [4, 1] := by decide

/-- more precisely it is strictly increasing for a positive step and strictly decreasing for a negative one -/
theorem slice_strictly_monotone (start stop step : Option Int) (len : Nat) (l : List Nat)
    (h : sliceIndices start stop step len = .ok l) :
    (0 < step.getD 1 ∧ l.Pairwise (· < ·)) ∨ (step.getD 1 < 0 ∧ l.Pairwise (· > ·)) :=
  (sliceIndices_sorted start stop step len l h).2

example : sliceIndices (some (-1)) none (some (-2)) 5 = .ok [4, 2, 0] := by decide

/-- `step = 0` is an error (`ValueError: slice step cannot be zero`) … -/
theorem slice_step_zero (start stop : Option Int) (len : Nat) :
    sliceIndices start stop (some 0) len = .error .valueError :=
  sliceIndices_step_zero start stop (some 0) len rfl

/-- … and the only one -/
theorem slice_error_iff (start stop step : Option Int) (len : Nat) (e : PyErr) :
    sliceIndices start stop step len = .error e ↔ step = some 0 ∧ e = .valueError := by
  constructor
  · intro h
    by_cases hne : step.getD 1 = 0
    · rw [sliceIndices_step_zero start stop step len hne] at h
      injection h with h
      refine ⟨?_, h.symm⟩
      cases step with
      | none => cases hne
      | some s => exact congrArg some hne
    · rw [sliceIndices_eq start stop step len hne] at h
      cases h
  · rintro ⟨rfl, rfl⟩
    exact slice_step_zero start stop len

/-- the list is exactly CPython's `range(*slice(start, stop, step).indices(len))` (`pySliceIndices` transcribes
`PySlice_Unpack` / `PySlice_AdjustIndices`): `x` is selected iff `x = a + k·step` for some `k ≥ 0`, before `b` in the
direction of the step.  In particular the recursion bound `len + 1` of the model's `pyRange` is never reached. -/
theorem slice_is_python_range (start stop step : Option Int) (len : Nat) (l : List Nat)
    (h : sliceIndices start stop step len = .ok l) (x : Nat) :
    x ∈ l ↔ ∃ k : Nat,
      (x : Int) = (pySliceIndices start stop step len).1 + k * (pySliceIndices start stop step len).2.2 ∧
      (if 0 < (pySliceIndices start stop step len).2.2 then (x : Int) < (pySliceIndices start stop step len).2.1
       else (pySliceIndices start stop step len).2.1 < (x : Int)) := by
  obtain ⟨hs, rfl⟩ := sliceIndices_ok start stop step len l h
  show _ ↔ ∃ k : Nat, _ = _ + k * step.getD 1 ∧ (if 0 < step.getD 1 then _ else _)
  rw [exists_and_right]
  rcases hs with hpos | hneg
  · obtain ⟨ha, hb⟩ := pySliceIndices_bounds_pos start stop step len hpos
    rw [if_pos hpos]
    exact pyRange_pos_mem _ _ _ _ hpos ha.1 (by omega) x
  · obtain ⟨ha, hb⟩ := pySliceIndices_bounds_neg start stop step len hneg
    rw [if_neg (by omega)]
    exact pyRange_neg_mem _ _ _ _ hneg hb.1 (by omega) x

example : pySliceIndices (some 7) (some (-9)) (some (-3)) 5 = (4, -1, -3) := by decide

/-! ## (b) index expressions without integer arrays -/

/-- `prodNat` (the model's product of a shape) is `List.prod` -/
theorem prodNat_eq_prod (l : List Nat) : prodNat l = l.prod := by
  induction l with
  | nil => rfl
  | cons d ds ih => rw [Furax.prodNat_cons, List.prod_cons, ih]

/-- **indexing without integer arrays never selects an element twice** (integers, slices, the ellipsis and boolean
masks of any rank, any number of them) -/
theorem noiarr_index_nodup (shape : List Nat) (idx : List IdxEntry) (outShape pos : List Nat)
    (hb : ∀ e ∈ idx, e.isNoIarr = true) (h : indexPositions shape idx = .ok (outShape, pos)) :
    pos.Nodup ∧ (∀ p ∈ pos, p < shape.prod) ∧ pos.length = outShape.prod := by
  rw [← prodNat_eq_prod, ← prodNat_eq_prod]
  exact indexPositions_noIarr shape idx outShape pos hb h

/-- `x[1, ::-1, mask]` on shape `(2, 3, 2)` -/
theorem positions_mask_example :
    indexPositions [2, 3, 2] [.int 1, .slice none none (some (-1)), .barr [2] [true, true]]
      = .ok ([2, 3], [10, 8, 6, 11, 9, 7]) := by decide +kernel

/-- two masks `x[m1, m2]` on shape `(2, 3)` are paired element-wise (second instance) -/
example : indexPositions [2, 3, 2] [.int 1, .slice none none (some (-1)), .barr [2] [true, true]]
    = .ok ([2, 3], [10, 8, 6, 11, 9, 7]) := positions_mask_example
example : indexPositions [2, 3] [.barr [2] [false, true], .barr [3] [true, false, true]] = .ok ([2], [3, 5]) := by
  decide +kernel

/-! ## (c) the inferred flag and the rule `P @ P.T → I` -/

/-- the flag inferred by the constructor (`unique_indices=None`) is `True` exactly on the tuples without integer
array -/
theorem unique_flag_inferred_iff_noiarr (idx : List IdxEntry) :
    uniqueFlag idx none = true ↔ ∀ e ∈ idx, e.isNoIarr = true := by
  rw [unique_flag_iff, or_iff_left (fun h => nomatch h)]
  refine forall₂_congr fun e _ => ?_
  cases e with
  | iarr sh v => exact ⟨fun h => absurd rfl (h sh v), fun h => nomatch h⟩
  | _ => exact ⟨fun _ => rfl, fun _ _ _ h => nomatch h⟩

/-- **the inferred flag** (`unique_indices=None`): `True` exactly when every entry is an integer, a slice, the
ellipsis or a boolean mask, i.e. when there is no integer array -/
theorem unique_flag_inferred_iff (idx : List IdxEntry) :
    uniqueFlag idx none = true ↔ ∀ e ∈ idx, e.isBasic = true ∨ ∃ sh v, e = .barr sh v := by
  rw [unique_flag_inferred_iff_noiarr]
  exact forall₂_congr fun e _ => isNoIarr_iff e

/-- **the inferred flag is sound**: whenever `IndexOperator.__init__` infers `unique_indices = True` and `x[indices]`
is defined, no input element is selected twice and `P @ P.T` is the identity, so `IndexTransposeRule` may fire -/
theorem inferred_flag_sound {α : Type} [AddMonoid α] [Inhabited α] (shape : List Nat) (idx : List IdxEntry)
    (outShape pos : List Nat) (hflag : uniqueFlag idx none = true)
    (h : indexPositions shape idx = .ok (outShape, pos)) :
    pos.Nodup ∧ (∀ p ∈ pos, p < shape.prod) ∧ pos.length = outShape.prod ∧
      ∀ y : List α, y.length = outShape.prod → gather pos (scatterAdd shape.prod pos y) = y := by
  obtain ⟨h1, h2, h3⟩ := noiarr_index_nodup shape idx outShape pos
    ((unique_flag_inferred_iff_noiarr idx).mp hflag) h
  exact ⟨h1, h2, h3, fun y hy => ppT_identity_of_nodup shape.prod pos y h1 h2 (by rw [hy, h3])⟩

example : uniqueFlag [.barr [2] [false, true], .barr [3] [true, false, true]] none = true := by decide

/-- the well-formedness hypotheses of `ListSem.indexLeafOK` / `ListSem.packOK` on the position list are theorems
for every tuple without integer array (in particular for the mask of a `PackOperator`) -/
theorem indexLeafOK_of_noiarr (idx : List IdxEntry) (uniq : Prop) (li lo : LeafS) (pos : List Nat)
    (hb : ∀ e ∈ idx, e.isNoIarr = true) (h : indexPositions li.shape idx = .ok (lo.shape, pos))
    (hd : lo.dtype = li.dtype) : ListSem.indexLeafOK idx uniq li lo := by
  obtain ⟨h1, h2, _⟩ := indexPositions_noIarr li.shape idx lo.shape pos hb h
  exact ⟨pos, h, h2, fun _ => h1, hd⟩

/-- **`IndexTransposeRule` on the list denotation, for every tuple on which the flag is inferred** -/
theorem index_pair_inferred (E : ListSem.Env) (u uo : Nat) (p : Params)
    (hflag : p.flag = uniqueFlag p.idx none) (hinf : uniqueFlag p.idx none = true)
    (htd : p.outS.td = p.inS.td)
    (hleaves : List.Forall₂ (fun li lo => (∃ pos, indexPositions li.shape p.idx = .ok (lo.shape, pos)) ∧
      lo.dtype = li.dtype) p.inS.leaves p.outS.leaves) :
    ∀ x : ListSem.V, x.length = p.outS.size →
      ListSem.den E (.leaf uo .index p) (ListSem.den E (.wrap u .transpose (.leaf uo .index p)) x) = x := by
  have hf : p.flag = true := by rw [hflag]; exact hinf
  refine ListSem.index_pair E u uo p ⟨htd, hleaves.imp ?_⟩ hf
  rintro li lo ⟨⟨pos, hp⟩, hd⟩
  exact indexLeafOK_of_noiarr p.idx _ li lo pos ((unique_flag_inferred_iff_noiarr p.idx).mp hinf) hp hd

/-- non-vacuity of the hypotheses of `index_pair_inferred`: a mask on the last axis of a leaf of shape `(2, 3, 2)` -/
example :
    let p : Params := { inS := ⟨[Tok.leaf], [⟨[2, 3, 2], .f64⟩]⟩, outS := ⟨[Tok.leaf], [⟨[2, 3], .f64⟩]⟩,
                        idx := [.int 1, .slice none none (some (-1)), .barr [2] [true, true]], flag := true }
    p.flag = uniqueFlag p.idx none ∧ uniqueFlag p.idx none = true ∧ p.outS.td = p.inS.td ∧
      List.Forall₂ (fun li lo => (∃ pos, indexPositions li.shape p.idx = .ok (lo.shape, pos)) ∧
        lo.dtype = li.dtype) p.inS.leaves p.outS.leaves := by
  exact ⟨by decide, by decide, rfl, .cons ⟨⟨[10, 8, 6, 11, 9, 7], positions_mask_example⟩, rfl⟩ .nil⟩

/-! ## (d) integers, slices and the ellipsis -/

/-- **basic indexing never selects an element twice**: for every shape and every indices tuple made of integers,
slices and the ellipsis, if `x[indices]` is defined then the flat row-major positions it selects are pairwise
distinct, all `< prod shape`, and there are `prod outShape` of them -/
theorem basic_index_nodup (shape : List Nat) (idx : List IdxEntry) (outShape pos : List Nat)
    (hb : ∀ e ∈ idx, e.isBasic = true) (h : indexPositions shape idx = .ok (outShape, pos)) :
    pos.Nodup ∧ (∀ p ∈ pos, p < shape.prod) ∧ pos.length = outShape.prod := by
  exact noiarr_index_nodup shape idx outShape pos (fun e he => (isNoIarr_iff e).mpr (.inl (hb e he))) h

/-- `x[::-2, ..., 3]` on shape `(4, 5, 6)` -/
theorem positions_basic_example :
    indexPositions [4, 5, 6] [.slice none none (some (-2)), .ellipsis, .int 3]
      = .ok ([2, 5], [93, 99, 105, 111, 117, 33, 39, 45, 51, 57]) := by decide +kernel

/-- non-vacuity: `x[::-2, ..., 3]` on shape `(4, 5, 6)` -/
example : (∀ e ∈ [IdxEntry.slice none none (some (-2)), .ellipsis, .int 3], e.isBasic = true) ∧
    indexPositions [4, 5, 6] [.slice none none (some (-2)), .ellipsis, .int 3]
      = .ok ([2, 5], [93, 99, 105, 111, 117, 33, 39, 45, 51, 57]) :=
  ⟨by decide, positions_basic_example⟩

/-- `x[-1, 5:-4:-1]` on shape `(2, 3)`: negative integer, out-of-range start clamped, negative stop and step -/
example : indexPositions [2, 3] [.int (-1), .slice (some 5) (some (-4)) (some (-1))] = .ok ([3], [5, 4, 3]) := by
  decide +kernel

/-- **`IndexTransposeRule` is sound for basic indexing**: `gather pos ∘ scatterAdd (prod shape) pos` is the identity
on the vectors of the output size -/
theorem ppT_identity_basic {α : Type} [AddMonoid α] [Inhabited α] (shape : List Nat) (idx : List IdxEntry)
    (outShape pos : List Nat) (hb : ∀ e ∈ idx, e.isBasic = true)
    (h : indexPositions shape idx = .ok (outShape, pos)) (y : List α) (hy : y.length = outShape.prod) :
    gather pos (scatterAdd shape.prod pos y) = y := by
  obtain ⟨h1, h2, h3⟩ := basic_index_nodup shape idx outShape pos hb h
  exact ppT_identity_of_nodup shape.prod pos y h1 h2 (by rw [hy, h3])

example : gather [93, 99, 105, 111, 117, 33, 39, 45, 51, 57]
    (scatterAdd [4, 5, 6].prod [93, 99, 105, 111, 117, 33, 39, 45, 51, 57] [(1 : Int), 2, 3, 4, 5, 6, 7, 8, 9, 10])
    = [1, 2, 3, 4, 5, 6, 7, 8, 9, 10] :=
  ppT_identity_basic [4, 5, 6] [.slice none none (some (-2)), .ellipsis, .int 3] [2, 5] _ (by decide)
    positions_basic_example _ rfl

/-- a basic tuple always gets `unique_indices = True`, whatever the caller passed -/
theorem unique_flag_of_basic (idx : List IdxEntry) (given : Option Bool) (hb : ∀ e ∈ idx, e.isBasic = true) :
    uniqueFlag idx given = true := by
  refine unique_flag_forced idx given fun e he sh v hev => ?_
  subst hev
  exact nomatch hb _ he

example : uniqueFlag [.slice none none (some (-2)), .ellipsis, .int 3] (some false) = true := by decide

/-- the two well-formedness hypotheses on the position list in `ListSem.indexLeafOK` (in bounds; distinct when the
flag is set) are theorems for a basic tuple -/
theorem indexLeafOK_of_basic (idx : List IdxEntry) (uniq : Prop) (li lo : LeafS) (pos : List Nat)
    (hb : ∀ e ∈ idx, e.isBasic = true) (h : indexPositions li.shape idx = .ok (lo.shape, pos))
    (hd : lo.dtype = li.dtype) : ListSem.indexLeafOK idx uniq li lo := by
  exact indexLeafOK_of_noiarr idx uniq li lo pos (fun e he => (isNoIarr_iff e).mpr (.inl (hb e he))) h hd

/-- **`IndexTransposeRule` on the list denotation, for a basic tuple**: whenever every leaf of the input structure can
be indexed and the output structure is the structure of the results, `index ∘ indexᵀ` is the identity — with the flag
the constructor stores (`uniqueFlag`), and no assumption on the positions -/
theorem index_pair_basic (E : ListSem.Env) (u uo : Nat) (p : Params) (given : Option Bool)
    (hb : ∀ e ∈ p.idx, e.isBasic = true) (hflag : p.flag = uniqueFlag p.idx given)
    (htd : p.outS.td = p.inS.td)
    (hleaves : List.Forall₂ (fun li lo => (∃ pos, indexPositions li.shape p.idx = .ok (lo.shape, pos)) ∧
      lo.dtype = li.dtype) p.inS.leaves p.outS.leaves) :
    p.flag = true ∧ ∀ x : ListSem.V, x.length = p.outS.size →
      ListSem.den E (.leaf uo .index p) (ListSem.den E (.wrap u .transpose (.leaf uo .index p)) x) = x := by
  have hf : p.flag = true := by rw [hflag]; exact unique_flag_of_basic p.idx given hb
  refine ⟨hf, ListSem.index_pair E u uo p ⟨htd, hleaves.imp ?_⟩ hf⟩
  rintro li lo ⟨⟨pos, hp⟩, hd⟩
  exact indexLeafOK_of_basic p.idx _ li lo pos hb hp hd

/-- non-vacuity of the hypotheses of `index_pair_basic`: `IndexOperator((slice(None, None, -2), ..., 3))` on one
leaf of shape `(4, 5, 6)` -/
example :
    let p : Params := { inS := ⟨[Tok.leaf], [⟨[4, 5, 6], .f64⟩]⟩, outS := ⟨[Tok.leaf], [⟨[2, 5], .f64⟩]⟩,
                        idx := [.slice none none (some (-2)), .ellipsis, .int 3], flag := true }
    (∀ e ∈ p.idx, e.isBasic = true) ∧ p.flag = uniqueFlag p.idx none ∧ p.outS.td = p.inS.td ∧
      List.Forall₂ (fun li lo => (∃ pos, indexPositions li.shape p.idx = .ok (lo.shape, pos)) ∧
        lo.dtype = li.dtype) p.inS.leaves p.outS.leaves := by
  exact ⟨by decide, by decide, rfl,
    .cons ⟨⟨[93, 99, 105, 111, 117, 33, 39, 45, 51, 57], positions_basic_example⟩, rfl⟩ .nil⟩

/-! ## (e) integer arrays can select an element twice -/

/-- **with an integer array the flag must not be inferred**: `x[jnp.array([1, 1])]` on shape `(3,)` selects position 1
twice (also through a negative alias, `[1, -2]`), the constructor leaves the flag `False`, and `P @ P.T` is not the
identity -/
theorem iarr_duplicates :
    indexPositions [3] [.iarr [2] [1, 1]] = .ok ([2], [1, 1]) ∧
    indexPositions [3] [.iarr [2] [1, -2]] = .ok ([2], [1, 1]) ∧
    ¬ ([1, 1] : List Nat).Nodup ∧
    uniqueFlag [.iarr [2] [1, 1]] none = false ∧
    gather [1, 1] (scatterAdd 3 [1, 1] [(1 : Int), 2]) ≠ [1, 2] := by
  refine ⟨by decide +kernel, by decide +kernel, by decide, by decide, by decide⟩

/-- so `basic_index_nodup` does not extend to tuples with an integer array -/
theorem basic_index_nodup_needs_basic :
    ¬ ∀ (shape : List Nat) (idx : List IdxEntry) (outShape pos : List Nat),
      indexPositions shape idx = .ok (outShape, pos) → pos.Nodup := by
  intro h
  exact iarr_duplicates.2.2.1 (h [3] [.iarr [2] [1, 1]] [2] [1, 1] iarr_duplicates.1)

end Furax.C12
