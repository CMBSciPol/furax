/-
C13 — Axis operators are exact relabellings of array elements.

In the model a ravel / reshape never touches the row-major data list (`Tensor.data` is returned unchanged by
construction: only the shape is recomputed), so "merely relabels" is about shapes and sizes for those two; for
move-axis the data is permuted by `transposeData` along the order computed by NumPy's algorithm.
-/
import FuraxProofs.Lemmas.AxesBasic
import FuraxProofs.Lemmas.MoveAxisPerm
namespace Furax.C13
open Furax Axes

/-- **move-axis**: the axis order NumPy's algorithm computes is a permutation of all axes — every rank, every
sign of the arguments, every number of moved axes -/
theorem moveaxis_is_permutation (ndim : Nat) (src dst : List Int) (order : List Nat)
    (h : moveaxisOrder ndim src dst = .ok order) : order.Perm (List.range ndim) :=
  moveaxisOrder_perm ndim src dst order h

/-- every moved axis lands at its destination (`out.shape[d_k] = in.shape[s_k]`) … -/
theorem moveaxis_destinations (ndim : Nat) (src dst : List Int) (s d order : List Nat)
    (hs : normAxisTuple ndim src = .ok s) (hd : normAxisTuple ndim dst = .ok d)
    (h : moveaxisOrder ndim src dst = .ok order) :
    ∀ k, k < s.length → order[d.getD k 0]? = some (s.getD k 0) :=
  (moveaxisOrder_facts ndim src dst s d order hs hd h).dest

/-- … and the other axes keep their relative order -/
theorem moveaxis_rest_in_order (ndim : Nat) (src dst : List Int) (s order : List Nat)
    (hs : normAxisTuple ndim src = .ok s) (h : moveaxisOrder ndim src dst = .ok order) :
    order.filter (fun n => !s.contains n) = (List.range ndim).filter (fun n => !s.contains n) := by
  obtain ⟨s', d, hs', -, F⟩ := moveaxisOrder_ok h
  cases hs.symm.trans hs'
  exact F.rest

/-- **the transpose (source and destination swapped) is the inverse**: it always exists and restores shape
and data exactly — move-axis merely relabels elements -/
theorem moveaxis_transpose_is_inverse {α} [Inhabited α] (t t' : Tensor α) (src dst : List Int)
    (hwf : t.data.length = prodNat t.shape) (h : moveaxis t src dst = .ok t') :
    moveaxis t' dst src = .ok t := moveaxis_roundtrip t t' src dst hwf h

/-- arguments that cannot apply (an axis out of range, a repeated axis, tuples of different lengths) are
rejected: whatever is accepted consists of distinct in-range axes -/
theorem moveaxis_accepts_only_valid_axes (ndim : Nat) (axes : List Int) (l : List Nat)
    (h : normAxisTuple ndim axes = .ok l) : l.Nodup ∧ ∀ x ∈ l, x < ndim := normAxisTuple_spec h

/-- ravel preserves the number of elements of every leaf it accepts (all argument signs, all ranks) -/
theorem ravel_preserves_size (first last : Int) (shape out : List Nat)
    (h : ravelShape first last shape = .ok out) : prodNat out = prodNat shape := by
  unfold ravelShape at h
  by_cases h1 : normSigned shape.length first > normSigned shape.length last
  · rw [if_pos h1] at h; cases h
  rw [if_neg h1] at h
  by_cases h2 : normSigned shape.length first = normSigned shape.length last
  · rw [if_pos h2] at h; cases h; rfl
  rw [if_neg h2] at h
  obtain ⟨m, hm, h⟩ := except_bind_eq_ok h
  cases h
  have := inferDim_size _ _ _ hm
  rw [prodNat_append] at this
  rw [prodNat_append, prodNat_append, prodNat_singleton, Nat.mul_right_comm]
  exact this

/-- a ravel whose two axes coincide leaves the shape alone (the only no-op besides one-axis merges) -/
theorem ravel_same_axis (a : Int) (shape : List Nat) : ravelShape a a shape = .ok shape := by
  simp [ravelShape]

/-- `first` after `last` with equal signs is refused at construction, whatever the leaves -/
theorem ravel_rejects_first_after_last (first last : Int) (ranks : List Nat)
    (h : (0 ≤ last ∧ last < first) ∨ (last < first ∧ first < 0)) :
    ravelCtor first last ranks = .error .valueError := by
  simp [ravelCtor, h]

/-- mixed signs: refused exactly when some leaf has its (normalised) first axis after its last one -/
theorem ravel_mixed_rejects_iff (first last : Int) (ranks : List Nat)
    (hm : (first < 0 ∧ 0 ≤ last) ∨ (last < 0 ∧ 0 ≤ first)) :
    ravelCtor first last ranks = .error .valueError ↔
      ∃ r ∈ ranks, normSigned r first > normSigned r last := by
  have h1 : ¬ ((0 ≤ last ∧ last < first) ∨ (last < first ∧ first < 0)) := by omega
  have e : (∃ r ∈ ranks, normSigned r first > normSigned r last) ↔
      ranks.any (fun r => decide (normSigned r first > normSigned r last)) = true := by
    simp only [List.any_eq_true, decide_eq_true_eq]
  unfold ravelCtor
  rw [if_neg h1, if_pos hm, e]
  split
  · rename_i ha; exact ⟨fun _ => ha, fun _ => rfl⟩
  · rename_i ha; exact ⟨fun h => (nomatch h), fun h => absurd h ha⟩

theorem not_mem_take_idxOf (a : Int) (l : List Int) : a ∉ l.take (l.idxOf a) := by
  induction l with
  | nil => exact List.not_mem_nil
  | cons b l ih =>
    by_cases hb : b = a
    · rw [hb, List.idxOf_cons_self]; exact List.not_mem_nil
    · rw [List.idxOf_cons_ne _ hb, List.take_succ_cons, List.mem_cons]
      exact fun e => e.elim (fun e => hb e.symm) ih

/-- what `_normalize_shape` has checked when it accepts: no entry below −1, and either no −1 (the target is taken
literally) or exactly one, which is replaced by the quotient of the leaf's size by the product of the others -/
theorem normalizeShape_ok {target : List Int} {leaf : List Nat} {ns : List Int}
    (h : normalizeShape target leaf = .ok ns) :
    (∀ a ∈ target, -1 ≤ a) ∧
    (((-1 : Int) ∉ target ∧ ns = target) ∨
      ∃ before after, target = before ++ -1 :: after ∧ (-1 : Int) ∉ before ∧ (-1 : Int) ∉ after ∧
        target.foldl (· * ·) 1 ≠ 0 ∧
        ns = before ++ [(-(prodNat leaf : Int)) / target.foldl (· * ·) 1] ++ after) := by
  unfold normalizeShape at h
  by_cases h1 : target.any (· < -1) = true
  · rw [if_pos h1] at h; cases h
  rw [if_neg h1] at h
  refine ⟨fun a ha => ?_, ?_⟩
  · by_contra hlt
    exact h1 (List.any_eq_true.mpr ⟨a, ha, decide_eq_true (Int.not_le.mp hlt)⟩)
  by_cases h2 : target.idxOf (-1) ≥ target.length
  · rw [if_pos h2] at h
    cases h
    exact .inl ⟨fun hm => absurd (List.idxOf_lt_length_iff.mpr hm) (Nat.not_lt.mpr h2), rfl⟩
  rw [if_neg h2] at h
  by_cases h3 : (target.drop (target.idxOf (-1) + 1)).contains (-1) = true
  · rw [if_pos h3] at h; cases h
  rw [if_neg h3] at h
  by_cases h4 : target.foldl (· * ·) 1 = 0
  · rw [if_pos h4] at h; cases h
  rw [if_neg h4] at h
  simp only at h
  split at h
  · cases h
  cases h
  have hidx : target.idxOf (-1) < target.length := Nat.lt_of_not_ge h2
  refine .inr ⟨_, _, ?_, not_mem_take_idxOf _ _, fun hm => h3 (List.contains_iff_mem.mpr hm), h4, rfl⟩
  conv => lhs; rw [← List.take_append_drop (target.idxOf (-1)) target, List.drop_eq_getElem_cons hidx,
    List.getElem_idxOf hidx]

/-- a reshape accepted for a leaf has exactly the leaf's size: the normalised target `ns` (with `−1` resolved) has
product `prodNat leaf`, and the output shape is `ns` -/
theorem reshape_preserves_size (target : List Int) (leaf out : List Nat)
    (h : reshapeCheck target leaf = .ok out) :
    ∃ ns, normalizeShape target leaf = .ok ns ∧ ns.foldl (· * ·) 1 = (prodNat leaf : Int) ∧ out = ns.map Int.toNat := by
  unfold reshapeCheck at h
  obtain ⟨ns, hns, h⟩ := except_bind_eq_ok h
  simp only at h
  split at h
  · cases h
  · rename_i hp
    cases h
    exact ⟨ns, hns, by simpa using hp, rfl⟩

/-- sizes below −1 and a second −1 are rejected -/
theorem reshape_rejects_bad_entries (target : List Int) (leaf : List Nat) (h : target.any (· < -1) = true) :
    reshapeCheck target leaf = .error .valueError := by
  simp [reshapeCheck, normalizeShape, h, bind, Except.bind]

/-- a target without −1 is taken literally -/
theorem reshape_literal (target : List Int) (leaf : List Nat) (h1 : target.any (· < -1) = false)
    (h2 : ¬ (-1 : Int) ∈ target) : normalizeShape target leaf = .ok target := by
  have : target.idxOf (-1) ≥ target.length := by rw [List.idxOf_eq_length h2]; exact Nat.le_refl _
  simp [normalizeShape, h1, this]

/-! concrete, kernel-evaluated instances: NumPy's documented examples -/
example : moveaxisOrder 3 [0] [-1] = .ok [1, 2, 0] := by rfl
example : moveaxisOrder 3 [-1] [0] = .ok [2, 0, 1] := by rfl
example : moveaxisOrder 3 [0, 1] [-1, -2] = .ok [2, 1, 0] := by rfl
example : moveaxisOrder 3 [0, 0] [1, 2] = .error .valueError := by rfl
example : moveaxisOrder 2 [2] [0] = .error .valueError := by rfl
example : ravelShape (-2) (-1) [2, 3, 4] = .ok [2, 12] := by rfl
example : reshapeCheck [3, -1] [2, 6] = .ok [3, 4] := by rfl
example : reshapeCheck [5, -1] [2, 6] = .error .valueError := by rfl

end Furax.C13
