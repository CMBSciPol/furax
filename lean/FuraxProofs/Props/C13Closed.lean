/-
C13 — Axis operators are exact relabellings of array elements: the closed statements, in the ONE list denotation
`den E o : List ℝ → List ℝ` (FuraxProofs/Sem/ListSem.lean).

A flat vector is the leaves of the pytree concatenated, each leaf row-major; `leafChunk ls k x` is leaf `k` of `x` on
the leaves `ls`, and entry `q` of leaf `k` sits at `offset sizes k + q`.

`den` of a `MoveAxisOperator` leaf is, on every leaf, `(Axes.moveaxis leaf source destination).data`: the entry at
output multi-index `j` is the input entry at the multi-index `i` with `i[order[m]] = j[m]`, `order` the axis order
`numpy.moveaxis` computes (FuraxProofs/Lemmas/MoveAxisPerm.lean).  `den` of a `RavelOperator` / `ReshapeOperator` leaf
is the identity on the flat data, leaf by leaf.  For each of the three, `denT` — equivalently `den` of the form
`transposeOp` builds — is the inverse map on both sides.  `reduce` sends a ravel / reshape leaf to the identity exactly
when its declared output structure IS its input structure, and NEVER a move-axis leaf: a move-axis on a square leaf
has an unchanged STRUCTURE but is not the identity map (`ClosedExamples.moveaxis_square_not_identity`).
-/
import FuraxProofs.Props.C13
import FuraxProofs.Sem.AxesClosed
import FuraxProofs.Sem.TagsList
import FuraxProofs.Sem.AcquisitionList
import Mathlib.Algebra.Order.BigOperators.Ring.List
import Mathlib.Algebra.BigOperators.Group.List.Basic
namespace Furax.C13
open Furax ListSem Op Axes

/-- `source` and `destination` of a move-axis leaf -/
abbrev srcOf (p : Params) : List Int := p.ints.getD 0 []
abbrev dstOf (p : Params) : List Int := p.ints.getD 1 []

section moveaxis
variable (E : Env) {p : Params}

theorem den_moveAxis (u : Nat) (h : moveAxisOK p) (x : V) (hx : x.length = p.inS.size) :
    den E (.leaf u .moveAxis p) x = perLeaf (moveLeaf (srcOf p) (dstOf p)) p.inS.leaves p.outS.leaves x :=
  (leafDen_of_len hx).trans (fit_eq_self (perLeaf_length _ _ _ _ h.2.length_eq))

/-- **C13, move-axis, closed (leaf by leaf).**  Leaf `k` of `MoveAxisOperator.mv(x)` is
`jnp.moveaxis(leaf k of x, source, destination)`: `Axes.moveaxis` accepts the leaf, returns a tensor of the declared
output shape — the input shape transposed by the axis order `numpy.moveaxis` computes — and its data is leaf `k` of
the result -/
theorem moveaxis_leaf_closed (u : Nat) (h : moveAxisOK p) (x : V) (hx : x.length = p.inS.size) (k : Nat)
    (hk : k < p.inS.leaves.length) :
    ∃ order t,
      moveaxisOrder (p.inS.leaves.getD k default).shape.length (srcOf p) (dstOf p) = .ok order ∧
      moveaxis (⟨(p.inS.leaves.getD k default).shape, leafChunk p.inS.leaves k x⟩ : Tensor ℝ) (srcOf p) (dstOf p)
        = .ok t ∧
      t.shape = (p.outS.leaves.getD k default).shape ∧
      (p.outS.leaves.getD k default).shape = transposeShape (p.inS.leaves.getD k default).shape order ∧
      leafChunk p.outS.leaves k (den E (.leaf u .moveAxis p) x) = t.data := by
  have hl : p.inS.leaves.length = p.outS.leaves.length := h.2.length_eq
  obtain ⟨order, ho, hs, -⟩ := forall₂_getD h.2 k hk
  have h1 := moveaxis_of_order (p.inS.leaves.getD k default).shape (leafChunk p.inS.leaves k x) (srcOf p) (dstOf p)
    order ho
  refine ⟨order, _, ho, h1, hs.symm, hs, ?_⟩
  rw [den_moveAxis E u h x hx, perLeaf_leafChunk _ _ _ hl x k (hl ▸ hk), moveLeaf, h1]
  exact fit_eq_self ((transposeData_length _ _ _).trans (by rw [LeafS.size, hs]))

/-- **C13, move-axis, closed (entry by entry).**  With `order` the axis order of leaf `k`, the entry of leaf `k` of the
result at the output multi-index `j` is the entry of leaf `k` of the input at the multi-index
`i = transposeIdx … order j`, which is a valid multi-index of the input leaf and satisfies `i[order[m]] = j[m]`:
the operator permutes the entries of every leaf by the axis permutation, nothing else -/
theorem moveaxis_entry_closed (u : Nat) (h : moveAxisOK p) (x : V) (hx : x.length = p.inS.size) (k : Nat)
    (hk : k < p.inS.leaves.length) (order : List Nat)
    (ho : moveaxisOrder (p.inS.leaves.getD k default).shape.length (srcOf p) (dstOf p) = .ok order)
    (j : List Nat) (hj : List.Forall₂ (· < ·) j (p.outS.leaves.getD k default).shape) :
    let li := p.inS.leaves.getD k default
    let lo := p.outS.leaves.getD k default
    let i := transposeIdx li.shape.length order j
    (den E (.leaf u .moveAxis p) x).getD (offset (p.outS.leaves.map LeafS.size) k + ravelIdx lo.shape j) 0
      = x.getD (offset (p.inS.leaves.map LeafS.size) k + ravelIdx li.shape i) 0 ∧
    List.Forall₂ (· < ·) i li.shape ∧ (∀ m, m < li.shape.length → i.getD (order.getD m 0) 0 = j.getD m 0) ∧
    order.Perm (List.range li.shape.length) := by
  intro li lo i
  obtain ⟨order', t, ho', ht, -, hs, hchunk⟩ := moveaxis_leaf_closed E u h x hx k hk
  cases Except.ok.inj (ho'.symm.trans ho)
  have hperm := moveaxisOrder_perm _ _ _ _ ho
  have hq := (ma_ravel_valid lo.shape j hj).1
  rw [hs] at hj
  obtain ⟨hv, hinv⟩ := transposeIdx_valid li.shape order j hperm hj
  refine ⟨?_, hv, hinv, hperm⟩
  rw [moveaxis_of_order li.shape _ _ _ order ho] at ht
  cases ht
  rw [← leafChunk_getD p.outS.leaves k _ _ hq, hchunk, hs]
  exact (transposeData_getD li.shape order _ j hj).trans
    (leafChunk_getD p.inS.leaves k x _ (ma_ravel_valid li.shape i hv).1)

/-- **the output has the declared structure**: the same treedef, leaf `k` of shape `transpose(shape of leaf k)`, the
same number of elements leaf by leaf, and the result has one entry per element of it -/
theorem moveaxis_structure_closed (u : Nat) (h : moveAxisOK p) (x : V) :
    Op.outS (.leaf u .moveAxis p) = p.outS ∧ p.outS.td = p.inS.td ∧
    (den E (.leaf u .moveAxis p) x).length = p.outS.size ∧ p.outS.size = p.inS.size ∧
    ∀ k, k < p.inS.leaves.length → (p.outS.leaves.getD k default).size = (p.inS.leaves.getD k default).size := by
  have hsz : ∀ li lo : LeafS, (∃ order, moveaxisOrder li.shape.length (srcOf p) (dstOf p) = .ok order ∧
      lo.shape = transposeShape li.shape order ∧ lo.dtype = li.dtype) → lo.size = li.size := by
    rintro li lo ⟨order, ho, hs, -⟩
    rw [LeafS.size, hs, transposeShape, prodNat_perm ((moveaxisOrder_perm _ _ _ _ ho).map _), ma_map_getD_range]
    rfl
  refine ⟨rfl, h.1, leafDen_length E u .moveAxis p x, sum_size_of_forall₂ _ _ _ h.2 hsz, fun k hk => ?_⟩
  exact hsz _ _ (forall₂_getD h.2 k hk)

end moveaxis

section reshape
variable (E : Env) {p : Params} {c : LeafCls}

/-- **C13, ravel / reshape, closed.**  `RavelOperator.mv` / `ReshapeOperator.mv` do not touch the flat row-major data:
`den` is the identity on the vectors of the input size, the declared output leaves have the sizes (hence the
positions) of the input leaves, and leaf `k` of the result is leaf `k` of the input, relabelled -/
theorem reshape_closed (u : Nat) (hc : c = .ravel ∨ c = .reshape) (h : reshapeOK p) (x : V)
    (hx : x.length = p.inS.size) :
    den E (.leaf u c p) x = x ∧ Op.outS (.leaf u c p) = p.outS ∧ p.outS.td = p.inS.td ∧
    p.outS.size = p.inS.size ∧
    ∀ k, k < p.inS.leaves.length →
      (p.outS.leaves.getD k default).size = (p.inS.leaves.getD k default).size ∧
      offset (p.outS.leaves.map LeafS.size) k = offset (p.inS.leaves.map LeafS.size) k ∧
      leafChunk p.outS.leaves k (den E (.leaf u c p) x) = leafChunk p.inS.leaves k x := by
  have hs := reshapeOK_size h
  have hden : den E (.leaf u c p) x = x := by
    rcases hc with rfl | rfl <;> exact (leafDen_of_len hx).trans (fit_eq_self (hx.trans hs.symm))
  refine ⟨hden, by rcases hc with rfl | rfl <;> rfl, h.1, hs, fun k hk => ?_⟩
  have hk1 : (p.outS.leaves.getD k default).size = (p.inS.leaves.getD k default).size := forall₂_getD h.2 k hk
  have hk2 := offset_eq_of_forall₂ _ _ _ h.2 (fun _ _ e => e) k
  refine ⟨hk1, hk2, ?_⟩
  rw [hden]
  unfold leafChunk
  rw [hk1, hk2]

/-- the validity of a ravel leaf follows from the shape kernel: if every declared output leaf has the shape
`Axes.ravelShape` computes (and the treedef is kept), the leaf sizes agree -/
theorem reshapeOK_of_ravelShape (first last : Int) (htd : p.outS.td = p.inS.td)
    (h : List.Forall₂ (fun li lo : LeafS => ravelShape first last li.shape = .ok lo.shape) p.inS.leaves p.outS.leaves) :
    reshapeOK p :=
  ⟨htd, h.imp fun _ _ hr => ravel_preserves_size first last _ _ hr⟩

theorem prodNat_toNat (ns : List Int) (h : ∀ a ∈ ns, 0 ≤ a) :
    ((prodNat (ns.map Int.toNat) : Nat) : Int) = ns.foldl (· * ·) 1 := by
  rw [← List.prod_eq_foldl]
  induction ns with
  | nil => rfl
  | cons v l ih =>
    rw [List.map_cons, prodNat_cons, Nat.cast_mul, Int.toNat_of_nonneg (h v List.mem_cons_self), List.prod_cons,
      ih fun w hw => h w (List.mem_cons_of_mem _ hw)]

theorem normalizeShape_nonneg (target : List Int) (leaf : List Nat) (ns : List Int)
    (h : normalizeShape target leaf = .ok ns) : ∀ a ∈ ns, 0 ≤ a := by
  have pos : ∀ a : Int, -1 ≤ a → a ≠ -1 → 0 ≤ a := fun a h1 h2 => by omega
  obtain ⟨hge, ⟨hno, rfl⟩ | ⟨before, after, rfl, hb, ha, -, rfl⟩⟩ := normalizeShape_ok h
  · exact fun a ha => pos a (hge a ha) fun e => hno (e ▸ ha)
  · have hB : ∀ a ∈ before, 0 ≤ a := fun a ha' =>
      pos a (hge a (List.mem_append_left _ ha')) fun e => hb (e ▸ ha')
    have hA : ∀ a ∈ after, 0 ≤ a := fun a ha' =>
      pos a (hge a (List.mem_append_right _ (List.mem_cons_of_mem _ ha'))) fun e => ha (e ▸ ha')
    -- the product of the target carries the sign of its `-1`, and `-size / product` that of two non-positive numbers
    have hp : (before ++ -1 :: after).foldl (· * ·) 1 ≤ 0 := by
      rw [← List.prod_eq_foldl, List.prod_append, List.prod_cons, Int.neg_mul, Int.one_mul, Int.mul_neg]
      exact Int.neg_nonpos_of_nonneg (Int.mul_nonneg (List.prod_nonneg hB) (List.prod_nonneg hA))
    intro a ha
    rw [List.append_assoc, List.mem_append, List.singleton_append, List.mem_cons] at ha
    rcases ha with ha | rfl | ha
    · exact hB a ha
    · exact Int.ediv_nonneg_of_nonpos_of_nonpos (Int.neg_nonpos_of_nonneg (Int.natCast_nonneg _)) hp
    · exact hA a ha

/-- an accepted reshape keeps the number of elements of the leaf: `Axes.reshapeCheck` returns a shape of the leaf's size -/
theorem reshapeCheck_size (target : List Int) (leaf out : List Nat) (h : reshapeCheck target leaf = .ok out) :
    prodNat out = prodNat leaf := by
  obtain ⟨ns, hns, hp, rfl⟩ := reshape_preserves_size target leaf out h
  have := prodNat_toNat ns (normalizeShape_nonneg target leaf ns hns)
  rw [hp] at this
  exact_mod_cast this

/-- the validity of a reshape leaf follows from the shape kernel -/
theorem reshapeOK_of_reshapeCheck {p : Params} (target : List Int) (htd : p.outS.td = p.inS.td)
    (h : List.Forall₂ (fun li lo : LeafS => reshapeCheck target li.shape = .ok lo.shape) p.inS.leaves p.outS.leaves) :
    reshapeOK p :=
  ⟨htd, h.imp fun _ _ hr => reshapeCheck_size target _ _ hr⟩

end reshape

section transposes
variable (E : Env) {p : Params} {c : LeafCls}

/-- **move-axis**: `op.T` is the move-axis leaf with source and destination (and the structures) swapped, `denT` is
its `den`, it is valid, and it undoes the operator on both sides -/
theorem moveaxis_transpose_closed (u : Nat) (h : moveAxisOK p) :
    transposeOp (.leaf u .moveAxis p) = .ok (.leaf 0 .moveAxis (swapMoveAxis p)) ∧
    inverseOp (.leaf u .moveAxis p) = .ok (.leaf 0 .moveAxis (swapMoveAxis p)) ∧
    denT E (.leaf u .moveAxis p) = den E (.leaf 0 .moveAxis (swapMoveAxis p)) ∧
    moveAxisOK (swapMoveAxis p) ∧
    (∀ x : V, x.length = p.inS.size → denT E (.leaf u .moveAxis p) (den E (.leaf u .moveAxis p) x) = x) ∧
    (∀ y : V, y.length = p.outS.size → den E (.leaf u .moveAxis p) (denT E (.leaf u .moveAxis p) y) = y) := by
  obtain ⟨hi, hinv⟩ := moveAxis_inverts E u p h
  refine ⟨rfl, hi, denT_moveAxis E u p, moveAxisOK_swap p h,
    fun x hx => ?_, fun y hy => ?_⟩
  · rw [denT_moveAxis]; exact hinv.left x hx
  · rw [denT_moveAxis]; exact hinv.right y hy

/-- **ravel / reshape**: `op.T` is `ReshapeTransposeOperator(op)`, whose `den` is `denT` of the leaf, the identity on
the flat data; it undoes the operator on both sides -/
theorem reshape_transpose_closed (uw u : Nat) (hc : c = .ravel ∨ c = .reshape) (h : reshapeOK p) :
    transposeOp (.leaf u c p) = .ok (.wrap 0 .reshapeT (.leaf u c p)) ∧
    den E (.wrap uw .reshapeT (.leaf u c p)) = denT E (.leaf u c p) ∧
    (∀ y : V, y.length = p.outS.size → denT E (.leaf u c p) y = y) ∧
    (∀ x : V, x.length = p.inS.size → denT E (.leaf u c p) (den E (.leaf u c p) x) = x) ∧
    (∀ y : V, y.length = p.outS.size → den E (.leaf u c p) (denT E (.leaf u c p) y) = y) := by
  have e : den E (.wrap uw .reshapeT (.leaf u c p)) = denT E (.leaf u c p) := den_wrap_T (by decide) (by decide)
  obtain ⟨h1, h2⟩ := reshape_pair E uw u c p hc h
  rw [e] at h1 h2
  -- `den` is the identity on the image of `denT`, which it inverts
  exact ⟨by rcases hc with rfl | rfl <;> rfl, e,
    fun y hy => (reshape_closed E u hc h _ (leafDenT_length E u c p y)).1.symm.trans (h2 y hy), h1, h2⟩

end transposes

section reduce

/-- **what `reduce()` does to a ravel / reshape leaf** (`AbstractRavelOrReshapeOperator.reduce`): the identity of the
input structure when `out_structure() == in_structure()`, the leaf itself otherwise -/
theorem reduce_reshape_closed (fuel u : Nat) (c : LeafCls) (p : Params) (hc : c = .ravel ∨ c = .reshape) :
    reduce (fuel + 1) (.leaf u c p) = .ok (if p.outS = p.inS then mkIdentity p.inS else .leaf u c p) := by
  rcases hc with rfl | rfl <;> simp only [reduce, beq_iff_eq, apply_ite Except.ok]

/-- … hence the identity EXACTLY when the declared output structure is the input structure -/
theorem reduce_reshape_identity_iff (fuel u : Nat) (c : LeafCls) (p : Params) (hc : c = .ravel ∨ c = .reshape) :
    reduce (fuel + 1) (.leaf u c p) = .ok (mkIdentity p.inS) ↔ p.outS = p.inS := by
  rw [reduce_reshape_closed fuel u c p hc]
  constructor
  · intro h
    by_contra hne
    rw [if_neg hne] at h
    rcases hc with rfl | rfl <;> simp [mkIdentity] at h
  · intro h; rw [if_pos h]

/-- for a valid leaf whose `reshape` keeps the dtypes (it does), the structures are equal exactly when EVERY leaf's
shape is unchanged -/
theorem struct_eq_iff_shapes (p : Params) (h : reshapeOK p)
    (hd : List.Forall₂ (fun li lo : LeafS => lo.dtype = li.dtype) p.inS.leaves p.outS.leaves) :
    p.outS = p.inS ↔ List.Forall₂ (fun li lo : LeafS => lo.shape = li.shape) p.inS.leaves p.outS.leaves := by
  constructor
  · intro e
    rw [e]
    exact List.forall₂_same.mpr fun _ _ => rfl
  · intro hsh
    have hleaves : p.outS.leaves = p.inS.leaves := by
      refine forall₂_eq_of _ _ _ (List.Forall₂.mp (fun _ _ => And.intro) hsh hd) ?_
      rintro ⟨s1, d1⟩ ⟨s2, d2⟩ ⟨e1, e2⟩
      simp only at e1 e2
      rw [e1, e2]
    cases hA : p.outS; cases hB : p.inS
    have htd := h.1
    rw [hA, hB] at htd hleaves
    simp only at htd hleaves
    rw [htd, hleaves]

/-- **`reduce()` never touches a move-axis leaf** (`MoveAxisOperator` has no `reduce` override), whatever its
structures — in particular when they are equal -/
theorem reduce_moveaxis_closed (fuel u : Nat) (p : Params) :
    reduce (fuel + 1) (.leaf u .moveAxis p) = .ok (.leaf u .moveAxis p) ∧
    reduceTop (.leaf u .moveAxis p) = .ok (.leaf u .moveAxis p) ∧
    reduce (fuel + 1) (.leaf u .moveAxis p) ≠ .ok (mkIdentity p.inS) := by
  refine ⟨rfl, rfl, ?_⟩
  show Except.ok (Op.leaf u .moveAxis p) ≠ .ok (mkIdentity p.inS)
  simp [mkIdentity]

end reduce

end Furax.C13

/-! ### non-vacuity, and the witness -/

namespace Furax.C13.ClosedExamples
open Furax ListSem Op Axes

/-- a pair of leaves of DIFFERENT rank, `(2, 3)` and `(2, 3, 4)`: `moveaxis(·, 0, -1)` -/
def mvP : Params :=
  { inS := ⟨[.node "tuple" 2, .leaf, .leaf], [⟨[2, 3], .f64⟩, ⟨[2, 3, 4], .f64⟩]⟩,
    outS := ⟨[.node "tuple" 2, .leaf, .leaf], [⟨[3, 2], .f64⟩, ⟨[3, 4, 2], .f64⟩]⟩,
    ints := [[0], [-1]] }

theorem mvP_ok : moveAxisOK mvP :=
  ⟨rfl, .cons ⟨[1, 0], rfl, rfl, rfl⟩ (.cons ⟨[1, 2, 0], rfl, rfl, rfl⟩ .nil)⟩

/-- the hypotheses of `moveaxis_entry_closed` are met: in leaf `0`, `out[1, 0] = in[0, 1]` (flat `2 ← 1`); in leaf `1`
(offset `6`), `out[2, 3, 1] = in[1, 2, 3]` (flat positions `6 + ravelIdx …`, second instance) -/
example (E : Env) (x : V) (hx : x.length = 30) : (den E (.leaf 5 .moveAxis mvP) x).getD 2 0 = x.getD 1 0 :=
  (moveaxis_entry_closed E 5 mvP_ok x hx 0 (by decide) [1, 0] rfl [1, 0] (by decide)).1

example (E : Env) (x : V) (hx : x.length = 30) :
    (den E (.leaf 5 .moveAxis mvP) x).getD (6 + ravelIdx [3, 4, 2] [2, 3, 1]) 0
      = x.getD (6 + ravelIdx [2, 3, 4] [1, 2, 3]) 0 :=
  (moveaxis_entry_closed E 5 mvP_ok x hx 1 (by decide) [1, 2, 0] rfl [2, 3, 1] (by decide)).1

example : transposeIdx 3 [1, 2, 0] [2, 3, 1] = [1, 2, 3] := by decide

example (E : Env) (x : V) (hx : x.length = 30) :
    denT E (.leaf 5 .moveAxis mvP) (den E (.leaf 5 .moveAxis mvP) x) = x :=
  (moveaxis_transpose_closed E 5 mvP_ok).2.2.2.2.1 x hx

/-- **the witness**: a move-axis on a SQUARE leaf.  Its output structure IS its input structure, it is valid,
`reduce()` leaves it alone — and rightly so: it is not the identity map (it transposes the leaf).  A `reduce` that
returned the identity for it, as it does for a ravel / reshape with unchanged structure, would be wrong. -/
def sqP : Params :=
  { inS := ⟨[.leaf], [⟨[2, 2], .f64⟩]⟩, outS := ⟨[.leaf], [⟨[2, 2], .f64⟩]⟩, ints := [[0], [1]] }

theorem sqP_ok : moveAxisOK sqP := ⟨rfl, .cons ⟨[1, 0], rfl, rfl, rfl⟩ .nil⟩

/-- the kernel, evaluated: `moveaxis([[1, 2], [3, 4]], 0, 1) = [[1, 3], [2, 4]]` -/
theorem sq_kernel : moveaxis (⟨[2, 2], [1, 2, 3, 4]⟩ : Tensor Int) [0] [1] = .ok ⟨[2, 2], [1, 3, 2, 4]⟩ := by decide

theorem moveaxis_square_not_identity (E : Env) (u : Nat) :
    sqP.outS = sqP.inS ∧ moveAxisOK sqP ∧
    reduceTop (.leaf u .moveAxis sqP) = .ok (.leaf u .moveAxis sqP) ∧
    den E (.leaf u .moveAxis sqP) [1, 2, 3, 4] ≠ [1, 2, 3, 4] := by
  refine ⟨rfl, sqP_ok, rfl, fun h => ?_⟩
  have e := (moveaxis_entry_closed E u sqP_ok [1, 2, 3, 4] rfl 0 (by decide) [1, 0] rfl [0, 1] (by decide)).1
  rw [h] at e
  have e' : ([1, 2, 3, 4] : V).getD 1 0 = ([1, 2, 3, 4] : V).getD 2 0 := e
  norm_num at e'

/-- a ravel of the last two axes of a `(2, 3, 4)` leaf: valid by the shape kernel, not reduced (the structures
differ), the identity on the flat data -/
def rvP : Params :=
  { inS := ⟨[.leaf], [⟨[2, 3, 4], .f64⟩]⟩, outS := ⟨[.leaf], [⟨[2, 12], .f64⟩]⟩, ints := [[-2], [-1]] }

theorem rvP_ok : reshapeOK rvP := reshapeOK_of_ravelShape (-2) (-1) rfl (.cons rfl .nil)

example (E : Env) (x : V) (hx : x.length = 24) : den E (.leaf 4 .ravel rvP) x = x :=
  (reshape_closed E 4 (.inl rfl) rvP_ok x hx).1

example : reduceTop (.leaf 4 .ravel rvP) = .ok (.leaf 4 .ravel rvP) := rfl

/-- a reshape `(2, 6) → (3, -1)`: valid by the shape kernel -/
def rsP : Params :=
  { inS := ⟨[.leaf], [⟨[2, 6], .f64⟩]⟩, outS := ⟨[.leaf], [⟨[3, 4], .f64⟩]⟩, ints := [[3, -1]] }

theorem rsP_ok : reshapeOK rsP := reshapeOK_of_reshapeCheck [3, -1] rfl (.cons rfl .nil)

example (E : Env) (y : V) (hy : y.length = 12) :
    den E (.leaf 4 .reshape rsP) (denT E (.leaf 4 .reshape rsP) y) = y :=
  (reshape_transpose_closed E 0 4 (.inr rfl) rsP_ok).2.2.2.2 y hy

/-- a ravel whose structures are equal IS reduced to the identity -/
example : reduceTop (.leaf 3 .ravel (Acq.ravelP .IQU 4)) = .ok (mkIdentity (Acq.skyS .IQU 4)) := rfl

end Furax.C13.ClosedExamples

#print axioms Furax.C13.moveaxis_leaf_closed
#print axioms Furax.C13.moveaxis_entry_closed
#print axioms Furax.C13.moveaxis_structure_closed
#print axioms Furax.C13.reshape_closed
#print axioms Furax.C13.reshapeOK_of_ravelShape
#print axioms Furax.C13.reshapeCheck_size
#print axioms Furax.C13.reshapeOK_of_reshapeCheck
#print axioms Furax.C13.moveaxis_transpose_closed
#print axioms Furax.C13.reshape_transpose_closed
#print axioms Furax.C13.reduce_reshape_closed
#print axioms Furax.C13.reduce_reshape_identity_iff
#print axioms Furax.C13.struct_eq_iff_shapes
#print axioms Furax.C13.reduce_moveaxis_closed
#print axioms Furax.C13.ClosedExamples.sq_kernel
#print axioms Furax.C13.ClosedExamples.moveaxis_square_not_identity
