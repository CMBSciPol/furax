/-
C14 — Einsum block operator and its rewritten-subscript transpose agree.

`transposeCore` (FuraxModel/Einsum.lean) is the rewriting the compiled driver executes on the characters of
the subscripts.  `Phi d B x y L R O = Σ_σ B[σ L]·x[σ R]·y[σ O]` is the bilinear form `⟨einsum("L,R->O", B, x), y⟩`
with tensors as functions on multi-indices and `d` the size of every letter (an ellipsis is a block of further
letters of the alphabet).
-/
import FuraxProofs.Lemmas.EinsumAdjoint
namespace Furax.C14
open Furax Einsum

variable {ι : Type} [DecidableEq ι]

/-- what a successful rewriting looks like: a single contracted letter `s`, a single free block letter `t`,
every occurrence of the two swapped in the block subscripts, and input / output subscripts that are each
other's image under the swap -/
theorem rewriting_shape (isDot : ι → Bool) (L R O L' : List ι) (h : transposeCore isDot L R O = .ok L') :
    ∃ s t : ι, s ≠ t ∧ isDot s = false ∧ isDot t = false ∧ s ∈ L ∧ s ∈ R ∧ s ∉ O ∧ t ∈ L ∧ t ∈ O ∧ t ∉ R ∧
      L' = swapAll s t L ∧ swapAll s t O = R ∧ swapAll s t R = O :=
  transposeCore_spec isDot L R O L' h

/-- **the rewritten subscripts give the exact adjoint**: `⟨A x, y⟩ = ⟨x, Aᵀ y⟩` with the same block data, for
every subscript string the rewriting accepts — any letter order, repeated letters, any ellipsis placement,
any sizes, any block data and inputs -/
theorem transposed_is_adjoint {α : Type} [CommRing α] [Fintype ι] (isDot : ι → Bool) (L R O L' : List ι)
    (h : transposeCore isDot L R O = .ok L') (d : ι → ℕ) (B x y : List ℕ → α) :
    ∃ s t : ι, Phi d B x y L R O = Phi (d ∘ Equiv.swap s t) B y x L' R O :=
  Einsum.transposed_is_adjoint isDot L R O L' h d B x y

/-- **strings for which no such rewriting exists are rejected**: the only way to fail is `ValueError`; it
happens exactly when there is not a single contracted letter, not a single free block letter, or the input
layout is not the output layout with the free letter replaced (`Einsum.transposeCore_error_iff`) -/
theorem rejected_iff (isDot : ι → Bool) (L R O : List ι) (e : PyErr)
    (h : transposeCore isDot L R O = .error e) : e = .valueError := transposeCore_error isDot L R O e h

theorem rejects_without_single_contracted_axis (isDot : ι → Bool) (L R O : List ι)
    (h : (contracted isDot L R O).length ≠ 1) : transposeCore isDot L R O = .error .valueError :=
  transposeCore_reject_contracted isDot L R O h

theorem rejects_without_single_free_axis (isDot : ι → Bool) (L R O : List ι)
    (h : (freeBlock isDot L R O).length ≠ 1) : transposeCore isDot L R O = .error .valueError :=
  transposeCore_reject_freeBlock isDot L R O h

/-! kernel-evaluated instances -/
example : transposeCore (· == '.') ['i', 'k', 'j'] ['k', 'j'] ['k', 'i'] = .ok ['j', 'k', 'i'] := by decide
example : transposeCore (· == '.') ['i', 'i', 'j'] ['j'] ['i'] = .ok ['j', 'j', 'i'] := by decide
example : transposeCore (· == '.') ['i', 'j'] ['i', 'j'] ['i', 'j'] = .error .valueError := by decide

end Furax.C14
