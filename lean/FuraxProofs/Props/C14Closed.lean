/-
C14, closed in the list denotation — `DenseBlockDiagonalOperator` (one block array shared by the leaves) as a map on
flat real vectors (`ListSem.denseLeaf`, FuraxProofs/Sem/DenseLeaf.lean), built from the executable kernel
`Einsum.einsum2`, and its transpose as built by the form model `transposeOp` (`ListSem.denseLeafT`).

Under `denseOK p` (the subscripts parse, the transposer accepts them, every leaf fits its term exactly) the leaf
returns vectors of the declared size, `⟨A x, y⟩ = ⟨x, Aᵀ y⟩`, the form `transposeOp` builds denotes `Aᵀ` and is valid
again, and the dense matrix of the transpose is the transposed matrix; linearity needs no hypothesis.  Concrete
instances with kernel-evaluated entries are in `C14.Examples`.
The string-level adjoint theorems of Props/C14Eval.lean are restated WITHOUT the read-back hypothesis `hrt`
(`einsum2_adjoint_closed`, `einsum2_adjoint_ellipsis_closed`): `readback` proves it from
`Einsum.parseSubscripts_readback`.
-/
import FuraxProofs.Sem.DenseLeaf
import FuraxProofs.Sem.DenseMatrix
namespace Furax.C14
open Furax Einsum ListSem
open scoped Furax.Einsum.CharAlphabet

/-- the parser reads back the subscripts that `_get_transposed_subscripts` prints -/
theorem readback (l r o : String) (tl tr tO : Term) (hpl : parseTerm l.toList = .ok tl)
    (hpr : parseTerm r.toList = .ok tr) (hpo : parseTerm o.toList = .ok tO)
    (hchars : ∀ c ∈ l.toList, isLetter c = true ∨ c = '.') :
    ∀ l', transposeCore (fun c => c == '.') l.toList r.toList o.toList = .ok l' →
      parseSubscripts (String.ofList l' ++ "," ++ r ++ "->" ++ o) = .ok (String.ofList l', r, o) :=
  parseSubscripts_transposed l r o tl tr tO hpl hpr hpo hchars

/-- **the executable-level adjoint theorem on strings, with an ellipsis** — `einsum2_adjoint_ellipsis` without its
read-back hypothesis -/
theorem einsum2_adjoint_ellipsis_closed {α : Type} [CommRing α] (subs subs' l r o : String) (tl tr tO : Term)
    (hp : parseSubscripts subs = .ok (l, r, o)) (ht : transposedSubscripts subs = .ok subs')
    (hpl : parseTerm l.toList = .ok tl) (hpr : parseTerm r.toList = .ok tr) (hpo : parseTerm o.toList = .ok tO)
    (hchars : ∀ c ∈ l.toList, isLetter c = true ∨ c = '.') (hO : tO.letters.Nodup)
    (d : Char → ℕ) (es eB : List ℕ) (hBs : eB <:+ es) (hBell : tl.ell = false → eB = [])
    (hoell : tO.ell = true ∨ es = []) (B x y : Tensor α)
    (hB : B.shape = tl.pre.map d ++ eB ++ tl.post.map d)
    (hx : x.shape = tr.pre.map d ++ es ++ tr.post.map d)
    (hy : y.shape = tO.pre.map d ++ es ++ tO.post.map d)
    (hxw : x.data.length = prodNat x.shape) (hyw : y.data.length = prodNat y.shape) :
    ∃ out1 out2, einsum2 subs B x = .ok out1 ∧ einsum2 subs' B y = .ok out2 ∧
      out1.shape = y.shape ∧ out2.shape = x.shape ∧ tdot out1 y = tdot x out2 :=
  einsum2_adjoint_ellipsis subs subs' l r o tl tr tO hp ht (readback l r o tl tr tO hpl hpr hpo hchars) hpl hpr hpo
    hchars hO d es eB hBs hBell hoell B x y hB hx hy hxw hyw

/-- **the executable-level adjoint theorem on strings, letters only** — `einsum2_adjoint` without `hrt` -/
theorem einsum2_adjoint_closed {α : Type} [CommRing α] (subs subs' l r o : String)
    (hp : parseSubscripts subs = .ok (l, r, o)) (ht : transposedSubscripts subs = .ok subs')
    (hl : ∀ c ∈ l.toList, isLetter c = true) (hr : ∀ c ∈ r.toList, isLetter c = true)
    (ho : ∀ c ∈ o.toList, isLetter c = true) (hO : o.toList.Nodup) (d : Char → ℕ) (B x y : Tensor α)
    (hB : B.shape = l.toList.map d) (hx : x.shape = r.toList.map d) (hy : y.shape = o.toList.map d)
    (hxw : x.data.length = prodNat x.shape) (hyw : y.data.length = prodNat y.shape) :
    ∃ out1 out2, einsum2 subs B x = .ok out1 ∧ einsum2 subs' B y = .ok out2 ∧
      out1.shape = y.shape ∧ out2.shape = x.shape ∧ tdot out1 y = tdot x out2 :=
  einsum2_adjoint subs subs' l r o hp ht
    (readback l r o _ _ _ (parseTerm_letters _ hl) (parseTerm_letters _ hr) (parseTerm_letters _ ho)
      (fun c hc => Or.inl (hl c hc)))
    hl hr ho hO d B x y hB hx hy hxw hyw

/-- `mv` of a valid dense leaf returns one entry per element of the declared output structure -/
theorem dense_length (p : Params) (h : denseOK p) (x : V) : (denseLeaf p x).length = p.outS.size :=
  denseLeaf_length p h x

theorem denseT_length (p : Params) (h : denseOK p) (y : V) : (denseLeafT p y).length = p.inS.size :=
  denseLeafT_length p h y

/-- the declared output leaves are the shapes `Einsum.outShape` computes from the block and input shapes -/
theorem dense_out_structure_honest (p : Params) (C : DenseCert p) :
    List.Forall₂ (fun li lo => outShape p.str p.vals.shape li.shape = .ok lo.shape) p.inS.leaves p.outS.leaves :=
  denseOK_outShape p C

/-- on every leaf einsum returns exactly the entries of the declared output leaf (nothing is padded) -/
theorem dense_kernel_length (p : Params) (C : DenseCert p) (li lo : LeafS)
    (hf : LeafFits C.tl C.tr C.tO p.vals.shape li lo) (c : V) :
    (denseKernel p.str p.vals li lo c).length = lo.size := by
  obtain ⟨out1, out2, h1, -, hs1, -, -⟩ :=
    C.eval li lo hf (fit li.size c) (List.replicate lo.size 0) (fit_length _ _) (by simp)
  unfold denseKernel
  rw [h1]
  simp only [exData]
  rw [einsum2_wf _ _ _ _ h1, hs1]
  rfl

/-- additive on vectors of equal length, entrywise -/
theorem dense_additive (p : Params) (h : denseOK p) (x y : V) (hxy : x.length = y.length) :
    denseLeaf p (List.zipWith (· + ·) x y) = List.zipWith (· + ·) (denseLeaf p x) (denseLeaf p y) := by
  rw [← vadd_eq_zipWith x y hxy, denseLeaf_add p x y,
    vadd_eq_zipWith _ _ (by rw [denseLeaf_length p h, denseLeaf_length p h])]

/-- additive on ALL inputs (`vadd` pads the shorter vector with zeros), whatever `p` -/
theorem dense_vadd (p : Params) (x y : V) : denseLeaf p (vadd x y) = vadd (denseLeaf p x) (denseLeaf p y) :=
  denseLeaf_add p x y

/-- homogeneous, whatever `p` -/
theorem dense_homogeneous (p : Params) (a : ℝ) (x : V) :
    denseLeaf p (x.map fun v => a * v) = (denseLeaf p x).map fun v => a * v := denseLeaf_hom p a x

theorem denseT_vadd (p : Params) (x y : V) : denseLeafT p (vadd x y) = vadd (denseLeafT p x) (denseLeafT p y) :=
  denseLeafT_add p x y

theorem denseT_homogeneous (p : Params) (a : ℝ) (x : V) :
    denseLeafT p (x.map fun v => a * v) = (denseLeafT p x).map fun v => a * v := denseLeafT_hom p a x

/-- **`⟨A x, y⟩ = ⟨x, Aᵀ y⟩`** for the flattened dense einsum leaf and the leaf with the rewritten subscripts -/
theorem dense_transpose_is_adjoint (p : Params) (h : denseOK p) (x y : V) (hx : x.length = p.inS.size)
    (hy : y.length = p.outS.size) : dot (denseLeaf p x) y = dot x (denseLeafT p y) :=
  denseLeaf_adjoint p h x y hx hy

/-- the form model of `.T` maps the leaf to a dense leaf whose `mv` is `denseLeafT p`, valid again -/
theorem dense_transposeOp (u : Nat) (p : Params) (h : denseOK p) :
    ∃ p', transposeOp (.leaf u .dense p) = .ok (.leaf 0 .dense p') ∧ denseLeaf p' = denseLeafT p ∧ denseOK p' ∧
      p'.inS = p.outS ∧ p'.outS = p.inS ∧ p'.vals = p.vals := by
  obtain ⟨p', h1, h2, h3⟩ := transposeOp_dense_ok u p h
  refine ⟨p', h1, h3, denseOK_dual p p' h h2, ?_⟩
  obtain ⟨C⟩ := h
  rw [C.dualParams_eq] at h2
  cases h2
  exact ⟨rfl, rfl, rfl⟩

/-- **`A.T.T` denotes `A`** -/
theorem dense_transpose_twice (u : Nat) (p : Params) (h : denseOK p) :
    ∃ p' p'', transposeOp (.leaf u .dense p) = .ok (.leaf 0 .dense p') ∧
      transposeOp (.leaf 0 .dense p') = .ok (.leaf 0 .dense p'') ∧ denseLeaf p'' = denseLeaf p ∧
      denseOK p' ∧ denseOK p'' := by
  obtain ⟨p', p'', h1, h2, h3, -⟩ := denseLeaf_dual_dual p h
  have ok' := denseOK_dual p p' h h1
  refine ⟨p', p'', ?_, ?_, h3, ok', denseOK_dual p' p'' ok' h2⟩
  · rw [transposeOp_dense, h1]; rfl
  · rw [transposeOp_dense, h2]; rfl

/-- the pairing identity for the FORM `transposeOp` returns -/
theorem dense_transposeOp_adjoint (u : Nat) (p : Params) (h : denseOK p) :
    ∃ p', transposeOp (.leaf u .dense p) = .ok (.leaf 0 .dense p') ∧
      ∀ x y : V, x.length = p.inS.size → y.length = p.outS.size →
        dot (denseLeaf p x) y = dot x (denseLeaf p' y) := by
  obtain ⟨p', h1, -, h3⟩ := transposeOp_dense_ok u p h
  exact ⟨p', h1, fun x y hx hy => by rw [h3]; exact denseLeaf_adjoint p h x y hx hy⟩

/-- column `j` of the dense matrix is `mv` of the `j`-th basis vector -/
theorem dense_matrix_columns (p : Params) (i : Fin p.outS.size) (j : Fin p.inS.size) :
    denseMatrix p i j = (denseLeaf p (unitVec p.inS.size j)).getD i 0 := matOf_apply ..

/-- `mv` is multiplication by the dense matrix -/
theorem dense_eq_matrix_mulVec (p : Params) (h : denseOK p) (v : Fin p.inS.size → ℝ) :
    denseLeaf p (List.ofFn v) = List.ofFn (Matrix.mulVec (denseMatrix p) v) :=
  eq_matOf_mulVec _ _ _ _ _ (denseLeaf_length p h) v

/-- the dense matrix of the transposed leaf is the transpose of the dense matrix -/
theorem dense_matrix_transpose (p : Params) (h : denseOK p) : denseMatrixT p = (denseMatrix p).transpose :=
  matOf_of_adjoint _ _ _ _ _ _ _ _ fun v w => denseLeaf_adjoint p h _ _ (by simp) (by simp)

/-- the `asMatrix` of Sem/LinearList.lean on the leaf operator is this matrix, for EVERY environment: the
closed denotation interprets a dense leaf with a shared block array by the einsum kernel -/
theorem dense_asMatrix (E : Env) (hE : EnvAdd E) (p : Params) (hs : denseShared p = true) (h : denseOK p) (u : Nat) :
    asMatrix E hE (.leaf u .dense p) p.inS.size p.outS.size = denseMatrix p := by
  ext i j
  rw [asMatrix_apply, dense_matrix_columns, den_dense E p hs, fit_eq_self (unitVec_length _ _),
    fit_eq_self (denseLeaf_length p h _)]

/-- … and the matrix of the form `op.T` the model computes is its transpose (no assumption on `E`) -/
theorem dense_asMatrix_transposeOp (E : Env) (hE : EnvAdd E) (p : Params) (hs : denseShared p = true)
    (h : denseOK p) (u : Nat) (t : Op) (ht : transposeOp (.leaf u .dense p) = .ok t) :
    asMatrix E hE t p.outS.size p.inS.size
      = (asMatrix E hE (.leaf u .dense p) p.inS.size p.outS.size).transpose := by
  obtain ⟨hv, hw, hI⟩ := dense_validT u p hs h
  have := asMatrix_transposeOp E hE (.leaf u .dense p) t (envAdjOn_of_noEnvLeaf E _ hI)
    (envSymOn_of_noEnvLeaf E _ hI) hv hw ht
  simpa [Op.outSize, Op.inSize, Op.outS, Op.inS, Op.squareLeaf] using this

/-- **the closed denotation of a dense leaf** (shared block array): `den` is `denseLeaf`, `denT` is `denseLeafT`,
whatever the environment -/
theorem den_dense_leaf (E : Env) (p : Params) (hs : denseShared p = true) (h : denseOK p) (u : Nat) (x y : V)
    (hx : x.length = p.inS.size) (hy : y.length = p.outS.size) :
    den E (.leaf u .dense p) x = denseLeaf p x ∧ denT E (.leaf u .dense p) y = denseLeafT p y := by
  rw [den_dense E p hs, denT_dense E p hs, fit_eq_self hx, fit_eq_self hy,
    fit_eq_self (denseLeaf_length p h x), fit_eq_self (denseLeafT_length p h y)]
  exact ⟨rfl, rfl⟩

namespace Examples

def leafTd : TreeDef := [Tok.leaf]

/-- the default subscripts `'ij...,j...->i...'`, a `2×3` block, one leaf of shape `(3, 2)` -/
def p1 : Params :=
  { inS := ⟨leafTd, [⟨[3, 2], .f64⟩]⟩, outS := ⟨leafTd, [⟨[2, 2], .f64⟩]⟩,
    vals := ⟨[2, 3], [1, 2, 3, 4, 5, 6]⟩, str := "ij...,j...->i..." }

/-- `'ikj,kj->ki'` (the docstring example of the rewriting), blocks `arange(1,13).reshape(2,2,3)`, a leaf `(2, 3)` -/
def p2 : Params :=
  { inS := ⟨leafTd, [⟨[2, 3], .f64⟩]⟩, outS := ⟨leafTd, [⟨[2, 2], .f64⟩]⟩,
    vals := ⟨[2, 2, 3], [1, 2, 3, 4, 5, 6, 7, 8, 9, 10, 11, 12]⟩, str := "ikj,kj->ki" }

/-- the default subscripts on a pytree of two leaves, `(3, 2)` and `(3,)`: the ellipsis is `[2]` on the first leaf and
empty on the second -/
def p3 : Params :=
  { inS := ⟨[Tok.node "tuple" 2, Tok.leaf, Tok.leaf], [⟨[3, 2], .f64⟩, ⟨[3], .f64⟩]⟩,
    outS := ⟨[Tok.node "tuple" 2, Tok.leaf, Tok.leaf], [⟨[2, 2], .f64⟩, ⟨[2], .f64⟩]⟩,
    vals := ⟨[2, 3], [1, 2, 3, 4, 5, 6]⟩, str := "ij...,j...->i..." }

theorem parse1 : parseSubscripts "ij...,j...->i..." = .ok ("ij...", "j...", "i...") :=
  parseSubscripts_of_terms _ _ _ _ (by decide +kernel)

theorem parse2 : parseSubscripts "ikj,kj->ki" = .ok ("ikj", "kj", "ki") :=
  parseSubscripts_of_terms _ _ _ _ (by decide +kernel)

theorem parse1T : parseSubscripts "ji...,j...->i..." = .ok ("ji...", "j...", "i...") :=
  parseSubscripts_of_terms _ _ _ _ (by decide +kernel)

theorem parse2T : parseSubscripts "jki,kj->ki" = .ok ("jki", "kj", "ki") :=
  parseSubscripts_of_terms _ _ _ _ (by decide +kernel)

/-- the three instances are valid -/
theorem p1_ok : denseOK p1 := denseOK_of_check p1 _ _ _ parse1 (by decide +kernel)
theorem p2_ok : denseOK p2 := denseOK_of_check p2 _ _ _ parse2 (by decide +kernel)
theorem p3_ok : denseOK p3 := denseOK_of_check p3 _ _ _ parse1 (by decide +kernel)

/-- what `transposeOp` builds from them -/
theorem p1_dual : dualParams p1 = .ok { p1 with inS := p1.outS, outS := p1.inS, str := "ji...,j...->i..." } :=
  dualParams_of p1 _ _ _ _ parse1 (by decide +kernel)

theorem p2_dual : dualParams p2 = .ok { p2 with inS := p2.outS, outS := p2.inS, str := "jki,kj->ki" } :=
  dualParams_of p2 _ _ _ _ parse2 (by decide +kernel)

/-- **kernel-evaluated `mv`**: `einsum('ij...,j...->i...', [[1,2,3],[4,5,6]], [[1,2],[3,4],[5,6]])`
`= [[22,28],[49,64]]` (as `numpy`) -/
theorem p1_mv : denseLeaf p1 [1, 2, 3, 4, 5, 6] = [22, 28, 49, 64] :=
  denseLeaf_eval parse1 rfl rfl [1, 2, 3, 4, 5, 6] rfl ⟨[2, 2], [22, 28, 49, 64]⟩ (by decide +kernel)
    (by simp) (by simp; rfl)

/-- **kernel-evaluated `T.mv`**: `einsum('ji...,j...->i...', B, [[1,-1],[0,2]]) = [[1,7],[2,8],[3,9]]` -/
theorem p1_mvT : denseLeafT p1 [1, -1, 0, 2] = [1, 7, 2, 8, 3, 9] := by
  rw [denseLeafT_of_dual p1_dual]
  exact denseLeaf_eval parse1T rfl rfl [1, -1, 0, 2] rfl ⟨[3, 2], [1, 7, 2, 8, 3, 9]⟩
    (by decide +kernel) (by simp) (by simp; rfl)

/-- the two sides of the adjoint identity on these data: `⟨A x, y⟩ = ⟨x, Aᵀ y⟩ = 122` -/
example : dot (denseLeaf p1 [1, 2, 3, 4, 5, 6]) [1, -1, 0, 2] = 122 ∧
    dot [1, 2, 3, 4, 5, 6] (denseLeafT p1 [1, -1, 0, 2]) = 122 := by
  simp only [p1_mv, p1_mvT, dot_cons, dot_nil_left]
  norm_num

/-- … which is an instance of the theorem -/
example : dot (denseLeaf p1 [1, 2, 3, 4, 5, 6]) [1, -1, 0, 2] = dot [1, 2, 3, 4, 5, 6] (denseLeafT p1 [1, -1, 0, 2]) :=
  dense_transpose_is_adjoint p1 p1_ok _ _ (by decide) (by decide)

/-- `'ikj,kj->ki'`: `numpy` gives `[[10, 28], [109, 235]]` on `x = [[-1,1,3],[5,7,9]]` -/
theorem p2_mv : denseLeaf p2 [-1, 1, 3, 5, 7, 9] = [10, 28, 109, 235] :=
  denseLeaf_eval parse2 rfl rfl [-1, 1, 3, 5, 7, 9] rfl ⟨[2, 2], [10, 28, 109, 235]⟩
    (by decide +kernel) (by simp) (by simp; rfl)

/-- its transpose `'jki,kj->ki'` on `y = [[1,-1],[2,0]]`: `[[-6,-6,-6],[8,10,12]]` -/
theorem p2_mvT : denseLeafT p2 [1, -1, 2, 0] = [-6, -6, -6, 8, 10, 12] := by
  rw [denseLeafT_of_dual p2_dual]
  exact denseLeaf_eval parse2T rfl rfl [1, -1, 2, 0] rfl ⟨[2, 3], [-6, -6, -6, 8, 10, 12]⟩
    (by decide +kernel) (by simp) (by simp; rfl)

/-- both pairings are `200` -/
example : dot (denseLeaf p2 [-1, 1, 3, 5, 7, 9]) [1, -1, 2, 0] = 200 ∧
    dot [-1, 1, 3, 5, 7, 9] (denseLeafT p2 [1, -1, 2, 0]) = 200 := by
  simp only [p2_mv, p2_mvT, dot_cons, dot_nil_left]
  norm_num

/-- **an entry of the dense matrix**: row `(i,e) = (1,1)`, column `(j,e') = (2,1)` of `p1` is `B[1,2] = 6`, row
`0` column `1` is `0` (different ellipsis positions) — via column `5` = `mv (e_5) = [0, 3, 0, 6]` -/
theorem p1_col5 : denseLeaf p1 (unitVec 6 5) = [0, 3, 0, 6] :=
  denseLeaf_eval parse1 rfl rfl [0, 0, 0, 0, 0, 1] rfl ⟨[2, 2], [0, 3, 0, 6]⟩ (by decide +kernel)
    (by simp [unitVec, List.range, List.range.loop]) (by simp; rfl)

example : denseMatrix p1 ⟨3, by decide⟩ ⟨5, by decide⟩ = 6 ∧ denseMatrix p1 ⟨0, by decide⟩ ⟨5, by decide⟩ = 0 := by
  rw [dense_matrix_columns, dense_matrix_columns]
  have : p1.inS.size = 6 := by decide
  simp only [this, p1_col5]
  simp

/-- the transposed matrix has the transposed entry -/
example : denseMatrixT p1 ⟨5, by decide⟩ ⟨3, by decide⟩ = 6 := by
  rw [dense_matrix_transpose p1 p1_ok, Matrix.transpose_apply, dense_matrix_columns]
  have : p1.inS.size = 6 := by decide
  simp only [this, p1_col5]
  simp

/-- the hypotheses of the theorems about `transposeOp` are satisfiable -/
example : ∃ p', transposeOp (.leaf 7 .dense p2) = .ok (.leaf 0 .dense p') ∧ denseLeaf p' = denseLeafT p2 ∧
    denseOK p' ∧ p'.inS = p2.outS ∧ p'.outS = p2.inS ∧ p'.vals = p2.vals := dense_transposeOp 7 p2 p2_ok

example : ∃ p' p'', transposeOp (.leaf 7 .dense p3) = .ok (.leaf 0 .dense p') ∧
    transposeOp (.leaf 0 .dense p') = .ok (.leaf 0 .dense p'') ∧ denseLeaf p'' = denseLeaf p3 ∧
    denseOK p' ∧ denseOK p'' := dense_transpose_twice 7 p3 p3_ok

example (x y : V) (hx : x.length = 9) (hy : y.length = 6) : dot (denseLeaf p3 x) y = dot x (denseLeafT p3 y) :=
  dense_transpose_is_adjoint p3 p3_ok x y hx hy


/-! #### the closed C03 / C04 theorems reach dense leaves: an expression with a dense leaf, NO assumption on the
environment -/

/-- `Dense(p1) ∘ (2 · Id)` on a leaf `(3, 2)` -/
def exDense : Op :=
  .comp 1 [.leaf 2 .dense p1, .leaf 3 .homothety { inS := p1.inS, outS := p1.inS, vals := Tensor.scalar 2 }]

/-- its transpose as `transposeOp` computes it: `(2 · Id) ∘ Dense('ji...,j...->i...')` -/
def exDenseT : Op :=
  .comp 0 [.leaf 3 .homothety { inS := p1.inS, outS := p1.inS, vals := Tensor.scalar 2 },
    .leaf 0 .dense { p1 with inS := p1.outS, outS := p1.inS, str := "ji...,j...->i..." }]

theorem p1_shared : denseShared p1 = true := by decide

theorem exDense_T : transposeOp exDense = .ok exDenseT := by
  have h1 : transposeOp (.leaf 2 .dense p1)
      = .ok (.leaf 0 .dense { p1 with inS := p1.outS, outS := p1.inS, str := "ji...,j...->i..." }) := by
    rw [transposeOp_dense, p1_dual]; rfl
  have h2 : transposeOp (.leaf 3 .homothety { inS := p1.inS, outS := p1.inS, vals := Tensor.scalar 2 })
      = .ok (.leaf 3 .homothety { inS := p1.inS, outS := p1.inS, vals := Tensor.scalar 2 }) := by
    simp [transposeOp, isSymmetricLeaf]
  unfold exDense exDenseT
  rw [transposeOp]
  simp only [transposeList, h1, h2]
  rfl

theorem exDense_validT : ValidT exDense := by
  refine ⟨?_, ?_⟩
  · simp only [Valid, exDense, WTExpr, WTList, Chain, adjLeafOK, listLeafOK]
    exact ⟨by simp, ⟨⟨fun _ => p1_ok, by simp⟩, ⟨trivial, by simp⟩, trivial⟩, rfl, trivial⟩
  · simp only [exDense, TFormOK, TFormOKList]
    exact ⟨fun _ => p1_shared, by simp, trivial⟩

theorem exDense_wft : exDense.WFT := by
  simp [exDense, Op.WFT, Op.WFTList, isSymmetricLeaf]

theorem exDense_noEnv : AllLeaves (fun _ c p => isEnvLeaf c p = false) exDense := by
  simp only [exDense, AllLeaves, AllLeavesList, isEnvLeaf, p1_shared]
  simp

/-- **C03 closed on an expression with a dense leaf, for EVERY environment**: `⟨A x, y⟩ = ⟨x, A.T y⟩` with
`A = Dense ∘ (2·Id)` and `A.T` the form the model computes -/
theorem exDense_adjoint (E : Env) (x y : V) (hx : x.length = 6) (hy : y.length = 4) :
    dot (den E exDense x) y = dot x (den E exDenseT y) :=
  ListSem.transpose_is_adjoint_closed_noEnv E exDense exDenseT exDense_noEnv exDense_validT exDense_wft exDense_T
    x y hx hy

/-! #### `denseOK` cannot be dropped from the adjoint theorem -/

/-- blocks broadcast against the input: `'ij,j->i'` with blocks `[[2],[5]]` (contracted axis of size 1) on a leaf of
3 values; declared output leaf `(2,)` -/
def pBad : Params :=
  { inS := ⟨leafTd, [⟨[3], .f64⟩]⟩, outS := ⟨leafTd, [⟨[2], .f64⟩]⟩, vals := ⟨[2, 1], [2, 5]⟩, str := "ij,j->i" }

theorem parseBad : parseSubscripts "ij,j->i" = .ok ("ij", "j", "i") :=
  parseSubscripts_of_terms _ _ _ _ (by decide +kernel)

theorem parseBadT : parseSubscripts "ji,j->i" = .ok ("ji", "j", "i") :=
  parseSubscripts_of_terms _ _ _ _ (by decide +kernel)

/-- `mv` is accepted (`A x = [12, 30]` on `x = [1,2,3]`: the block column is stretched) … -/
theorem pBad_mv : denseLeaf pBad [1, 2, 3] = [12, 30] :=
  denseLeaf_eval parseBad rfl rfl [1, 2, 3] rfl ⟨[2], [12, 30]⟩ (by decide +kernel)
    (by simp) (by simp; rfl)

theorem pBad_dual : dualParams pBad = .ok { pBad with inS := pBad.outS, outS := pBad.inS, str := "ji,j->i" } :=
  dualParams_of pBad _ _ _ _ parseBad (by decide +kernel)

/-- … the rewritten subscripts return ONE value (`-3`, padded to the declared 3 entries by the list denotation) -/
theorem pBad_mvT : denseLeafT pBad [1, -1] = [-3, 0, 0] := by
  rw [denseLeafT_of_dual pBad_dual]
  exact denseLeaf_eval parseBadT rfl rfl [1, -1] rfl ⟨[1], [-3]⟩ (by decide +kernel)
    (by simp) (by simp; rfl)

/-- **the adjoint identity FAILS without `denseOK`**: `⟨A x, y⟩ = -18 ≠ -3 = ⟨x, Aᵀ y⟩` (the real class raises
`ValueError` in `.T` for this operator) -/
theorem pBad_not_adjoint :
    dot (denseLeaf pBad [1, 2, 3]) [1, -1] ≠ dot [1, 2, 3] (denseLeafT pBad [1, -1]) := by
  simp only [pBad_mv, pBad_mvT, dot_cons, dot_nil_right]
  norm_num

theorem pBad_not_ok : ¬ denseOK pBad := fun h =>
  pBad_not_adjoint (dense_transpose_is_adjoint pBad h _ _ (by decide) (by decide))

end Examples

end Furax.C14
