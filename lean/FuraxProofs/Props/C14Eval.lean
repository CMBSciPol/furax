/-
C14, executable level — the einsum kernel `Einsum.einsum2` (FuraxModel/EinsumEval.lean, compiled into the driver and
differentially tested against `numpy.einsum` / `jax.numpy.einsum`) and the rewritten subscripts of
`DenseBlockDiagonalOperator.transpose`.

`einsum2 subs B x` is `numpy.einsum(subs, B, x)` on row-major tensors; `tdot a b = Σ_k a[k]·b[k]`.
The statements about strings take the result of the (string-splitting) parser `parseSubscripts` as a hypothesis:
Lean's `String.splitOn` does not reduce in the kernel, so a fact such as
`parseSubscripts "ij,j->i" = .ok ("ij", "j", "i")` is not had by evaluation but from
`Einsum.parseSubscripts_of_terms` (FuraxProofs/Lemmas/SplitOnReadBack.lean; used in FuraxProofs/Props/C14Closed.lean,
`C14.Examples.parseBad`).  The kernel-evaluated instances of this file are stated on the parsed terms
(`einsumTerms`), which is all of `einsum2` but that first split.
-/
import FuraxProofs.Lemmas.EinsumEvalSpec
import FuraxProofs.Lemmas.EinsumEvalEllipsis
namespace Furax.C14
open Furax Einsum
open scoped Furax.Einsum.CharAlphabet

variable {α : Type}

/-- `einsum2` is `einsumTerms` on the three terms that `parseSubscripts` returns -/
theorem einsum2_eq_terms [Zero α] [Add α] [Mul α] (subs l r o : String)
    (hp : parseSubscripts subs = .ok (l, r, o)) (B x : Tensor α) :
    einsum2 subs B x = einsumTerms .numpy l.toList r.toList o.toList B x := by
  simp [einsum2, einsum2With, hp, bind, Except.bind]

/-- the rewritten string, in terms of the rewriting of the parsed terms -/
theorem transposedSubscripts_ok (subs subs' l r o : String) (hp : parseSubscripts subs = .ok (l, r, o))
    (ht : transposedSubscripts subs = .ok subs') :
    ∃ l', transposeCore (fun c => c == '.') l.toList r.toList o.toList = .ok l' ∧
      subs' = String.ofList l' ++ "," ++ r ++ "->" ++ o := by
  unfold transposedSubscripts at ht
  simp only [hp, bind, Except.bind] at ht
  cases h : transposeCore (fun c => c == '.') l.toList r.toList o.toList with
  | error e => simp [h] at ht
  | ok l' =>
    simp only [h, pure, Except.pure, Except.ok.injEq] at ht
    exact ⟨l', rfl, ht.symm⟩

/-- `outShape` is the shape of `einsum2`, and fails exactly when `einsum2` fails -/
theorem outShape_spec [Zero α] [Add α] [Mul α] (subs : String) (B x : Tensor α) :
    (einsum2 subs B x).map Tensor.shape = outShape subs B.shape x.shape := einsum2_shape subs B x

/-- every rejection is a `ValueError` -/
theorem einsum2_error [Zero α] [Add α] [Mul α] (subs : String) (B x : Tensor α) (e : PyErr)
    (h : einsum2 subs B x = .error e) : e = .valueError := einsum2With_error .numpy subs B x e h

section Ring
variable [CommRing α]

/-- **the executable kernel computes the bilinear form `Phi` of the abstract adjoint theorem.**
Letters-only subscripts `l,r->o`; `B`, `x`, `y` have the shapes given by the sizes `d` of their letters; the
output letters are distinct and occur in the inputs (NumPy's own conditions).  Then `einsum2` succeeds with the
shape `o.map d` and `Σ_k (einsum2 subs B x)[k] · y[k] = Phi d' B x y l r o`, where `d'` is `d` with the letters
that occur in no operand set to size 1 and tensors are read as functions of the multi-index by `entryAt`. -/
theorem einsum2_pairing (subs l r o : String) (hp : parseSubscripts subs = .ok (l, r, o))
    (hl : ∀ c ∈ l.toList, isLetter c = true) (hr : ∀ c ∈ r.toList, isLetter c = true)
    (ho : ∀ c ∈ o.toList, isLetter c = true) (d : Char → ℕ) (B x y : Tensor α)
    (hB : B.shape = l.toList.map d) (hx : x.shape = r.toList.map d) (hO : o.toList.Nodup)
    (hsub : ∀ c ∈ o.toList, c ∈ l.toList ++ r.toList) (hy : y.shape = o.toList.map d)
    (hyw : y.data.length = prodNat y.shape) :
    ∃ out, einsum2 subs B x = .ok out ∧ out.shape = o.toList.map d ∧ out.data.length = prodNat out.shape ∧
      tdot out y = Phi (dNorm l.toList r.toList d) (entryAt B) (entryAt x) (entryAt y)
        l.toList r.toList o.toList := by
  rw [einsum2_eq_terms subs l r o hp, einsumTerms_letters .numpy _ _ _ hl hr ho B x (by rw [hB, List.length_map])
    (by rw [hx, List.length_map])]
  exact einsumCore_pairing _ _ _ d B x y hB hx hO hsub hy hyw

/-- **the entries of `einsum2`**: the entry at a valid output multi-index `oi` is the sum over the
assignments `τ` of the summed letters of `B[σ l] · x[σ r]`, `σ` reading the output letters in `oi` and the others
in `τ` (`mixEnv`) -/
theorem einsum2_entry (subs l r o : String) (hp : parseSubscripts subs = .ok (l, r, o))
    (hl : ∀ c ∈ l.toList, isLetter c = true) (hr : ∀ c ∈ r.toList, isLetter c = true)
    (ho : ∀ c ∈ o.toList, isLetter c = true) (d : Char → ℕ) (B x : Tensor α)
    (hB : B.shape = l.toList.map d) (hx : x.shape = r.toList.map d) (hO : o.toList.Nodup)
    (hsub : ∀ c ∈ o.toList, c ∈ l.toList ++ r.toList) :
    ∃ out, einsum2 subs B x = .ok out ∧ ∀ oi ∈ multiIndices (o.toList.map d),
      entryAt out oi
        = ∑ τ ∈ Fintype.piFinset (fun c => Finset.range
            (if c ∈ sumLabels l.toList r.toList o.toList then d c else 1)),
          entryAt B (l.toList.map (mixEnv o.toList oi τ)) * entryAt x (r.toList.map (mixEnv o.toList oi τ)) := by
  rw [einsum2_eq_terms subs l r o hp]
  exact einsumTerms_entry .numpy _ _ _ hl hr ho d B x hB hx hO hsub

/-- **the executable-level adjoint theorem on parsed terms** (letters only): if `_get_transposed_subscripts`
rewrites `l,r->o` into `l',r->o`, then `⟨einsum(l,r->o)(B,x), y⟩ = ⟨x, einsum(l',r->o)(B,y)⟩` for all `B`, `x`, `y`
whose shapes are the sizes of their letters, both evaluations succeeding -/
theorem terms_adjoint (l r o l' : List Char) (hl : ∀ c ∈ l, isLetter c = true)
    (hr : ∀ c ∈ r, isLetter c = true) (ho : ∀ c ∈ o, isLetter c = true)
    (ht : transposeCore (· == '.') l r o = .ok l') (hO : o.Nodup) (d : Char → ℕ) (B x y : Tensor α)
    (hB : B.shape = l.map d) (hx : x.shape = r.map d) (hy : y.shape = o.map d)
    (hxw : x.data.length = prodNat x.shape) (hyw : y.data.length = prodNat y.shape) :
    ∃ out1 out2, einsumTerms .numpy l r o B x = .ok out1 ∧ einsumTerms .numpy l' r o B y = .ok out2 ∧
      out1.shape = y.shape ∧ out2.shape = x.shape ∧ tdot out1 y = tdot x out2 :=
  einsumTerms_adjoint .numpy l r o l' hl hr ho ht hO d B x y hB hx hy hxw hyw

/-- **the executable-level adjoint theorem on strings** (letters only).  `hrt` says that the parser reads back
the three terms of the string that `transposedSubscripts` printed (`l' ++ "," ++ r ++ "->" ++ o`); it is a fact
about `String.splitOn`, proved in FuraxProofs/Lemmas/SplitOnReadBack.lean and discharged in
FuraxProofs/Props/C14Closed.lean (`einsum2_adjoint_closed`). -/
theorem einsum2_adjoint (subs subs' l r o : String) (hp : parseSubscripts subs = .ok (l, r, o))
    (ht : transposedSubscripts subs = .ok subs')
    (hrt : ∀ l', transposeCore (fun c => c == '.') l.toList r.toList o.toList = .ok l' →
      parseSubscripts (String.ofList l' ++ "," ++ r ++ "->" ++ o) = .ok (String.ofList l', r, o))
    (hl : ∀ c ∈ l.toList, isLetter c = true) (hr : ∀ c ∈ r.toList, isLetter c = true)
    (ho : ∀ c ∈ o.toList, isLetter c = true) (hO : o.toList.Nodup) (d : Char → ℕ) (B x y : Tensor α)
    (hB : B.shape = l.toList.map d) (hx : x.shape = r.toList.map d) (hy : y.shape = o.toList.map d)
    (hxw : x.data.length = prodNat x.shape) (hyw : y.data.length = prodNat y.shape) :
    ∃ out1 out2, einsum2 subs B x = .ok out1 ∧ einsum2 subs' B y = .ok out2 ∧
      out1.shape = y.shape ∧ out2.shape = x.shape ∧ tdot out1 y = tdot x out2 := by
  obtain ⟨l', hl', rfl⟩ := transposedSubscripts_ok subs subs' l r o hp ht
  rw [einsum2_eq_terms subs l r o hp, einsum2_eq_terms _ _ r o (hrt l' hl'), String.toList_ofList]
  exact einsumTerms_adjoint .numpy _ _ _ l' hl hr ho hl' hO d B x y hB hx hy hxw hyw

/-- **the executable-level adjoint theorem with an ellipsis, on parsed terms.**  `tl`, `tr`, `tO` are the
parsed terms (letters before / after an optional `...`).  The letters have the sizes `d`; the input `x` and the
cotangent `y` carry the whole ellipsis shape `es` between their letters, the blocks a suffix `eB` of it (all, part
or nothing): no size-1 dimension is stretched.  `es = []` if the output has no ellipsis, `eB = []` if the blocks
have none. -/
theorem terms_adjoint_ellipsis (l r o l' : List Char) (tl tr tO : Term) (hpl : parseTerm l = .ok tl)
    (hpr : parseTerm r = .ok tr) (hpo : parseTerm o = .ok tO)
    (hchars : ∀ c ∈ l, isLetter c = true ∨ c = '.')
    (ht : transposeCore (· == '.') l r o = .ok l') (hO : tO.letters.Nodup)
    (d : Char → ℕ) (es eB : List ℕ) (hBs : eB <:+ es) (hBell : tl.ell = false → eB = [])
    (hoell : tO.ell = true ∨ es = []) (B x y : Tensor α)
    (hB : B.shape = tl.pre.map d ++ eB ++ tl.post.map d)
    (hx : x.shape = tr.pre.map d ++ es ++ tr.post.map d)
    (hy : y.shape = tO.pre.map d ++ es ++ tO.post.map d)
    (hxw : x.data.length = prodNat x.shape) (hyw : y.data.length = prodNat y.shape) :
    ∃ out1 out2, einsumTerms .numpy l r o B x = .ok out1 ∧ einsumTerms .numpy l' r o B y = .ok out2 ∧
      out1.shape = y.shape ∧ out2.shape = x.shape ∧ tdot out1 y = tdot x out2 :=
  einsumTerms_adjoint_ellipsis .numpy l r o l' tl tr tO hpl hpr hpo hchars ht hO d es eB hBs hBell hoell B x y
    hB hx hy hxw hyw

/-- **on strings**, with the read-back hypothesis `hrt` of `einsum2_adjoint` -/
theorem einsum2_adjoint_ellipsis (subs subs' l r o : String) (tl tr tO : Term)
    (hp : parseSubscripts subs = .ok (l, r, o)) (ht : transposedSubscripts subs = .ok subs')
    (hrt : ∀ l', transposeCore (fun c => c == '.') l.toList r.toList o.toList = .ok l' →
      parseSubscripts (String.ofList l' ++ "," ++ r ++ "->" ++ o) = .ok (String.ofList l', r, o))
    (hpl : parseTerm l.toList = .ok tl) (hpr : parseTerm r.toList = .ok tr) (hpo : parseTerm o.toList = .ok tO)
    (hchars : ∀ c ∈ l.toList, isLetter c = true ∨ c = '.') (hO : tO.letters.Nodup)
    (d : Char → ℕ) (es eB : List ℕ) (hBs : eB <:+ es) (hBell : tl.ell = false → eB = [])
    (hoell : tO.ell = true ∨ es = []) (B x y : Tensor α)
    (hB : B.shape = tl.pre.map d ++ eB ++ tl.post.map d)
    (hx : x.shape = tr.pre.map d ++ es ++ tr.post.map d)
    (hy : y.shape = tO.pre.map d ++ es ++ tO.post.map d)
    (hxw : x.data.length = prodNat x.shape) (hyw : y.data.length = prodNat y.shape) :
    ∃ out1 out2, einsum2 subs B x = .ok out1 ∧ einsum2 subs' B y = .ok out2 ∧
      out1.shape = y.shape ∧ out2.shape = x.shape ∧ tdot out1 y = tdot x out2 := by
  obtain ⟨l', hl', rfl⟩ := transposedSubscripts_ok subs subs' l r o hp ht
  rw [einsum2_eq_terms subs l r o hp, einsum2_eq_terms _ _ r o (hrt l' hl'), String.toList_ofList]
  exact einsumTerms_adjoint_ellipsis .numpy _ _ _ l' tl tr tO hpl hpr hpo hchars hl' hO d es eB hBs hBell
    hoell B x y hB hx hy hxw hyw

/-- `einsum2 subs B ·` is additive (every subscripts string, ellipsis and broadcasting included) -/
theorem einsum2_add (subs : String) (B x x' o1 o2 : Tensor α) (hs : x'.shape = x.shape)
    (hl : x'.data.length = x.data.length) (h1 : einsum2 subs B x = .ok o1) (h2 : einsum2 subs B x' = .ok o2) :
    einsum2 subs B (tadd x x') = .ok (tadd o1 o2) := by
  unfold einsum2 at h1 h2 ⊢
  rw [einsum2With_tadd .numpy subs B x x' hs hl, h1, h2]
  rfl

/-- `einsum2 subs B ·` is homogeneous -/
theorem einsum2_smul (subs : String) (B x o1 : Tensor α) (c : α) (h1 : einsum2 subs B x = .ok o1) :
    einsum2 subs B (tsmul c x) = .ok (tsmul c o1) := by
  unfold einsum2 at h1 ⊢
  rw [einsum2With_tsmul, h1]
  rfl

end Ring

/-! ### kernel-evaluated instances on 2×3 data, cross-checked with `numpy.einsum` -/

/-- `'ij,j->i'`: `[[1,2,3],[4,5,6]] · [1,0,-1] = [-2,-2]` -/
example : einsumTerms (α := Int) .numpy ['i', 'j'] ['j'] ['i'] ⟨[2, 3], [1, 2, 3, 4, 5, 6]⟩ ⟨[3], [1, 0, -1]⟩
    = .ok ⟨[2], [-2, -2]⟩ := by decide +kernel

/-- `'ikj,kj->ki'` (the rewriting's docstring example) with `B = arange(1,13).reshape(2,2,3)`,
`x = [[-1,1,3],[5,7,9]]`: `numpy` gives `[[10, 28], [109, 235]]` -/
example : einsumTerms (α := Int) .numpy ['i', 'k', 'j'] ['k', 'j'] ['k', 'i']
    ⟨[2, 2, 3], [1, 2, 3, 4, 5, 6, 7, 8, 9, 10, 11, 12]⟩ ⟨[2, 3], [-1, 1, 3, 5, 7, 9]⟩
    = .ok ⟨[2, 2], [10, 28, 109, 235]⟩ := by decide +kernel

/-- its transposed string `'jki,kj->ki'` on the same block data (now read as `j=2, k=2, i=3`) and
`y = [[1,-1],[2,0]]` (shape `k,j`): `numpy` gives `[[-6,-6,-6],[8,10,12]]` -/
example : einsumTerms (α := Int) .numpy ['j', 'k', 'i'] ['k', 'j'] ['k', 'i']
    ⟨[2, 2, 3], [1, 2, 3, 4, 5, 6, 7, 8, 9, 10, 11, 12]⟩ ⟨[2, 2], [1, -1, 2, 0]⟩
    = .ok ⟨[2, 3], [-6, -6, -6, 8, 10, 12]⟩ := by decide +kernel

/-- the two sides of the adjoint identity on these data: `⟨A x, y⟩ = ⟨x, Aᵀ y⟩ = 200` -/
example : tdot (α := Int) ⟨[2, 2], [10, 28, 109, 235]⟩ ⟨[2, 2], [1, -1, 2, 0]⟩ = 200 ∧
    tdot (α := Int) ⟨[2, 3], [-1, 1, 3, 5, 7, 9]⟩ ⟨[2, 3], [-6, -6, -6, 8, 10, 12]⟩ = 200 := by
  decide +kernel

/-- the hypotheses of `terms_adjoint` are satisfiable: `'ikj,kj->ki'` with `i ↦ 2, k ↦ 2, j ↦ 3` -/
example : ∃ out1 out2,
    einsumTerms (α := Int) .numpy ['i', 'k', 'j'] ['k', 'j'] ['k', 'i']
      ⟨[2, 2, 3], [1, 2, 3, 4, 5, 6, 7, 8, 9, 10, 11, 12]⟩ ⟨[2, 3], [-1, 1, 3, 5, 7, 9]⟩ = .ok out1 ∧
    einsumTerms (α := Int) .numpy ['j', 'k', 'i'] ['k', 'j'] ['k', 'i']
      ⟨[2, 2, 3], [1, 2, 3, 4, 5, 6, 7, 8, 9, 10, 11, 12]⟩ ⟨[2, 2], [1, -1, 2, 0]⟩ = .ok out2 ∧
    out1.shape = [2, 2] ∧ out2.shape = [2, 3] ∧
    tdot out1 ⟨[2, 2], [1, -1, 2, 0]⟩ = tdot ⟨[2, 3], [-1, 1, 3, 5, 7, 9]⟩ out2 :=
  terms_adjoint ['i', 'k', 'j'] ['k', 'j'] ['k', 'i'] ['j', 'k', 'i'] ((allLetters_iff _).2 (by decide))
    ((allLetters_iff _).2 (by decide)) ((allLetters_iff _).2 (by decide))
    (by decide) (by decide) (fun c => if c = 'j' then 3 else 2) _ _ _ (by decide) (by decide) (by decide)
    (by decide) (by decide)

/-- the hypotheses of `terms_adjoint_ellipsis` are satisfiable: the default subscripts `'ij...,j...->i...'` of
`DenseBlockDiagonalOperator` with `i ↦ 2, j ↦ 3`, ellipsis shape `[2]` carried by the input only -/
example : ∃ out1 out2,
    einsumTerms (α := Int) .numpy "ij...".toList "j...".toList "i...".toList
      ⟨[2, 3], [1, 2, 3, 4, 5, 6]⟩ ⟨[3, 2], [1, 2, 3, 4, 5, 6]⟩ = .ok out1 ∧
    einsumTerms (α := Int) .numpy "ji...".toList "j...".toList "i...".toList
      ⟨[2, 3], [1, 2, 3, 4, 5, 6]⟩ ⟨[2, 2], [1, -1, 0, 2]⟩ = .ok out2 ∧
    out1.shape = [2, 2] ∧ out2.shape = [3, 2] ∧
    tdot out1 ⟨[2, 2], [1, -1, 0, 2]⟩ = tdot ⟨[3, 2], [1, 2, 3, 4, 5, 6]⟩ out2 :=
  terms_adjoint_ellipsis "ij...".toList "j...".toList "i...".toList "ji...".toList
    ⟨['i', 'j'], true, []⟩ ⟨['j'], true, []⟩ ⟨['i'], true, []⟩ (by decide +kernel) (by decide +kernel)
    (by decide +kernel)
    (by intro c hc; simp at hc; rcases hc with rfl | rfl | rfl <;> decide)
    (by decide +kernel) (by decide) (fun c => if c = 'j' then 3 else 2) [2] [] (by simp) (by simp) (by simp)
    _ _ _ (by decide) (by decide) (by decide) (by decide) (by decide)

/-- … and the two evaluations of that instance, kernel-evaluated: `numpy` gives `[[22, 28], [49, 64]]` and
`[[1, 7], [2, 8], [3, 9]]`; both pairings are `122` -/
example : einsumTerms (α := Int) .numpy "ji...".toList "j...".toList "i...".toList
      ⟨[2, 3], [1, 2, 3, 4, 5, 6]⟩ ⟨[2, 2], [1, -1, 0, 2]⟩ = .ok ⟨[3, 2], [1, 7, 2, 8, 3, 9]⟩ ∧
    tdot (α := Int) ⟨[2, 2], [22, 28, 49, 64]⟩ ⟨[2, 2], [1, -1, 0, 2]⟩ = 122 ∧
    tdot (α := Int) ⟨[3, 2], [1, 2, 3, 4, 5, 6]⟩ ⟨[3, 2], [1, 7, 2, 8, 3, 9]⟩ = 122 := by decide +kernel

/-- ellipsis with broadcasting (outside the theorems, inside the tested kernel): `'ij...,j...->i...'`, blocks
`(2,3)`, input `(3,2)`; `numpy` gives `[[22, 28], [49, 64]]` -/
example : einsumTerms (α := Int) .numpy "ij...".toList "j...".toList "i...".toList
    ⟨[2, 3], [1, 2, 3, 4, 5, 6]⟩ ⟨[3, 2], [1, 2, 3, 4, 5, 6]⟩ = .ok ⟨[2, 2], [22, 28, 49, 64]⟩ := by
  decide +kernel

/-- rejected as by NumPy: an input ellipsis that covers a dimension while the output has no ellipsis … -/
example : einsumTerms (α := Int) .numpy "ij...".toList "j...".toList "i".toList
    ⟨[2, 3, 1], [1, 2, 3, 4, 5, 6]⟩ ⟨[3, 1], [1, 2, 3]⟩ = .error .valueError := by decide +kernel

/-- … which `jax.numpy.einsum` sums over instead -/
example : einsumTerms (α := Int) .jax "ij...".toList "j...".toList "i".toList
    ⟨[2, 3, 1], [1, 2, 3, 4, 5, 6]⟩ ⟨[3, 1], [1, 2, 3]⟩ = .ok ⟨[2], [14, 32]⟩ := by decide +kernel

/-- **the exact-fit hypothesis cannot be dropped**: when einsum stretches a size-1 dimension the rewritten
subscripts do not give the adjoint.  `'ij,j->i'` with blocks `[[2],[5]]` (contracted axis of size 1) and an input
of 3 values is accepted (`A x = [12, 30]`), the rewritten `'ji,j->i'` on the same blocks returns ONE value for a
cotangent of 2 values: not even the shape of `x`.  This is finding F19 (DESIGN.md §10.3): the real `DenseBlockDiagonalOperator.transpose()`
raises `ValueError` for such operators (harness/scratch_l7/repro_broadcast.py). -/
example : einsumTerms (α := Int) .numpy ['i', 'j'] ['j'] ['i'] ⟨[2, 1], [2, 5]⟩ ⟨[3], [1, 2, 3]⟩
      = .ok ⟨[2], [12, 30]⟩ ∧
    transposeCore (· == '.') ['i', 'j'] ['j'] ['i'] = .ok ['j', 'i'] ∧
    einsumTerms (α := Int) .numpy ['j', 'i'] ['j'] ['i'] ⟨[2, 1], [2, 5]⟩ ⟨[2], [1, -1]⟩
      = .ok ⟨[1], [-3]⟩ := by decide +kernel

/-- the rewriting accepts `'kij,kkj->kki'` (one contracted letter `j`, one free block letter `i`) although the
output repeats `k`, which einsum refuses: the hypothesis `o.Nodup` of the adjoint theorems is not redundant -/
example : transposeCore (· == '.') ['k', 'i', 'j'] ['k', 'k', 'j'] ['k', 'k', 'i'] = .ok ['k', 'j', 'i'] ∧
    einsumTerms (α := Int) .numpy ['k', 'i', 'j'] ['k', 'k', 'j'] ['k', 'k', 'i']
      ⟨[1, 1, 1], [1]⟩ ⟨[1, 1, 1], [1]⟩ = .error .valueError := by decide +kernel

end Furax.C14
