/-
C15 — Polarimetry operators realise their Mueller matrices.

`SV.hwp`, `SV.rot`, `SV.rotT`, `SV.pol` are the functions the compiled driver executes (FuraxModel/Stokes.lean).
Statements over an arbitrary commutative ring with `c² + s² = 1`, and over ℝ with `c = cos 2a`, `s = sin 2a`.
A sample carries all four Stokes components; absent ones are never read (`present_*` theorems), so every
statement holds for the kinds I, QU, IQU and IQUV alike, and pointwise for angle arrays of any shape.
-/
import FuraxModel.Stokes
import Mathlib.Analysis.SpecialFunctions.Trigonometric.Basic
import Mathlib.Tactic.Ring
import Mathlib.Tactic.LinearCombination
namespace Furax.C15
open Furax SV

/-- a map that acts on `I`, on `(Q, U)` and on `V` separately: the present components of the result depend only
on the present components of the argument -/
theorem present_map {α : Type} (k : StokesKind) (A B : α → α → α) (V : α → α) (x y : SV α)
    (h : present k x = present k y) :
    present k ⟨x.i, A x.q x.u, B x.q x.u, V x.v⟩ = present k ⟨y.i, A y.q y.u, B y.q y.u, V y.v⟩ := by
  cases k <;> simp only [present, List.cons.injEq, and_true] at h ⊢
  · exact h
  · rw [h.1, h.2]; exact ⟨rfl, rfl⟩
  · rw [h.1, h.2.1, h.2.2]; exact ⟨rfl, rfl, rfl⟩
  · rw [h.1, h.2.1, h.2.2.1, h.2.2.2]; exact ⟨rfl, rfl, rfl, rfl⟩

section ring
variable {α : Type} [CommRing α]

/-- the HWP Mueller matrix diag(1, 1, −1, −1) -/
theorem hwp_mueller (x : SV α) : hwp x = ⟨x.i, x.q, -x.u, -x.v⟩ := rfl

/-- the rotation Mueller matrix: (Q,U) rotated by the angle whose cosine/sine are `c`, `s`; I, V untouched -/
theorem rot_mueller (c s : α) (x : SV α) :
    (rot c s x).i = x.i ∧ (rot c s x).v = x.v ∧
    (rot c s x).q = c * x.q - s * x.u ∧ (rot c s x).u = s * x.q + c * x.u := by
  refine ⟨rfl, rfl, ?_, ?_⟩
  · rw [mul_comm c, mul_comm s]; rfl
  · rw [mul_comm s, mul_comm c]; rfl

/-- the transpose class applies the transposed 2×2 block -/
theorem rotT_mueller (c s : α) (x : SV α) :
    (rotT c s x).q = c * x.q + s * x.u ∧ (rotT c s x).u = -s * x.q + c * x.u ∧
    (rotT c s x).i = x.i ∧ (rotT c s x).v = x.v := by
  refine ⟨?_, ?_, rfl, rfl⟩
  · rw [mul_comm c, mul_comm s]; rfl
  · rw [neg_mul, mul_comm s, ← neg_mul, mul_comm c]; rfl

/-- `Rᵀ` is `R` at the opposite angle (cos even, sin odd) -/
theorem rotT_eq_rot_neg (c s : α) (x : SV α) : rotT c s x = rot c (-s) x := by
  obtain ⟨i, q, u, v⟩ := x
  simp only [rot, rotT, SV.mk.injEq, true_and, and_true]
  refine ⟨?_, ?_⟩ <;> ring

/-- orthogonality: `Rᵀ R = I = R Rᵀ` whenever `c² + s² = 1` -/
theorem rotT_rot (c s : α) (h : c * c + s * s = 1) (x : SV α) : rotT c s (rot c s x) = x := by
  obtain ⟨i, q, u, v⟩ := x
  simp only [rot, rotT, SV.mk.injEq, true_and, and_true]
  constructor
  · linear_combination q * h
  · linear_combination u * h

/-- `R` at the angle `(c, s)` is `Rᵀ` at the opposite angle `(c, −s)`, so this is `rotT_rot` there -/
theorem rot_rotT (c s : α) (h : c * c + s * s = 1) (x : SV α) : rot c s (rotT c s x) = x := by
  have e : ∀ y, rot c s y = rotT c (-s) y := fun y => by rw [rotT_eq_rot_neg, neg_neg]
  rw [rotT_eq_rot_neg, e]
  exact rotT_rot c (-s) (by rwa [neg_mul_neg]) x

/-- the adjoint: `⟨R x, y⟩ = ⟨x, Rᵀ y⟩` for the Euclidean inner product on (I,Q,U,V) -/
theorem rot_adjoint (c s : α) (x y : SV α) :
    (rot c s x).i * y.i + (rot c s x).q * y.q + (rot c s x).u * y.u + (rot c s x).v * y.v =
    x.i * (rotT c s y).i + x.q * (rotT c s y).q + x.u * (rotT c s y).u + x.v * (rotT c s y).v := by
  simp only [rot, rotT]; ring

/-- the HWP is an involution and self-adjoint (diagonal) -/
theorem hwp_hwp (x : SV α) : hwp (hwp x) = x := by simp [hwp]

/-- composition of two rotations: cosine/sine of the sum -/
theorem rot_rot_cs (c1 s1 c2 s2 : α) (x : SV α) :
    rot c1 s1 (rot c2 s2 x) = rot (c1 * c2 - s1 * s2) (s1 * c2 + c1 * s2) x := by
  obtain ⟨i, q, u, v⟩ := x
  simp only [rot, SV.mk.injEq, true_and, and_true]
  refine ⟨?_, ?_⟩ <;> ring

/-- `QURotationHWPRule`: `R · HWP = HWP · Rᵀ` -/
theorem rot_hwp (c s : α) (x : SV α) : rot c s (hwp x) = hwp (rotT c s x) := by
  obtain ⟨i, q, u, v⟩ := x
  simp only [rot, rotT, hwp, SV.mk.injEq, true_and, and_true]
  refine ⟨?_, ?_⟩ <;> ring

/-- `QURotationHWPRule`, transpose case: `Rᵀ · HWP = HWP · R` -/
theorem rotT_hwp (c s : α) (x : SV α) : rotT c s (hwp x) = hwp (rot c s x) := by
  rw [rotT_eq_rot_neg, rot_hwp, rotT_eq_rot_neg, neg_neg]

/-- `LinearPolarizerHWPRule`: `P · HWP = P` for every kind -/
theorem pol_hwp (half : α) (k : StokesKind) (x : SV α) : pol half k (hwp x) = pol half k x := by
  cases k <;> rfl

/-- the polariser returns (I+Q)/2, or I/2, Q/2 when a component is absent -/
theorem pol_mueller (half : α) (x : SV α) :
    pol half .I x = half * x.i ∧ pol half .QU x = half * x.q ∧
    pol half .IQU x = half * (x.i + x.q) ∧ pol half .IQUV x = half * (x.i + x.q) := ⟨rfl, rfl, rfl, rfl⟩

/-- absent components are never read: the present components of the result depend only on the present
components of the input (so a kind-`k` pytree is all the code needs) -/
theorem present_hwp (k : StokesKind) (x y : SV α) (h : present k x = present k y) :
    present k (hwp x) = present k (hwp y) :=
  present_map k (fun q _ => q) (fun _ u => -u) (fun v => -v) x y h

theorem present_rot (k : StokesKind) (c s : α) (x y : SV α) (h : present k x = present k y) :
    present k (rot c s x) = present k (rot c s y) :=
  present_map k (fun q u => q * c - u * s) (fun q u => q * s + u * c) id x y h

theorem present_rotT (k : StokesKind) (c s : α) (x y : SV α) (h : present k x = present k y) :
    present k (rotT c s x) = present k (rotT c s y) :=
  present_map k (fun q u => q * c + u * s) (fun q u => -q * s + u * c) id x y h

/-- on Stokes-I inputs rotation and HWP are the identity (the code returns `x` itself) -/
theorem present_I_unchanged (c s : α) (x : SV α) :
    present .I (hwp x) = present .I x ∧ present .I (rot c s x) = present .I x ∧
    present .I (rotT c s x) = present .I x := ⟨rfl, rfl, rfl⟩

end ring

section real
open Real

/-- the rotation by angle `a` as the code computes it: `cos(2a)`, `sin(2a)` -/
noncomputable def R (a : ℝ) (x : SV ℝ) : SV ℝ := rot (cos (2 * a)) (sin (2 * a)) x
noncomputable def RT (a : ℝ) (x : SV ℝ) : SV ℝ := rotT (cos (2 * a)) (sin (2 * a)) x

/-- `QURotationRule`, case R·R: `R(a) R(b) = R(a + b)` -/
theorem R_R (a b : ℝ) (x : SV ℝ) : R a (R b x) = R (a + b) x := by
  simp only [R, rot_rot_cs]
  rw [show 2 * (a + b) = 2 * a + 2 * b by ring, cos_add, sin_add]

/-- the transpose rotates by the opposite angle -/
theorem RT_eq_R_neg (a : ℝ) (x : SV ℝ) : RT a x = R (-a) x := by
  simp only [RT, R, rotT_eq_rot_neg]
  rw [show 2 * -a = -(2 * a) by ring, cos_neg, sin_neg]

/-- `QURotationRule`, case R·Rᵀ: `R(a) Rᵀ(b) = R(a − b)` -/
theorem R_RT (a b : ℝ) (x : SV ℝ) : R a (RT b x) = R (a - b) x := by
  rw [RT_eq_R_neg, R_R, sub_eq_add_neg]

/-- `QURotationRule`, case Rᵀ·R: `Rᵀ(a) R(b) = R(b − a)` -/
theorem RT_R (a b : ℝ) (x : SV ℝ) : RT a (R b x) = R (b - a) x := by
  rw [RT_eq_R_neg, R_R, sub_eq_add_neg, add_comm]

/-- `QURotationRule`, case Rᵀ·Rᵀ: `Rᵀ(a) Rᵀ(b) = R(−a − b)` -/
theorem RT_RT (a b : ℝ) (x : SV ℝ) : RT a (RT b x) = R (-a - b) x := by
  rw [RT_eq_R_neg, RT_eq_R_neg, R_R, sub_eq_add_neg]

/-- orthogonality over ℝ -/
theorem RT_R_self (a : ℝ) (x : SV ℝ) : RT a (R a x) = x := by
  apply rotT_rot
  rw [← sq, ← sq]
  exact cos_sq_add_sin_sq (2 * a)

/-- `R(a) · HWP = HWP · R(−a)` -/
theorem R_hwp (a : ℝ) (x : SV ℝ) : R a (hwp x) = hwp (R (-a) x) := by
  rw [← RT_eq_R_neg]; exact rot_hwp _ _ x

/-- the rotated-HWP factory `Rᵀ(a) · HWP · R(a)` equals `HWP · R(2a)` (what `reduce()` makes of it) -/
theorem factory_hwp (a : ℝ) (x : SV ℝ) : RT a (hwp (R a x)) = hwp (R (2 * a) x) := by
  unfold RT
  rw [rotT_hwp]
  show hwp (R a (R a x)) = _
  rw [R_R, two_mul]

/-- the rotated-polariser factory `P · R(a)` returns `(I + Q cos 2a − U sin 2a)/2` -/
theorem factory_pol (a : ℝ) (x : SV ℝ) :
    pol (1 / 2) .IQU (R a x) = (x.i + x.q * cos (2 * a) - x.u * sin (2 * a)) / 2 := by
  simp only [pol, R, rot]; ring

/-- polariser · HWP · rotation (the SAT acquisition chain per sample):
`P · HWP · R(a) = P · R(a)` -/
theorem pol_hwp_R (a : ℝ) (k : StokesKind) (x : SV ℝ) :
    pol (1 / 2) k (hwp (R a x)) = pol (1 / 2) k (R a x) := pol_hwp _ k _

end real

/-! non-vacuity: the hypotheses of the ring-level theorems are met by a concrete non-trivial point -/
example : ((3 : ℚ) / 5) * (3 / 5) + (4 / 5) * (4 / 5) = 1 := by norm_num
example : rot ((3 : ℚ) / 5) (4 / 5) ⟨1, 2, 3, 4⟩ = ⟨1, -6 / 5, 17 / 5, 4⟩ := by
  simp [rot]; constructor <;> norm_num

end Furax.C15
