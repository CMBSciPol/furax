/-
C15 — Polarimetry operators realise their Mueller matrices: the closed statements, in the ONE list denotation
`den E o : List ℝ → List ℝ` (FuraxProofs/Sem/ListSem.lean).

A Stokes structure (`stokesOK`, FuraxProofs/Sem/StokesLaws.lean) has `|K|` leaves (`K` = I, QU, IQU, IQUV) of one shape
with `n` elements each; a flat vector is the `|K|` components concatenated, component `c`, sample `t` at position
`c·n + t`.  `sampleAt k n x t` is the Stokes vector of sample `t` (absent components `0`).

First what `den` of a HWP / QU-rotation / polariser leaf IS, entry by entry (the rotation angle of sample `t` is the
NumPy broadcast of the angle array; `denT` of the rotation is the rotation by `−a`); then the chain laws as equalities
of `den E (.comp …)`; then the factory `HWPOperator.create(shape, stokes, angles=a)`: the chain `rot.T @ hwp @ rot` as
`transposeOp` and `pyMatmul` build it, its denotation, and the denotation of what `reduce()` makes of it.
-/
import FuraxProofs.Props.C15
import FuraxProofs.Props.C01
import FuraxProofs.Sem.AcquisitionList
namespace Furax.C15
open Furax ListSem ListSem.Acq Op

/-- the Stokes vector of sample `t` of a flat vector of `|K|` components of `n` samples (absent components are `0`) -/
abbrev sampleAt (k : StokesKind) (n : Nat) (x : V) (t : Nat) : SV ℝ := skyAt k n x t

section leaves
variable (E : Env) {p : Params} {k : StokesKind}

/-- the kind of a Stokes structure is determined by its number of leaves -/
theorem stokes_kind {c : LeafCls} (h : stokesOK c p) : ∃ k, kindOf p.inS.leaves.length = some k ∧
    p.inS.leaves.length = nc k := by
  obtain ⟨k, hk⟩ := h.1
  exact ⟨k, hk, by rw [kindOf_ncomp hk, nc_eq]⟩

/-- every leaf of a Stokes structure has the common shape: sample `t` of component `c` sits at `c·n + t` -/
theorem stokes_leaves {c : LeafCls} (h : stokesOK c p) : ∀ l ∈ p.inS.leaves, l.shape = leafShape p := h.2.1

/-- **HWP, closed**: component `c`, sample `t` of `HWPOperator.mv(x)` is component `c` of `diag(1, 1, −1, −1)` applied
to the Stokes vector of sample `t` -/
theorem hwp_closed (u : Nat) (h : stokesOK .hwp p) (hk : kindOf p.inS.leaves.length = some k) (x : V)
    (hx : x.length = p.inS.size) (c t : Nat) (hc : c < nc k) (ht : t < prodNat (leafShape p)) :
    (den E (.leaf u .hwp p) x).getD (c * prodNat (leafShape p) + t) 0
      = (SV.present k (SV.hwp (sampleAt k (prodNat (leafShape p)) x t))).getD c 0 := by
  rw [den_hwp E u h hk x hx, stokesMap_getD k _ _ _ c t hc ht]

/-- the output has the declared structure (`@diagonal`: the output structure is the input structure) -/
theorem hwp_length (u : Nat) (h : stokesOK .hwp p) (hk : kindOf p.inS.leaves.length = some k) (x : V)
    (hx : x.length = p.inS.size) :
    (den E (.leaf u .hwp p) x).length = (Op.outS (.leaf u .hwp p)).size ∧ Op.outS (.leaf u .hwp p) = p.inS := by
  refine ⟨?_, rfl⟩
  rw [den_hwp E u h hk x hx, stokesMap_length]
  exact (stokesOK_size h hk).symm

/-- written out: I and Q are kept, U and V change sign -/
theorem hwp_closed_IQUV (u : Nat) (h : stokesOK .hwp p) (hk : kindOf p.inS.leaves.length = some .IQUV) (x : V)
    (hx : x.length = p.inS.size) (t : Nat) (ht : t < prodNat (leafShape p)) :
    let n := prodNat (leafShape p)
    let y := den E (.leaf u .hwp p) x
    y.getD t 0 = x.getD t 0 ∧ y.getD (n + t) 0 = x.getD (n + t) 0 ∧
    y.getD (2 * n + t) 0 = -x.getD (2 * n + t) 0 ∧ y.getD (3 * n + t) 0 = -x.getD (3 * n + t) 0 := by
  intro n y
  have hh := entries_IQUV fun c hc => hwp_closed E u h hk x hx c t hc ht
  rw [sampleAt, skyAt_IQUV] at hh
  exact hh

theorem hwp_closed_IQU (u : Nat) (h : stokesOK .hwp p) (hk : kindOf p.inS.leaves.length = some .IQU) (x : V)
    (hx : x.length = p.inS.size) (t : Nat) (ht : t < prodNat (leafShape p)) :
    let n := prodNat (leafShape p)
    let y := den E (.leaf u .hwp p) x
    y.getD t 0 = x.getD t 0 ∧ y.getD (n + t) 0 = x.getD (n + t) 0 ∧ y.getD (2 * n + t) 0 = -x.getD (2 * n + t) 0 := by
  intro n y
  have hh := entries_IQU fun c hc => hwp_closed E u h hk x hx c t hc ht
  rw [sampleAt, skyAt_IQU] at hh
  exact hh

theorem hwp_closed_QU (u : Nat) (h : stokesOK .hwp p) (hk : kindOf p.inS.leaves.length = some .QU) (x : V)
    (hx : x.length = p.inS.size) (t : Nat) (ht : t < prodNat (leafShape p)) :
    let n := prodNat (leafShape p)
    let y := den E (.leaf u .hwp p) x
    y.getD t 0 = x.getD t 0 ∧ y.getD (n + t) 0 = -x.getD (n + t) 0 := by
  intro n y
  have hh := entries_QU fun c hc => hwp_closed E u h hk x hx c t hc ht
  rw [sampleAt, skyAt_QU] at hh
  exact hh

/-- on intensity-only data the HWP is the identity (the code returns `x` itself) -/
theorem hwp_closed_I (u : Nat) (h : stokesOK .hwp p) (hk : kindOf p.inS.leaves.length = some .I) (x : V)
    (hx : x.length = p.inS.size) (t : Nat) (ht : t < prodNat (leafShape p)) :
    (den E (.leaf u .hwp p) x).getD t 0 = x.getD t 0 := by
  have h0 := hwp_closed E u h hk x hx 0 t (by decide) ht
  rw [Nat.zero_mul, Nat.zero_add, sampleAt, skyAt_I] at h0
  exact h0

/-- **the angle of sample `t`** is the entry of the angle array read by NumPy broadcasting: the multi-index of `t` in
the leaf shape (`unravel`), restricted to the trailing axes of the angle array with length-1 axes reading index `0`
(`bcastIndex`), flattened in the angle array (`ravelIdx`) -/
theorem angle_closed (h : stokesOK .qurot p) (t : Nat) (ht : t < prodNat (leafShape p)) :
    angleAt p.vals (leafShape p) t
      = ((p.vals.data.getD (ravelIdx p.vals.shape (bcastIndex p.vals.shape (unravel (leafShape p) t))) 0 : Rat) : ℝ) :=
  angleAt_eq p.vals (leafShape p) t (h.2.2.1 rfl).1 (h.2.2.1 rfl).2 ht

/-- … and that multi-index is a valid index of the angle array -/
theorem angle_index_valid (h : stokesOK .qurot p) (t : Nat) (ht : t < prodNat (leafShape p)) :
    ravelIdx p.vals.shape (bcastIndex p.vals.shape (unravel (leafShape p) t)) < p.vals.data.length := by
  have hw : p.vals.data.length = prodNat p.vals.shape := by simpa [Tensor.wellFormed] using (h.2.2.1 rfl).1
  rw [hw]
  exact bIdx_lt _ _ (h.2.2.1 rfl).2 t ht

/-- **QU rotation, closed**: component `c`, sample `t` of `QURotationOperator.mv(x)` is component `c` of the Mueller
matrix of the rotation by the angle `a_t` of sample `t` applied to the Stokes vector of sample `t`
(`R a v = ⟨I, Q cos 2a − U sin 2a, Q sin 2a + U cos 2a, V⟩`) -/
theorem qurot_closed (u : Nat) (h : stokesOK .qurot p) (hk : kindOf p.inS.leaves.length = some k) (x : V)
    (hx : x.length = p.inS.size) (c t : Nat) (hc : c < nc k) (ht : t < prodNat (leafShape p)) :
    (den E (.leaf u .qurot p) x).getD (c * prodNat (leafShape p) + t) 0
      = (SV.present k (R (angleAt p.vals (leafShape p) t) (sampleAt k (prodNat (leafShape p)) x t))).getD c 0 := by
  rw [den_qurot E u h hk x hx, stokesMap_getD k _ _ _ c t hc ht, rotG_eq]

theorem qurot_length (u : Nat) (h : stokesOK .qurot p) (hk : kindOf p.inS.leaves.length = some k) (x : V)
    (hx : x.length = p.inS.size) :
    (den E (.leaf u .qurot p) x).length = (Op.outS (.leaf u .qurot p)).size ∧ Op.outS (.leaf u .qurot p) = p.inS := by
  refine ⟨?_, rfl⟩
  rw [den_qurot E u h hk x hx, stokesMap_length]
  exact (stokesOK_size h hk).symm

/-- written out: `(Q, U)` is rotated by `2a`, `I` and `V` are fixed -/
theorem qurot_closed_IQUV (u : Nat) (h : stokesOK .qurot p) (hk : kindOf p.inS.leaves.length = some .IQUV) (x : V)
    (hx : x.length = p.inS.size) (t : Nat) (ht : t < prodNat (leafShape p)) :
    let n := prodNat (leafShape p)
    let a := angleAt p.vals (leafShape p) t
    let y := den E (.leaf u .qurot p) x
    y.getD t 0 = x.getD t 0 ∧
    y.getD (n + t) 0 = x.getD (n + t) 0 * Real.cos (2 * a) - x.getD (2 * n + t) 0 * Real.sin (2 * a) ∧
    y.getD (2 * n + t) 0 = x.getD (n + t) 0 * Real.sin (2 * a) + x.getD (2 * n + t) 0 * Real.cos (2 * a) ∧
    y.getD (3 * n + t) 0 = x.getD (3 * n + t) 0 := by
  intro n a y
  have hh := entries_IQUV fun c hc => qurot_closed E u h hk x hx c t hc ht
  rw [sampleAt, skyAt_IQUV] at hh
  exact hh

theorem qurot_closed_IQU (u : Nat) (h : stokesOK .qurot p) (hk : kindOf p.inS.leaves.length = some .IQU) (x : V)
    (hx : x.length = p.inS.size) (t : Nat) (ht : t < prodNat (leafShape p)) :
    let n := prodNat (leafShape p)
    let a := angleAt p.vals (leafShape p) t
    let y := den E (.leaf u .qurot p) x
    y.getD t 0 = x.getD t 0 ∧
    y.getD (n + t) 0 = x.getD (n + t) 0 * Real.cos (2 * a) - x.getD (2 * n + t) 0 * Real.sin (2 * a) ∧
    y.getD (2 * n + t) 0 = x.getD (n + t) 0 * Real.sin (2 * a) + x.getD (2 * n + t) 0 * Real.cos (2 * a) := by
  intro n a y
  have hh := entries_IQU fun c hc => qurot_closed E u h hk x hx c t hc ht
  rw [sampleAt, skyAt_IQU] at hh
  exact hh

theorem qurot_closed_QU (u : Nat) (h : stokesOK .qurot p) (hk : kindOf p.inS.leaves.length = some .QU) (x : V)
    (hx : x.length = p.inS.size) (t : Nat) (ht : t < prodNat (leafShape p)) :
    let n := prodNat (leafShape p)
    let a := angleAt p.vals (leafShape p) t
    let y := den E (.leaf u .qurot p) x
    y.getD t 0 = x.getD t 0 * Real.cos (2 * a) - x.getD (n + t) 0 * Real.sin (2 * a) ∧
    y.getD (n + t) 0 = x.getD t 0 * Real.sin (2 * a) + x.getD (n + t) 0 * Real.cos (2 * a) := by
  intro n a y
  have hh := entries_QU fun c hc => qurot_closed E u h hk x hx c t hc ht
  rw [sampleAt, skyAt_QU] at hh
  exact hh

/-- on intensity-only data the rotation is the identity -/
theorem qurot_closed_I (u : Nat) (h : stokesOK .qurot p) (hk : kindOf p.inS.leaves.length = some .I) (x : V)
    (hx : x.length = p.inS.size) (t : Nat) (ht : t < prodNat (leafShape p)) :
    (den E (.leaf u .qurot p) x).getD t 0 = x.getD t 0 := by
  have h0 := qurot_closed E u h hk x hx 0 t (by decide) ht
  rw [Nat.zero_mul, Nat.zero_add, sampleAt, skyAt_I] at h0
  exact h0

/-- **the transpose of the rotation is the rotation by `−a`** (`denT`: what `op.T.mv` computes) -/
theorem qurotT_closed (u : Nat) (h : stokesOK .qurot p) (hk : kindOf p.inS.leaves.length = some k) (x : V)
    (hx : x.length = p.inS.size) (c t : Nat) (hc : c < nc k) (ht : t < prodNat (leafShape p)) :
    (denT E (.leaf u .qurot p) x).getD (c * prodNat (leafShape p) + t) 0
      = (SV.present k (R (-angleAt p.vals (leafShape p) t) (sampleAt k (prodNat (leafShape p)) x t))).getD c 0 := by
  rw [denT_qurot E u h hk x hx, stokesMap_getD k _ _ _ c t hc ht, rotTG_eq, RT_eq_R_neg]

/-- `den` of the form `transposeOp` builds (`QURotationTransposeOperator(rot)`) is that map -/
theorem qurotT_wrap_closed (uw u : Nat) (h : stokesOK .qurot p) (hk : kindOf p.inS.leaves.length = some k) (x : V)
    (hx : x.length = p.inS.size) (c t : Nat) (hc : c < nc k) (ht : t < prodNat (leafShape p)) :
    transposeOp (.leaf u .qurot p) = .ok (.wrap 0 .qurotT (.leaf u .qurot p)) ∧
    (den E (.wrap uw .qurotT (.leaf u .qurot p)) x).getD (c * prodNat (leafShape p) + t) 0
      = (SV.present k (R (-angleAt p.vals (leafShape p) t) (sampleAt k (prodNat (leafShape p)) x t))).getD c 0 := by
  exact ⟨rfl, qurotT_closed E u h hk x hx c t hc ht⟩

theorem polarizer_outSize (h : stokesOK .polarizer p) : p.outS.size = prodNat (leafShape p) := by
  obtain ⟨l, hl, hsh⟩ := h.2.2.2 rfl
  simp [Struct.size, hl, LeafS.size, hsh]

/-- **linear polariser, closed**: sample `t` of the one detector leaf is the first row `(1/2, 1/2, 0, 0)` of the
polariser's Mueller matrix applied to the Stokes vector of sample `t`; an absent component does not contribute -/
theorem polarizer_closed (u : Nat) (h : stokesOK .polarizer p) (hk : kindOf p.inS.leaves.length = some k) (x : V)
    (hx : x.length = p.inS.size) (t : Nat) (ht : t < prodNat (leafShape p)) :
    (den E (.leaf u .polarizer p) x).getD t 0 = SV.pol (1 / 2 : ℝ) k (sampleAt k (prodNat (leafShape p)) x t) := by
  rw [den_polarizer E u hk x hx, fit_eq_self (by rw [polMap_length, polarizer_outSize h]), polMap_eq,
    List.getD_eq_getElem _ _ (by simpa using ht), List.getElem_map, List.getElem_range, svAt_eq k _ x t ht]

/-- the output has the declared (one-leaf) structure -/
theorem polarizer_length (u : Nat) (h : stokesOK .polarizer p) (hk : kindOf p.inS.leaves.length = some k) (x : V)
    (hx : x.length = p.inS.size) :
    (den E (.leaf u .polarizer p) x).length = (Op.outS (.leaf u .polarizer p)).size ∧
    Op.outS (.leaf u .polarizer p) = p.outS ∧ p.outS.size = prodNat (leafShape p) := by
  refine ⟨?_, rfl, polarizer_outSize h⟩
  rw [den_polarizer E u hk x hx, fit_length]
  rfl

/-- written out: `(I + Q)/2`; `I/2` when Q is absent; `Q/2` when I is absent -/
theorem polarizer_closed_IQUV (u : Nat) (h : stokesOK .polarizer p) (hk : kindOf p.inS.leaves.length = some .IQUV)
    (x : V) (hx : x.length = p.inS.size) (t : Nat) (ht : t < prodNat (leafShape p)) :
    (den E (.leaf u .polarizer p) x).getD t 0 = (x.getD t 0 + x.getD (prodNat (leafShape p) + t) 0) / 2 := by
  rw [polarizer_closed E u h hk x hx t ht, sampleAt, skyAt_IQUV]
  exact one_div_mul_eq_div 2 _

theorem polarizer_closed_IQU (u : Nat) (h : stokesOK .polarizer p) (hk : kindOf p.inS.leaves.length = some .IQU)
    (x : V) (hx : x.length = p.inS.size) (t : Nat) (ht : t < prodNat (leafShape p)) :
    (den E (.leaf u .polarizer p) x).getD t 0 = (x.getD t 0 + x.getD (prodNat (leafShape p) + t) 0) / 2 := by
  rw [polarizer_closed E u h hk x hx t ht, sampleAt, skyAt_IQU]
  exact one_div_mul_eq_div 2 _

theorem polarizer_closed_QU (u : Nat) (h : stokesOK .polarizer p) (hk : kindOf p.inS.leaves.length = some .QU)
    (x : V) (hx : x.length = p.inS.size) (t : Nat) (ht : t < prodNat (leafShape p)) :
    (den E (.leaf u .polarizer p) x).getD t 0 = x.getD t 0 / 2 := by
  rw [polarizer_closed E u h hk x hx t ht, sampleAt, skyAt_QU]
  exact one_div_mul_eq_div 2 _

theorem polarizer_closed_I (u : Nat) (h : stokesOK .polarizer p) (hk : kindOf p.inS.leaves.length = some .I)
    (x : V) (hx : x.length = p.inS.size) (t : Nat) (ht : t < prodNat (leafShape p)) :
    (den E (.leaf u .polarizer p) x).getD t 0 = x.getD t 0 / 2 := by
  rw [polarizer_closed E u h hk x hx t ht, sampleAt, skyAt_I]
  exact one_div_mul_eq_div 2 _

/-- **the transpose of the polariser** (`denT`: what `op.T.mv` computes): a detector sample `y_t` is sent to the Stokes
vector `(y_t/2, y_t/2, 0, 0)` — the first row of the Mueller matrix as a column — of which the present components are
kept -/
theorem polarizerT_closed (u : Nat) (h : stokesOK .polarizer p) (hk : kindOf p.inS.leaves.length = some k) (y : V)
    (hy : y.length = p.outS.size) (c t : Nat) (hc : c < nc k) (ht : t < prodNat (leafShape p)) :
    (denT E (.leaf u .polarizer p) y).getD (c * prodNat (leafShape p) + t) 0
      = (SV.present k (⟨(1 / 2 : ℝ) * y.getD t 0, (1 / 2 : ℝ) * y.getD t 0, 0, 0⟩ : SV ℝ)).getD c 0 := by
  have e : polTMap k (prodNat (leafShape p)) y = stokesMap k (prodNat (leafShape p))
      (fun t _ => (⟨(1 / 2 : ℝ) * y.getD t 0, (1 / 2 : ℝ) * y.getD t 0, 0, 0⟩ : SV ℝ)) [] := rfl
  rw [denT, leafDenT_of_len (u := u) (c := .polarizer) hy]
  simp only [leafKerT, hk]
  rw [headD_size, e, fit_eq_self ((stokesMap_length ..).trans (stokesOK_size h hk).symm),
    stokesMap_getD k _ _ _ c t hc ht]

end leaves

section chains
variable (E : Env)

def negAngles (p : Params) : Params := { p with vals := p.vals.map (- ·) }

/-- **`Rᵀ(a) = R(−a)` as operators**: `denT` of a rotation leaf — and `den` of `QURotationTransposeOperator(rot)`, the
form `transposeOp` builds — is `den` of the rotation leaf with the opposite angles -/
theorem qurotT_eq_neg (uw u u' : Nat) {p : Params} (h : stokesOK .qurot p) (x : V) (hx : x.length = p.inS.size) :
    denT E (.leaf u .qurot p) x = den E (.leaf u' .qurot (negAngles p)) x ∧
    den E (.wrap uw .qurotT (.leaf u .qurot p)) x = den E (.leaf u' .qurot (negAngles p)) x := by
  obtain ⟨k, hk⟩ := h.1
  obtain ⟨w, b, hneg⟩ := angleAt_neg p.vals (leafShape p) (h.2.2.1 rfl).1 (h.2.2.1 rfl).2
  have hn : stokesOK .qurot (negAngles p) := ⟨h.1, h.2.1, fun _ => ⟨w, b⟩, fun hc => by cases hc⟩
  show _ ∧ denT E (.leaf u .qurot p) x = _
  rw [and_self, denT_qurot E u h hk x hx, den_qurot E u' hn hk x hx]
  apply stokesMap_congr
  intro t ht
  rw [rotG_eq, rotTG_eq, RT_eq_R_neg]
  exact congrArg _ (congrArg (fun a => R a _) (hneg t ht).symm)

variable {pl pr : Params}

/-- **R(a) ∘ R(b) = R(a + b)**, entry by entry, the angles of both operands NumPy-broadcast to sample `t` -/
theorem rot_rot_entry (uc ul ur : Nat) {k : StokesKind} (hl : stokesOK .qurot pl) (hr : stokesOK .qurot pr)
    (hS : pl.inS = pr.inS) (hk : kindOf pr.inS.leaves.length = some k) (x : V) (hx : x.length = pr.inS.size)
    (c t : Nat) (hc : c < nc k) (ht : t < prodNat (leafShape pr)) :
    (den E (.comp uc [.leaf ul .qurot pl, .leaf ur .qurot pr]) x).getD (c * prodNat (leafShape pr) + t) 0
      = (SV.present k (R (angleAt pl.vals (leafShape pr) t + angleAt pr.vals (leafShape pr) t)
          (sampleAt k (prodNat (leafShape pr)) x t))).getD c 0 := by
  obtain ⟨hkl, hsh, hsz⟩ := stokesOK_on hl hS hk
  show (den E _ (den E _ x)).getD _ 0 = _
  rw [den_qurot E ur hr hk x hx, den_qurot E ul hl hkl _ (by rw [stokesMap_length, hsz]), hsh,
    stokesMap_comp _ _ _ _ _ (rotG_resp _ _ _), stokesMap_getD _ _ _ _ c t hc ht, rotG_eq, rotG_eq, R_R]

/-- **R(a) ∘ R(b) = R(a + b)**, as operators: the composition is the rotation leaf `QURotationRule` builds, whose
angle array is the broadcast sum of the operands' angle arrays -/
theorem rot_rot_closed (uc ul ur : Nat) (a : Tensor Rat) (hl : stokesOK .qurot pl) (hr : stokesOK .qurot pr)
    (hS : pl.inS = pr.inS) (ha : tensorOp (· + ·) pl.vals pr.vals = .ok a) :
    stokesOK .qurot { inS := pr.inS, outS := pr.inS, vals := a } ∧
    (∀ t, t < prodNat (leafShape pr) →
      angleAt a (leafShape pr) t = angleAt pl.vals (leafShape pr) t + angleAt pr.vals (leafShape pr) t) ∧
    ∀ x : V, x.length = pr.inS.size →
      den E (.comp uc [.leaf ul .qurot pl, .leaf ur .qurot pr]) x = den E (mkQURot a pr.inS) x := by
  obtain ⟨h1, h2⟩ := ListSem.rot_rot E ul pl ur pr a hl hr hS ha
  exact ⟨h1, fun t ht => angleAt_add hl hr hS ha t ht, fun x hx => (h2 x hx).symm⟩

/-- **R(a) ∘ HWP = HWP ∘ R(−a)** (`QURotationHWPRule`), with `R(−a)` as the lazy transpose … -/
theorem rot_hwp_closed (uc uc' uw ul ur : Nat) (hl : stokesOK .qurot pl) (hr : stokesOK .hwp pr)
    (hS : pl.inS = pr.inS) (x : V) (hx : x.length = pr.inS.size) :
    den E (.comp uc [.leaf ul .qurot pl, .leaf ur .hwp pr]) x
      = den E (.comp uc' [.leaf ur .hwp pr, .wrap uw .qurotT (.leaf ul .qurot pl)]) x :=
  (ListSem.rot_hwp E uw ul pl ur pr hl hr hS x hx).symm

/-- … and with `R(−a)` as the rotation leaf of the opposite angles -/
theorem rot_hwp_neg_closed (uc uc' ul ul' ur : Nat) (hl : stokesOK .qurot pl) (hr : stokesOK .hwp pr)
    (hS : pl.inS = pr.inS) (x : V) (hx : x.length = pr.inS.size) :
    den E (.comp uc [.leaf ul .qurot pl, .leaf ur .hwp pr]) x
      = den E (.comp uc' [.leaf ur .hwp pr, .leaf ul' .qurot (negAngles pl)]) x := by
  rw [rot_hwp_closed E uc uc' 0 ul ur hl hr hS x hx]
  exact congrArg (den E (.leaf ur .hwp pr)) (qurotT_eq_neg E 0 ul ul' hl x (by rw [hS]; exact hx)).2

/-- the mirror case: **Rᵀ(a) ∘ HWP = HWP ∘ R(a)** -/
theorem rotT_hwp_closed (uc uc' uw ul ur : Nat) (hl : stokesOK .qurot pl) (hr : stokesOK .hwp pr)
    (hS : pl.inS = pr.inS) (x : V) (hx : x.length = pr.inS.size) :
    den E (.comp uc [.wrap uw .qurotT (.leaf ul .qurot pl), .leaf ur .hwp pr]) x
      = den E (.comp uc' [.leaf ur .hwp pr, .leaf ul .qurot pl]) x :=
  (ListSem.rotT_hwp E uw ul pl ur pr hl hr hS x hx).symm

/-- **P ∘ HWP = P** (`LinearPolarizerHWPRule`) -/
theorem pol_hwp_closed (uc ul ur : Nat) (hl : stokesOK .polarizer pl) (hr : stokesOK .hwp pr)
    (hS : pl.inS = pr.inS) (x : V) (hx : x.length = pr.inS.size) :
    den E (.comp uc [.leaf ul .polarizer pl, .leaf ur .hwp pr]) x = den E (.leaf ul .polarizer pl) x :=
  (ListSem.polarizer_hwp E ul pl ur pr hl hr hS x hx).symm

/-- **Rᵀ R = id = R Rᵀ** (orthogonality) -/
theorem rotT_rot_closed (uc uw u : Nat) {p : Params} (h : stokesOK .qurot p) (x : V) (hx : x.length = p.inS.size) :
    den E (.comp uc [.wrap uw .qurotT (.leaf u .qurot p), .leaf u .qurot p]) x = x ∧
    den E (.comp uc [.leaf u .qurot p, .wrap uw .qurotT (.leaf u .qurot p)]) x = x :=
  qurot_inv_wrap E uw u p h x hx

/-- the HWP is an involution: **HWP ∘ HWP = id** -/
theorem hwp_hwp_closed (uc u u' : Nat) {p : Params} (h : stokesOK .hwp p) (x : V) (hx : x.length = p.inS.size) :
    den E (.comp uc [.leaf u .hwp p, .leaf u' .hwp p]) x = x := by
  obtain ⟨k, hk⟩ := h.1
  have hsz := stokesOK_size h hk
  show den E _ (den E _ x) = x
  rw [den_hwp E u' h hk x hx, den_hwp E u h hk _ (by rw [stokesMap_length, hsz]),
    stokesMap_comp _ _ _ _ _ (hwp_resp k)]
  apply stokesMap_id _ _ _ _ (by rw [hx, hsz])
  intro t _
  rw [hwp_hwp]

end chains

open Diagonal in
/-- two shapes that both broadcast to `S` broadcast with each other: padded to the larger rank, aligned
dimensions are `1` or the same dimension of `S` -/
theorem broadcastShapes_of_Bc (a b S : List Nat) (ha : Bc a S) (hb : Bc b S) : ∃ s, broadcastShapes a b = some s := by
  refine ⟨_, option_mapM_eq_some bcastDim (fun p => bdim p.1 p.2) _ fun p hp => bcastDim_compat ?_⟩
  obtain ⟨j, hj⟩ := List.mem_iff_getElem?.mp hp
  obtain ⟨h1, h2⟩ := List.getElem?_zip_eq_some.mp hj
  have hjn := (List.getElem?_eq_some_iff.mp h1).1
  rw [List.length_append, List.length_replicate, Nat.sub_add_cancel (Nat.le_max_left _ _)] at hjn
  have hn := Nat.max_le.mpr ⟨ha.1, hb.1⟩
  have hx := padded_of_Bc ha (Nat.le_max_left a.length b.length) hn j hjn
  have hy := padded_of_Bc hb (Nat.le_max_right a.length b.length) hn j hjn
  rw [List.getD_eq_getElem?_getD, h1, Option.getD_some] at hx
  rw [List.getD_eq_getElem?_getD, h2, Option.getD_some] at hy
  rcases hx with ex | ex
  · exact .inr (.inl ex)
  · exact hy.elim (fun ey => .inr (.inr ey)) fun ey => .inl (ex.trans ey.symm)

/-- the sum of the angle arrays of two valid rotations on the same structure always exists -/
theorem angles_add_ok {pl pr : Params} (hl : stokesOK .qurot pl) (hr : stokesOK .qurot pr) (hS : pl.inS = pr.inS) :
    ∃ a, tensorOp (· + ·) pl.vals pr.vals = .ok a := by
  obtain ⟨s, hs⟩ := broadcastShapes_of_Bc pl.vals.shape pr.vals.shape (leafShape pr) (angles_on hl hS).2
    (hr.2.2.1 rfl).2
  unfold tensorOp Tensor.zipBroadcast
  simp [hs]

/-- **R(a) ∘ R(b) = R(a + b)**, unconditionally: the broadcast sum of the angle arrays exists, is a valid angle array
for the structure, and the composition is the rotation by it -/
theorem rot_rot_exists (E : Env) (uc ul ur : Nat) {pl pr : Params} (hl : stokesOK .qurot pl) (hr : stokesOK .qurot pr)
    (hS : pl.inS = pr.inS) :
    ∃ a, tensorOp (· + ·) pl.vals pr.vals = .ok a ∧
      stokesOK .qurot { inS := pr.inS, outS := pr.inS, vals := a } ∧
      (∀ t, t < prodNat (leafShape pr) →
        angleAt a (leafShape pr) t = angleAt pl.vals (leafShape pr) t + angleAt pr.vals (leafShape pr) t) ∧
      ∀ x : V, x.length = pr.inS.size →
        den E (.comp uc [.leaf ul .qurot pl, .leaf ur .qurot pr]) x = den E (mkQURot a pr.inS) x := by
  obtain ⟨a, ha⟩ := angles_add_ok hl hr hS
  exact ⟨a, ha, rot_rot_closed E uc ul ur a hl hr hS ha⟩

/-! ### the factory `HWPOperator.create(shape, dtype, stokes, angles=a)`

    in_structure = StokesPyTree.class_for(stokes).structure_for(shape, dtype)
    hwp = cls(in_structure);  rot = QURotationOperator(angles, in_structure)
    return rot.T @ hwp @ rot
-/

section factory
variable (E : Env)

/-- `QURotationOperator(angles, s)` -/
def rotOf (ur : Nat) (s : Struct) (angles : Tensor Rat) : Op :=
  .leaf ur .qurot { inS := s, outS := s, vals := angles }
/-- `HWPOperator(s)` -/
def hwpOf (uh : Nat) (s : Struct) : Op := .leaf uh .hwp { inS := s, outS := s }

/-- the rotated half-wave plate: `rot.T @ hwp @ rot` -/
def hwpFactory (uh ur : Nat) (s : Struct) (angles : Tensor Rat) : Op :=
  .comp 0 [.wrap 0 .qurotT (rotOf ur s angles), hwpOf uh s, rotOf ur s angles]

/-- **the modelled `.T` and `@` build exactly this chain**: `rot.T` is `QURotationTransposeOperator(rot)`
(`transposeOp`), `rot.T @ hwp` a two-operand composition (`AbstractLinearOperator.__matmul__`: the HWP is not the
operand of the lazy inverse), `(…) @ rot` appends (`CompositionOperator.__matmul__`) -/
theorem hwpFactory_built (uh ur : Nat) (s : Struct) (angles : Tensor Rat) :
    (transposeOp (rotOf ur s angles) >>= fun rt => pyMatmul rt (hwpOf uh s) >>= fun rh =>
        pyMatmul rh (rotOf ur s angles)) = .ok (hwpFactory uh ur s angles) := by
  simp [transposeOp, isSymmetricLeaf, pyMatmul, matmulOf, baseMatmul, rotOf, hwpOf, hwpFactory, Op.inS, Op.outS,
    squareLeaf, isComp, lazyInverseOf, same, beq, mkComp, inSLast, bind, Except.bind]

variable {s : Struct} {angles : Tensor Rat} {k : StokesKind}

/-- the validity of the two leaves is that of the rotation: `s` is a Stokes structure and the angles broadcast to
the shape of its leaves -/
theorem hwpOf_ok (h : stokesOK .qurot { inS := s, outS := s, vals := angles }) :
    stokesOK .hwp { inS := s, outS := s } :=
  ⟨h.1, h.2.1, fun hc => (by cases hc), fun hc => (by cases hc)⟩

/-- **the factory, closed**: sample by sample `Rᵀ(a_t) · HWP · R(a_t)`, which is `HWP · R(2 a_t)` -/
theorem hwpFactory_closed (uh ur : Nat) (h : stokesOK .qurot { inS := s, outS := s, vals := angles })
    (hk : kindOf s.leaves.length = some k) (x : V) (hx : x.length = s.size) (c t : Nat) (hc : c < nc k)
    (ht : t < prodNat (s.leaves.headD default).shape) :
    let n := prodNat (s.leaves.headD default).shape
    let a := angleAt angles (s.leaves.headD default).shape t
    (den E (hwpFactory uh ur s angles) x).getD (c * n + t) 0
        = (SV.present k (RT a (SV.hwp (R a (sampleAt k n x t))))).getD c 0 ∧
    (den E (hwpFactory uh ur s angles) x).getD (c * n + t) 0
        = (SV.present k (SV.hwp (R (2 * a) (sampleAt k n x t)))).getD c 0 := by
  intro n a
  rw [← factory_hwp, and_self]
  show (den E (.wrap 0 .qurotT (.leaf ur .qurot _)) (den E (.leaf uh .hwp _) (den E (.leaf ur .qurot _) x))).getD _ 0 = _
  rw [den_qurot E ur h hk x hx,
    den_hwp E uh (hwpOf_ok h) hk _ ((stokesMap_length ..).trans (stokesOK_size h hk).symm),
    den_qurotT E 0 ur h hk _ ((stokesMap_length ..).trans (stokesOK_size (hwpOf_ok h) hk).symm)]
  show (stokesMap k n _ (stokesMap k n _ (stokesMap k n _ x))).getD _ 0 = _
  rw [stokesMap_comp _ _ _ _ _ (hwp_resp k), stokesMap_comp _ _ _ _ _ (rotTG_resp _ _ _),
    stokesMap_getD k n _ x c t hc ht]
  rfl

/-- written out for IQUV data: `I` is kept, `(Q, U)` is rotated by `4a` and `U` flipped, `V` is flipped -/
theorem hwpFactory_closed_IQUV (uh ur : Nat) (h : stokesOK .qurot { inS := s, outS := s, vals := angles })
    (hk : kindOf s.leaves.length = some .IQUV) (x : V) (hx : x.length = s.size) (t : Nat)
    (ht : t < prodNat (s.leaves.headD default).shape) :
    let n := prodNat (s.leaves.headD default).shape
    let a := angleAt angles (s.leaves.headD default).shape t
    let y := den E (hwpFactory uh ur s angles) x
    y.getD t 0 = x.getD t 0 ∧
    y.getD (n + t) 0 = x.getD (n + t) 0 * Real.cos (2 * (2 * a)) - x.getD (2 * n + t) 0 * Real.sin (2 * (2 * a)) ∧
    y.getD (2 * n + t) 0
      = -(x.getD (n + t) 0 * Real.sin (2 * (2 * a)) + x.getD (2 * n + t) 0 * Real.cos (2 * (2 * a))) ∧
    y.getD (3 * n + t) 0 = -x.getD (3 * n + t) 0 := by
  intro n a y
  have hh := entries_IQUV fun c hc => (hwpFactory_closed E uh ur h hk x hx c t hc ht).2
  rw [sampleAt, skyAt_IQUV] at hh
  exact hh

/-- the factory chain is well formed in the sense of the closed soundness theorem of `reduce()`: the leaves are
valid, the structures match, and the lazy inverse `rot.T` wraps an invertible operand (a rotation is orthogonal) -/
theorem hwpFactory_wt (uh ur : Nat) (h : stokesOK .qurot { inS := s, outS := s, vals := angles }) :
    WTExpr (listArithSem E).invertible listLeafOK (hwpFactory uh ur s angles) := by
  have hq : listLeafOK .qurot { inS := s, outS := s, vals := angles } := h
  have hh : listLeafOK .hwp { inS := s, outS := s } := hwpOf_ok h
  simp only [hwpFactory, rotOf, hwpOf, WTExpr, WTList, Chain, WrapOK, WrapCls.isLazy]
  exact ⟨by simp, ⟨⟨hq, fun _ => ⟨rfl, qurot_invertibleG E ur _ h⟩, fun _ => rfl, by simp, by simp⟩, hh, hq, trivial⟩,
    rfl, rfl, trivial⟩

/-- **the factory after `reduce()`**: whatever `reduceTop` returns denotes the same map — an instance of
`C01.reduceTop_sound_closed` — hence is sample-wise `Rᵀ(a) · HWP · R(a) = HWP · R(2a)` too -/
theorem hwpFactory_reduced_closed (uh ur : Nat) (h : stokesOK .qurot { inS := s, outS := s, vals := angles })
    (r : Op) (hred : reduceTop (hwpFactory uh ur s angles) = .ok r) (x : V) (hx : x.length = s.size) :
    den E r x = den E (hwpFactory uh ur s angles) x :=
  (C01.reduceTop_sound_closed E _ r (hwpFactory_wt E uh ur h) hred).2.2.2 x hx

theorem hwpFactory_reduced_entry (uh ur : Nat) (h : stokesOK .qurot { inS := s, outS := s, vals := angles })
    (hk : kindOf s.leaves.length = some k) (r : Op) (hred : reduceTop (hwpFactory uh ur s angles) = .ok r)
    (x : V) (hx : x.length = s.size) (c t : Nat) (hc : c < nc k) (ht : t < prodNat (s.leaves.headD default).shape) :
    (den E r x).getD (c * prodNat (s.leaves.headD default).shape + t) 0
      = (SV.present k (SV.hwp (R (2 * angleAt angles (s.leaves.headD default).shape t)
          (sampleAt k (prodNat (s.leaves.headD default).shape) x t)))).getD c 0 := by
  rw [hwpFactory_reduced_closed E uh ur h r hred x hx]
  exact (hwpFactory_closed E uh ur h hk x hx c t hc ht).2

end factory

/-! #### what `reduce()` returns, for all parameters

`QURotationHWPRule` rewrites `Rᵀ @ H` into `H @ R` (the operand of the lazy transpose), then `QURotationRule` merges
`R @ R` into the rotation by the broadcast sum `a + a`; no other rule fires.

`fire_wh`, `fire_hr`, `fire_rr`: what the rule registry answers on the pairs `(Rᵀ, H)`, `(H, R)`, `(R, R)` — fires,
declines, fires.  Each starts with `fireFirst_rules`, whose six arguments say that the pair is matched by none of the
structural rules (move-axis, reshape, pack, block, index·transpose, transpose·index); what remains is the inverse
rule and the three polarimetry rules, tried in this order.  `hom_*`: none of the operands is a homothety, so the scan
does not restart.  `scan_hwpFactory`: the five steps of the scan (fire, advance, fire, advance, stop), one unit of
fuel each, hence `fuel + 5`.  In `reduceTop_hwpFactory` the factory has depth 3, so `reduceTop` runs
`reduce (2 * 3 + 8) = reduce 14` and reduces the operands with `reduce 13`; `algebraicReduction_of_scan` hands the scan
`fuel + 32 = (fuel + 27) + 5`. -/

section reduced
theorem fire_wh (red : Op → Except PyErr Op) (uh ur : Nat) (s : Struct) (angles : Tensor Rat) :
    fireFirst (reductionCfg red).rules (.wrap 0 .qurotT (rotOf ur s angles)) (hwpOf uh s)
      = .ok (some [hwpOf uh s, rotOf ur s angles]) := by
  rw [fireFirst_rules red (.inl rfl) (.inl ⟨rfl, rfl⟩) (.inl rfl) (.inl rfl) (.inl rfl) (.inl rfl)]
  have hi : inverseBinaryRule.fire (.wrap 0 .qurotT (rotOf ur s angles)) (hwpOf uh s) = .ok none := by
    simp only [inverseBinaryRule, isLazyInverse, operator?, rotOf, hwpOf,
      same_leaf_of_ne (show LeafCls.qurot ≠ .hwp by decide)]
    rfl
  exact (fireFirst_cons_none _ (dropIdentities_none hi)).trans <|
    (fireFirst_cons_none _ (dropIdentities_none rfl)).trans <|
    fireFirst_cons_some _ (dropIdentities_some (new := [hwpOf uh s, rotOf ur s angles]) rfl)

theorem fire_hr (red : Op → Except PyErr Op) (uh u : Nat) (s : Struct) (p : Params) :
    fireFirst (reductionCfg red).rules (hwpOf uh s) (.leaf u .qurot p) = .ok none := by
  rw [fireFirst_rules red (.inl rfl) (.inl ⟨rfl, rfl⟩) (.inl rfl) (.inl rfl) (.inl rfl) (.inl rfl)]
  rfl

theorem fire_rr (red : Op → Except PyErr Op) (ur : Nat) (s : Struct) (angles a : Tensor Rat)
    (ha : tensorOp (· + ·) angles angles = .ok a) :
    fireFirst (reductionCfg red).rules (rotOf ur s angles) (rotOf ur s angles) = .ok (some [mkQURot a s]) := by
  rw [fireFirst_rules red (.inl rfl) (.inl ⟨rfl, rfl⟩) (.inl rfl) (.inl rfl) (.inl rfl) (.inl rfl)]
  have hq : quRotationRule.fire (rotOf ur s angles) (rotOf ur s angles) = .ok (some [mkQURot a s]) := by
    simp only [quRotationRule, rotOf, isQURot, isLeafCls, anglesOf, ha, Op.inS, beq_self_eq_true, Bool.true_or,
      Bool.not_true, Bool.false_eq_true, if_false, if_true]
  exact (fireFirst_cons_none _ (dropIdentities_none rfl)).trans <| fireFirst_cons_some _ (dropIdentities_some hq)

theorem hom_hwpOf (red : Op → Except PyErr Op) (uh : Nat) (s : Struct) : (reductionCfg red).isHom (hwpOf uh s) = false := rfl
theorem hom_rotOf (red : Op → Except PyErr Op) (ur : Nat) (s : Struct) (angles : Tensor Rat) :
    (reductionCfg red).isHom (rotOf ur s angles) = false := rfl
theorem hom_mkQURot (red : Op → Except PyErr Op) (s : Struct) (a : Tensor Rat) :
    (reductionCfg red).isHom (mkQURot a s) = false := rfl

theorem scan_hwpFactory (red : Op → Except PyErr Op) (uh ur : Nat) (s : Struct) (angles a : Tensor Rat)
    (ha : tensorOp (· + ·) angles angles = .ok a) (fuel : Nat) :
    scan (reductionCfg red) (fuel + 5) [.wrap 0 .qurotT (rotOf ur s angles), hwpOf uh s, rotOf ur s angles] 0
      = .ok (some [hwpOf uh s, mkQURot a s]) :=
  (scan_fire _ (fuel + 4) _ 0 (Nat.le_of_ble_eq_true rfl) (fire_wh red uh ur s angles) rfl).trans <|
  (scan_advance _ (fuel + 3) _ 0 (Nat.le_of_ble_eq_true rfl) (fire_hr red uh ur s _)).trans <|
  (scan_fire _ (fuel + 2) _ 1 (Nat.le_of_ble_eq_true rfl) (fire_rr red ur s angles a ha) rfl).trans <|
  (scan_advance _ (fuel + 1) _ 0 (Nat.le_of_ble_eq_true rfl) (fire_hr red uh 0 s _)).trans <|
  scan_stop _ fuel _ 1 (Nat.lt_irrefl 2)

theorem reduceTop_hwpFactory (uh ur : Nat) (s : Struct) (angles a : Tensor Rat)
    (ha : tensorOp (· + ·) angles angles = .ok a) :
    reduceTop (hwpFactory uh ur s angles) = .ok (.comp 0 [hwpOf uh s, mkQURot a s]) := by
  have hw : reduce 13 (.wrap 0 .qurotT (rotOf ur s angles)) = .ok (.wrap 0 .qurotT (rotOf ur s angles)) := rfl
  have hh : reduce 13 (hwpOf uh s) = .ok (hwpOf uh s) := rfl
  have hq : reduce 13 (rotOf ur s angles) = .ok (rotOf ur s angles) := rfl
  have hal : algebraicReduction (reduce 13) [.wrap 0 .qurotT (rotOf ur s angles), hwpOf uh s, rotOf ur s angles]
      = .ok [hwpOf uh s, mkQURot a s] :=
    algebraicReduction_of_scan _ (Nat.le_of_ble_eq_true rfl) rfl (List.cons_ne_nil _ _) fun fuel =>
      scan_hwpFactory (reduce 13) uh ur s angles a ha (fuel + 27)
  rw [reduceTop, hwpFactory, show 2 * Op.depth _ + 8 = 13 + 1 from rfl, reduce_comp]
  simp only [List.mapM_cons, List.mapM_nil, hw, hh, hq, bind, Except.bind, pure, Except.pure, hal]
  rfl

/-- **the reduced factory, explicitly**: `HWP @ R(a + a)`, and it denotes the same map -/
theorem hwpFactory_reduced (E : Env) (uh ur : Nat) {s : Struct} {angles : Tensor Rat} (a : Tensor Rat)
    (h : stokesOK .qurot { inS := s, outS := s, vals := angles }) (ha : tensorOp (· + ·) angles angles = .ok a)
    (x : V) (hx : x.length = s.size) :
    den E (.comp 0 [hwpOf uh s, mkQURot a s]) x = den E (hwpFactory uh ur s angles) x :=
  hwpFactory_reduced_closed E uh ur h _ (reduceTop_hwpFactory uh ur s angles a ha) x hx

/-- … and the sum `a + a` always exists for a valid rotation: **`reduce()` of the factory is `HWP @ R(a + a)`** -/
theorem hwpFactory_reduced_exists (E : Env) (uh ur : Nat) {s : Struct} {angles : Tensor Rat}
    (h : stokesOK .qurot { inS := s, outS := s, vals := angles }) :
    ∃ a, tensorOp (· + ·) angles angles = .ok a ∧
      reduceTop (hwpFactory uh ur s angles) = .ok (.comp 0 [hwpOf uh s, mkQURot a s]) ∧
      (∀ t, t < prodNat (s.leaves.headD default).shape →
        angleAt a (s.leaves.headD default).shape t = 2 * angleAt angles (s.leaves.headD default).shape t) ∧
      ∀ x : V, x.length = s.size →
        den E (.comp 0 [hwpOf uh s, mkQURot a s]) x = den E (hwpFactory uh ur s angles) x := by
  obtain ⟨a, ha⟩ := angles_add_ok h h rfl
  exact ⟨a, ha, reduceTop_hwpFactory uh ur s angles a ha, fun t ht => (angleAt_add h h rfl ha t ht).trans (two_mul _).symm,
    hwpFactory_reduced E uh ur a h ha⟩

end reduced

/-! ### non-vacuity: IQU maps of shape (2, 3), one angle per column -/

namespace ClosedExamples
open ListSem.Examples

def hwpP : Params := { inS := iqu, outS := iqu }
def polP : Params := { inS := iqu, outS := ⟨[.leaf], [⟨[2, 3], .f64⟩]⟩ }

theorem hwpP_ok : stokesOK .hwp hwpP := hwpOf_ok (s := iqu) (angles := rotP.vals) rotP_ok
theorem polP_ok : stokesOK .polarizer polP :=
  ⟨⟨.IQU, rfl⟩, by decide, fun h => (by cases h), fun _ => ⟨_, rfl, rfl⟩⟩
theorem iqu_kind : kindOf iqu.leaves.length = some .IQU := rfl
theorem iqu_n : prodNat (leafShape rotP) = 6 := rfl

/-- the hypotheses of `qurot_closed` (and of `_IQU`) are met: `U` of sample `(1, 1)` (flat position `4`) -/
example (E : Env) (x : V) (hx : x.length = 18) :
    (den E (.leaf 3 .qurot rotP) x).getD (2 * 6 + 4) 0
      = x.getD (6 + 4) 0 * Real.sin (2 * angleAt rotP.vals [2, 3] 4)
        + x.getD (2 * 6 + 4) 0 * Real.cos (2 * angleAt rotP.vals [2, 3] 4) :=
  (qurot_closed_IQU E 3 rotP_ok iqu_kind x hx 4 (by decide)).2.2

/-- … and the angle of that sample is the one of column `1` (NumPy broadcasting of shape `(3,)` to `(2, 3)`) -/
example : angleAt rotP.vals (leafShape rotP) 4 = (((1 / 2 : Rat)) : ℝ) := by
  rw [angle_closed rotP_ok 4 (by decide)]
  rfl

example (E : Env) (x : V) (hx : x.length = 18) :
    (den E (.leaf 8 .hwp hwpP) x).getD (2 * 6 + 4) 0 = -x.getD (2 * 6 + 4) 0 :=
  (hwp_closed_IQU E 8 hwpP_ok iqu_kind x hx 4 (by decide)).2.2

example (E : Env) (x : V) (hx : x.length = 18) :
    (den E (.leaf 9 .polarizer polP) x).getD 4 0 = (x.getD 4 0 + x.getD (6 + 4) 0) / 2 :=
  polarizer_closed_IQU E 9 polP_ok iqu_kind x hx 4 (by decide)

/-- `R(a) ∘ R(a) = R(2a)`: the hypotheses of `rot_rot_closed` are met, the sum of the angle arrays is computed -/
theorem sum_angles : tensorOp (· + ·) rotP.vals rotP.vals = .ok ⟨[3], [0, 1, 2]⟩ := by with_unfolding_all rfl

example (E : Env) (x : V) (hx : x.length = 18) :
    den E (.comp 7 [.leaf 3 .qurot rotP, .leaf 3 .qurot rotP]) x = den E (mkQURot ⟨[3], [0, 1, 2]⟩ iqu) x :=
  (rot_rot_closed E 7 3 3 ⟨[3], [0, 1, 2]⟩ rotP_ok rotP_ok rfl sum_angles).2.2 x hx

example (E : Env) (x : V) (hx : x.length = 18) :
    den E (.comp 7 [.leaf 3 .qurot rotP, .leaf 8 .hwp hwpP]) x
      = den E (.comp 0 [.leaf 8 .hwp hwpP, .leaf 0 .qurot (negAngles rotP)]) x :=
  rot_hwp_neg_closed E 7 0 3 0 8 rotP_ok hwpP_ok rfl x hx

/-- the factory on this structure, and what `reduce()` makes of it (by evaluation of the model): `QURotationHWPRule`
moves the HWP to the left (`Rᵀ H = H R`), `QURotationRule` adds the angles -/
theorem factory_red : reduceTop (hwpFactory 8 3 iqu rotP.vals)
    = .ok (.comp 0 [hwpOf 8 iqu, mkQURot ⟨[3], [0, 1, 2]⟩ iqu]) := by with_unfolding_all rfl

example (E : Env) (x : V) (hx : x.length = 18) :
    den E (.comp 0 [hwpOf 8 iqu, mkQURot ⟨[3], [0, 1, 2]⟩ iqu]) x = den E (hwpFactory 8 3 iqu rotP.vals) x :=
  hwpFactory_reduced_closed E 8 3 rotP_ok _ factory_red x hx

/-- the same from the general form of the reduced factory -/
example : reduceTop (hwpFactory 8 3 iqu rotP.vals) = .ok (.comp 0 [hwpOf 8 iqu, mkQURot ⟨[3], [0, 1, 2]⟩ iqu]) :=
  reduceTop_hwpFactory 8 3 iqu rotP.vals _ sum_angles

example (E : Env) (x : V) (hx : x.length = 18) :
    (den E (.comp 0 [hwpOf 8 iqu, mkQURot ⟨[3], [0, 1, 2]⟩ iqu]) x).getD (1 * 6 + 4) 0
      = (SV.present .IQU (SV.hwp (R (2 * angleAt rotP.vals [2, 3] 4) (sampleAt .IQU 6 x 4)))).getD 1 0 :=
  hwpFactory_reduced_entry E 8 3 rotP_ok iqu_kind _ factory_red x hx 1 4 (by decide) (by decide)

end ClosedExamples

#print axioms hwp_closed
#print axioms hwp_closed_IQUV
#print axioms angle_closed
#print axioms qurot_closed
#print axioms qurot_closed_IQUV
#print axioms qurotT_closed
#print axioms qurotT_wrap_closed
#print axioms qurotT_eq_neg
#print axioms polarizer_closed
#print axioms polarizer_closed_IQU
#print axioms polarizerT_closed
#print axioms rot_rot_entry
#print axioms rot_rot_closed
#print axioms rot_rot_exists
#print axioms rot_hwp_closed
#print axioms rot_hwp_neg_closed
#print axioms rotT_hwp_closed
#print axioms pol_hwp_closed
#print axioms rotT_rot_closed
#print axioms hwp_hwp_closed
#print axioms hwpFactory_built
#print axioms hwpFactory_closed
#print axioms hwpFactory_closed_IQUV
#print axioms hwpFactory_wt
#print axioms hwpFactory_reduced_closed
#print axioms hwpFactory_reduced_entry
#print axioms reduceTop_hwpFactory
#print axioms hwpFactory_reduced
#print axioms hwpFactory_reduced_exists
#print axioms ClosedExamples.factory_red

end Furax.C15
