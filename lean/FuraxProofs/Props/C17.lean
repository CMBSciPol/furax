/-
C17 — Sky pixelisation maps coordinates to indices consistently.

`roundHalfEven`, `pixel2indexInt`, `pixel2index`, `indexDType`, `coverage` are the functions the compiled
driver executes (FuraxModel/Landscape.lean).  The HEALPix lookup itself (`jax_healpy.ang2pix`) is outside the
model (A5): agreement with healpy is checked differentially only.
-/
import FuraxProofs.Lemmas.Pixel
namespace Furax.C17
open Furax Landscape

/-- rounding goes to the nearest pixel centre: the rounded value is within 1/2 of the coordinate … -/
theorem rounds_to_nearest (q : Rat) : |(roundHalfEven q : Rat) - q| ≤ 1 / 2 := round_nearest q

/-- … and integer coordinates (pixel centres) are fixed points -/
theorem rounds_integers_to_themselves (n : Int) : roundHalfEven (n : Rat) = n := round_int n

/-- in-map coordinates: the flat index is the mixed-radix number with the first coordinate fastest
(`i₀ + d₀·(i₁ + d₁·(i₂ + …))`), for any number of dimensions -/
theorem index_inside (ds : List Nat) (is : List Int) (h : ds.length = is.length) (hne : ds ≠ [])
    (hr : inRange ds is = true) : pixel2indexInt ds is = some (mixedRadix ds is) := by
  rw [pixel2indexInt_eq ds is h hne, hr]; rfl

/-- any coordinate outside the map in any dimension yields −1 -/
theorem index_outside (ds : List Nat) (is : List Int) (h : ds.length = is.length) (hne : ds ≠ [])
    (hr : inRange ds is = false) : pixel2indexInt ds is = some (-1) := by
  rw [pixel2indexInt_eq ds is h hne, hr]; rfl

/-- **bijection**: in-map integer coordinates ↔ `0 … N−1` -/
theorem index_in_bounds (ds : List Nat) (is : List Int) (h : ds.length = is.length)
    (hr : inRange ds is = true) : 0 ≤ mixedRadix ds is ∧ mixedRadix ds is < (prodNat ds : Int) := by
  fun_induction inRange ds is with
  | case1 => decide
  | case2 d ds i is ih =>
    obtain ⟨⟨hi0, hid⟩, hr'⟩ := (inRange_cons ..).1 hr
    obtain ⟨m0, mP⟩ := ih (Nat.succ.inj h) hr'
    rw [mixedRadix, prodNat_cons, Int.natCast_mul]
    have hd : (0 : Int) ≤ d := Int.natCast_nonneg d
    have := Int.mul_nonneg hd m0
    -- `i + d·m < d·(m + 1) ≤ d·P` from `i < d` and `m < P`
    have h1 : (d : Int) * (mixedRadix ds is + 1) ≤ d * (prodNat ds : Int) :=
      Int.mul_le_mul_of_nonneg_left (by omega) hd
    rw [Int.mul_add] at h1
    omega
  | case3 => cases hr

theorem index_injective (ds : List Nat) (is js : List Int) (hi : inRange ds is = true)
    (hj : inRange ds js = true) (heq : mixedRadix ds is = mixedRadix ds js) : is = js := by
  fun_induction inRange ds is generalizing js with
  | case1 => cases js with
    | nil => rfl
    | cons => cases hj
  | case2 d ds i is ih =>
    cases js with
    | nil => cases hj
    | cons j js =>
      obtain ⟨⟨hi0, hid⟩, hi'⟩ := (inRange_cons ..).1 hi
      obtain ⟨⟨hj0, hjd⟩, hj'⟩ := (inRange_cons ..).1 hj
      rw [mixedRadix, mixedRadix] at heq
      -- the digits are the remainders modulo `d`, the rest the quotients
      have hij : i = j := by
        rw [← Int.emod_eq_of_lt hi0 hid, ← Int.emod_eq_of_lt hj0 hjd, ← Int.add_mul_emod_self_left i,
          heq, Int.add_mul_emod_self_left]
      subst hij
      rw [ih js hi' hj' (Int.eq_of_mul_eq_mul_left (by omega) (Int.add_left_cancel heq))]
  | case3 => cases hi

theorem index_surjective (ds : List Nat) (p : Int) (h0 : 0 ≤ p) (h1 : p < (prodNat ds : Int)) :
    ∃ is : List Int, is.length = ds.length ∧ inRange ds is = true ∧ mixedRadix ds is = p := by
  induction ds generalizing p with
  | nil => exact ⟨[], rfl, rfl, by rw [prodNat_nil] at h1; show (0 : Int) = p; omega⟩
  | cons d ds ih =>
    rw [prodNat_cons, Int.natCast_mul] at h1
    have hd : (0 : Int) < d := by
      rcases Nat.eq_zero_or_pos d with rfl | h
      · rw [Int.natCast_zero, Int.zero_mul] at h1; omega
      · exact Int.natCast_pos.mpr h
    -- the first digit is the remainder modulo `d`, the others are those of the quotient
    obtain ⟨is, hl, hr, hm⟩ := ih (p / d) (Int.ediv_nonneg h0 hd.le)
      (Int.ediv_lt_of_lt_mul hd (by rw [Int.mul_comm]; exact h1))
    refine ⟨(p % d) :: is, congrArg (· + 1) hl, ?_, ?_⟩
    · exact (inRange_cons ..).2 ⟨⟨Int.emod_nonneg _ hd.ne', Int.emod_lt_of_pos _ hd⟩, hr⟩
    · rw [mixedRadix, hm]; exact Int.emod_add_mul_ediv p d

/-- the index dtype is wide enough for N: int32 only when the largest index fits -/
theorem dtype_wide_enough (n : Nat) :
    (indexDType n = .i32 → (n : Int) - 1 ≤ 2 ^ 31 - 1) ∧ (indexDType n = .i64 ↔ (n : Int) - 1 > 2 ^ 31 - 1) := by
  have e : (2 : Int) ^ 31 - 1 = 2147483647 := by decide
  rw [e, indexDType]
  split
  next h => exact ⟨fun _ => h, ⟨nofun, fun h' => absurd h (Int.not_le.2 h')⟩⟩
  next h => exact ⟨nofun, ⟨fun _ => Int.not_le.1 h, fun _ => rfl⟩⟩

/-- the coverage map is the histogram of sample hits … -/
theorem coverage_is_histogram (n : Nat) (idx : List Int) (p : Nat) (hp : p < n) :
    (coverage n idx).getD p 0 = (idx.filter (fun i => normIdx n i = Int.ofNat p)).length := by
  rw [coverage_eq, List.getD_eq_getElem?_getD, List.getElem?_map, List.getElem?_range hp]; rfl

/-- … and sums to the number of samples -/
theorem coverage_sums_to_samples (n : Nat) (idx : List Int) (h : ∀ i ∈ idx, 0 ≤ i ∧ i < (n : Int)) :
    (coverage n idx).sum = idx.length := coverage_sum n idx h

/-! non-vacuity / concrete instances -/
example : pixel2indexInt [3, 2] [2, 1] = some 5 := by decide
example : pixel2indexInt [3, 2] [3, 1] = some (-1) := by decide
example : inRange [3, 2] [2, 1] = true ∧ mixedRadix [3, 2] [2, 1] = 5 := by decide

end Furax.C17
