/-
C18 — Results do not depend on JIT compilation or pytree round trips.  (partial)

What a proof can carry here is the pytree protocol: an equinox module flattens to (dynamic fields, (class,
static fields)) and is rebuilt field-wise without calling `__init__` (A7), so its round trip is the identity by
construction; a hand-registered node (the landscapes, `ConfigState`) flattens to `((), aux)` and is rebuilt by
CALLING THE CONSTRUCTOR with `aux` as keyword arguments, which only works when the keys are constructor
parameters.  These facts are tables regenerated from the source; the theorems are re-checked by the kernel.
Tracing itself (jit vs eager) is outside the model and is compared differentially in four execution modes.
-/
import FuraxProofs.Lemmas.Tables
namespace Furax.C18
open Furax

/-- **every landscape class round-trips through flatten / unflatten**: the metadata keys are exactly
constructor keyword arguments, all required parameters are present, nothing else is needed -/
theorem landscape_roundtrip : ∀ r ∈ Generated.landscapeTable, landscapeRoundTripOk r = true := by decide +kernel

/-- every operator class is a field-wise pytree: dynamic and static fields are disjoint -/
theorem module_fields_partition : ∀ r ∈ Generated.classTable, fieldsPartitionOk r = true := by decide +kernel

/-- the model of the protocol for a hand-registered node -/
structure Node where
  aux : List (String × Nat)       -- flattened metadata
  deriving DecidableEq, Repr

/-- `cls(**aux)` for a constructor taking `params` (those in `required` must be given) that stores its
arguments: fails (`none`, a `TypeError`) on an unexpected or missing keyword -/
def construct (params required : List String) (kw : List (String × Nat)) : Option Node :=
  if kw.all (fun p => params.contains p.1) && required.all (fun r => (kw.map (·.1)).contains r) then some ⟨kw⟩ else none

/-- if the keys are parameters and cover the required ones, unflatten ∘ flatten is the identity … -/
theorem roundtrip_of_keys_ok (params required : List String) (n : Node)
    (h1 : n.aux.all (fun p => params.contains p.1) = true)
    (h2 : required.all (fun r => (n.aux.map (·.1)).contains r) = true) :
    construct params required n.aux = some n := by
  unfold construct
  rw [h1, h2]
  rfl

/-- … and otherwise it raises (finding F8 of DESIGN.md: a `HealpixLandscape` that flattens a `shape` key its
constructor does not take) -/
theorem roundtrip_fails_on_unexpected_key :
    construct ["nside", "stokes", "dtype"] ["nside"] [("shape", 48), ("dtype", 0), ("stokes", 1), ("nside", 2)] = none := by
  decide

/-- the solver configuration: its flattened metadata keys are its dataclass fields -/
theorem config_fields_pinned :
    Generated.configFields = ["solver", "solver_throw", "solver_options", "solver_callback"] := rfl

end Furax.C18
