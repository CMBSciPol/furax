/-
C19 — Solver configuration is scoped, restored and captured correctly.

`Config.step`, `run`, `trace`, `runWorld` are the functions the compiled driver executes.
Histories are arbitrary lists of events; "properly nested" is the inductive predicate `WN`.
-/
import FuraxModel.Config
namespace Furax.C19
open Furax Config

/-- properly nested histories, of any depth -/
inductive WN : List Ev → Prop where
  | nil : WN []
  | read (h) : WN h → WN (h ++ [.read])
  | mk (h id) : WN h → WN (h ++ [.mkInverse id])
  | apply (h id) : WN h → WN (h ++ [.applyInverse id])
  | block (a b kw) : WN a → WN b → WN (a ++ [.enter kw] ++ b ++ [.exit])
  | blockExc (a b kw) : WN a → WN b → WN (a ++ [.enter kw] ++ b ++ [.exitExc])
  | mkc (h id kw) : WN h → WN (h ++ [.mkConfig id kw])
  | blockObj (a b id) : WN a → WN b → WN (a ++ [.enterObj id] ++ b ++ [.exit])
  | blockObjExc (a b id) : WN a → WN b → WN (a ++ [.enterObj id] ++ b ++ [.exitExc])

theorem run_append (s : State) (a b : List Ev) : run s (a ++ b) = run (run s a) b := List.foldl_append

theorem run_single (s : State) (e : Ev) : run s [e] = (step s e).1 := rfl

/-- an invariant of every step of a history is an invariant of the run -/
theorem run_preserves {P : State → Prop} {evs : List Ev} (h : ∀ e ∈ evs, ∀ s, P s → P (step s e).1) {s : State}
    (hs : P s) : P (run s evs) := by
  induction evs generalizing s with
  | nil => exact hs
  | cons e es ih =>
    exact ih (fun e' he' => h e' (List.mem_cons_of_mem _ he')) (h e List.mem_cons_self s hs)

theorem step_enterObj_tokens (id : Nat) (s : State) : (step s (.enterObj id)).1.tokens = s.cur :: s.tokens := by
  simp only [step]; split <;> rfl

theorem exit_pops {t : State} {c : Cfg} {ts : List Cfg} (h : t.tokens = c :: ts) :
    (step t .exit).1.cur = c ∧ (step t .exit).1.tokens = ts := by
  rw [step, h]; exact ⟨rfl, rfl⟩

/-- the history leaves the active configuration and the stack of open blocks as it found them -/
def Restores (h : List Ev) : Prop := ∀ s, (run s h).cur = s.cur ∧ (run s h).tokens = s.tokens

theorem Restores.snoc {h : List Ev} {e : Ev} (ih : Restores h)
    (he : ∀ t, (step t e).1.cur = t.cur ∧ (step t e).1.tokens = t.tokens) : Restores (h ++ [e]) := by
  intro s
  rw [run_append, run_single]
  exact ⟨(he _).1.trans (ih s).1, (he _).2.trans (ih s).2⟩

/-- `a; e; b; x` with `e` an entry, which pushes the active configuration, and `x` an exit, which pops it -/
theorem Restores.block {a b : List Ev} {e x : Ev} (ha : Restores a) (hb : Restores b)
    (he : ∀ t, (step t e).1.tokens = t.cur :: t.tokens) (hx : x = .exit ∨ x = .exitExc) :
    Restores (a ++ [e] ++ b ++ [x]) := by
  intro s
  rw [run_append, run_append, run_append, run_single, run_single]
  obtain ⟨r1, r2⟩ := exit_pops ((hb _).2.trans (he _))
  -- `step · .exitExc` is `step · .exit` by definition: the model has one arm for both
  rcases hx with rfl | rfl <;> exact ⟨r1.trans (ha s).1, r2.trans (ha s).2⟩

/-- **Leaving a block — normally or through an exception — restores exactly the configuration (and the
stack of open blocks) that was active before it**, for every properly nested body. -/
theorem wn_restores (h : List Ev) (hw : WN h) :
    ∀ s, (run s h).cur = s.cur ∧ (run s h).tokens = s.tokens := by
  induction hw with
  | nil => exact fun s => ⟨rfl, rfl⟩
  | read h _ ih => exact Restores.snoc ih fun _ => ⟨rfl, rfl⟩
  | mk h id _ ih => exact Restores.snoc ih fun _ => ⟨rfl, rfl⟩
  | apply h id _ ih => exact Restores.snoc ih fun t => by simp only [step]; split <;> exact ⟨rfl, rfl⟩
  | mkc h id kw _ ih => exact Restores.snoc ih fun _ => ⟨rfl, rfl⟩
  | block a b kw _ _ iha ihb => exact Restores.block iha ihb (fun _ => rfl) (.inl rfl)
  | blockExc a b kw _ _ iha ihb => exact Restores.block iha ihb (fun _ => rfl) (.inr rfl)
  | blockObj a b id _ _ iha ihb => exact Restores.block iha ihb (step_enterObj_tokens id) (.inl rfl)
  | blockObjExc a b id _ _ iha ihb => exact Restores.block iha ihb (step_enterObj_tokens id) (.inr rfl)

/-- a properly nested program ends with the defaults -/
theorem ends_with_default (h : List Ev) (hw : WN h) : (run {} h).cur = Config.default :=
  (wn_restores h hw {}).1

/-- the settings of the open blocks, outermost first, of a state reached from the defaults -/
def Inv (s : State) (ks : List Kw) : Prop :=
  s.cur = ks.foldl override Config.default ∧
  s.tokens = (List.range ks.length).reverse.map (fun m => (ks.take m).foldl override Config.default)

theorem inv_init : Inv {} [] := ⟨rfl, rfl⟩

/-- the token stack of `ks ++ [kw]` is the configuration of `ks` on top of the token stack of `ks` -/
theorem tokens_snoc (ks : List Kw) (kw : Kw) :
    (List.range (ks ++ [kw]).length).reverse.map (fun m => ((ks ++ [kw]).take m).foldl override Config.default) =
      ks.foldl override Config.default ::
        (List.range ks.length).reverse.map (fun m => (ks.take m).foldl override Config.default) := by
  rw [List.length_append, List.length_singleton, List.range_succ, List.reverse_append, List.reverse_singleton,
    List.singleton_append, List.map_cons, List.take_left]
  congr 1
  apply List.map_congr_left
  intro m hm
  rw [List.take_append_of_le_length (Nat.le_of_lt (List.mem_range.1 (List.mem_reverse.1 hm)))]

/-- entering a block: the active configuration becomes that of the new innermost block — outer settings
inherited, named settings overridden -/
theorem inv_enter (s : State) (ks : List Kw) (kw : Kw) (h : Inv s ks) :
    Inv (step s (.enter kw)).1 (ks ++ [kw]) := by
  refine ⟨?_, (tokens_snoc ks kw).symm ▸ ?_⟩
  · rw [List.foldl_append, ← h.1]; rfl
  · rw [← h.1, ← h.2]; rfl

/-- leaving the innermost block: the active configuration is that of the enclosing blocks again -/
theorem inv_exit (s : State) (ks : List Kw) (kw : Kw) (h : Inv s (ks ++ [kw])) :
    Inv (step s .exit).1 ks ∧ Inv (step s .exitExc).1 ks := by
  have := exit_pops (h.2.trans (tokens_snoc ks kw))
  exact ⟨this, this⟩

/-- events that are not block boundaries do not change the active configuration -/
theorem inv_other (s : State) (ks : List Kw) (e : Ev) (h : Inv s ks)
    (he : e = .read ∨ (∃ id, e = .mkInverse id) ∨ (∃ id, e = .applyInverse id)) :
    Inv (step s e).1 ks := by
  rcases he with rfl | ⟨id, rfl⟩ | ⟨id, rfl⟩
  · exact h
  · exact h
  · simp only [step]; split <;> exact h

/-- reading the configuration returns the fold of the open blocks' settings over the defaults -/
theorem read_is_innermost (s : State) (ks : List Kw) (h : Inv s ks) :
    (step s .read).2 = .cfg (ks.foldl override Config.default) :=
  congrArg Obs.cfg h.1

/-- a named setting of the innermost block wins; an unnamed one is inherited from the enclosing blocks -/
theorem override_named (c : Cfg) (k : Kw) :
    (∀ v, k.solver = some v → (override c k).solver = v) ∧ (k.solver = none → (override c k).solver = c.solver) ∧
    (∀ v, k.throw = some v → (override c k).throw = v) ∧ (k.throw = none → (override c k).throw = c.throw) ∧
    (∀ v, k.options = some v → (override c k).options = v) ∧ (k.options = none → (override c k).options = c.options) ∧
    (∀ v, k.callback = some v → (override c k).callback = v) ∧
    (k.callback = none → (override c k).callback = c.callback) := by
  refine ⟨?_, ?_, ?_, ?_, ?_, ?_, ?_, ?_⟩ <;> intros <;> simp_all [override]

/-- only `mkInverse id` changes what is recorded for the inverse `id` -/
theorem step_inverses_lookup (s : State) (e : Ev) (id : Nat) (he : e ≠ .mkInverse id) :
    (step s e).1.inverses.lookup id = s.inverses.lookup id := by
  cases e with
  | mkInverse id' =>
    have : (id == id') = false := beq_false_of_ne fun h => he (h ▸ rfl)
    simp only [step, List.lookup_cons, this]
  | exit | exitExc | applyInverse _ | enterObj _ => simp only [step]; split <;> rfl
  | _ => rfl

/-- **A lazy inverse keeps using the configuration that was active when it was created**, whatever happens
afterwards (entering or leaving any number of blocks, creating other inverses). -/
theorem inverse_keeps_creation_config (s : State) (id : Nat) (later : List Ev)
    (hfresh : ∀ e ∈ later, e ≠ .mkInverse id) :
    (run (step s (.mkInverse id)).1 later).inverses.lookup id = some s.cur :=
  run_preserves (P := fun st => st.inverses.lookup id = some s.cur)
    (fun e he st h => (step_inverses_lookup st e id (hfresh e he)).trans h) List.lookup_cons_self

/-- applying it observes exactly that configuration -/
theorem apply_observes_creation_config (s : State) (id : Nat) (c : Cfg)
    (h : s.inverses.lookup id = some c) : (step s (.applyInverse id)).2 = .cfg c := by
  rw [step, h]

/-- **Configuration changes made in one context are never visible in another**: for every interleaving of
the events of several contexts, each context's state evolves as if its own events had run alone. -/
theorem thread_isolation (evs : List (Nat × Ev)) (w : World) (c : Nat) :
    runWorld w evs c = run (w c) ((evs.filter (fun ce => ce.1 = c)).map (·.2)) := by
  induction evs generalizing w with
  | nil => rfl
  | cons ce rest ih =>
    simp only [runWorld, List.foldl_cons]
    have := ih (stepWorld w ce)
    simp only [runWorld] at this
    rw [this]
    by_cases hc : ce.1 = c
    · simp only [List.filter_cons, hc, decide_true, if_true, List.map_cons, run, List.foldl_cons, stepWorld]
    · have hc' : ¬ c = ce.1 := fun h => hc h.symm
      simp only [List.filter_cons, hc, decide_false, Bool.false_eq_true, if_false, stepWorld, hc']

/-! ### `Config` objects built ahead of time and entered later -/

/-- only `mkConfig id _` changes what is recorded for the `Config` object `id` -/
theorem step_objects_lookup (s : State) (e : Ev) (id : Nat) (he : ∀ kw, e ≠ .mkConfig id kw) :
    (step s e).1.objects.lookup id = s.objects.lookup id := by
  cases e with
  | mkConfig id' kw =>
    have : (id == id') = false := beq_false_of_ne fun h => he kw (h ▸ rfl)
    simp only [step, List.lookup_cons, this]
  | exit | exitExc | applyInverse _ | enterObj _ => simp only [step]; split <;> rfl
  | _ => rfl

/-- **A `Config` object installs the settings computed when it was BUILT** (`replace(current, **kw)` at construction
time), whatever is active when it is entered, however many blocks are entered or left, inverses created or other
objects built in between — and, by `wn_restores`, leaving its block restores what was active at ENTRY (not at
construction). -/
theorem prebuilt_config_installs_construction_settings (s : State) (id : Nat) (kw : Kw) (later : List Ev)
    (hfresh : ∀ e ∈ later, ∀ kw', e ≠ .mkConfig id kw') :
    (step (run (step s (.mkConfig id kw)).1 later) (.enterObj id)).2 = .cfg (override s.cur kw) ∧
    (step (run (step s (.mkConfig id kw)).1 later) (.enterObj id)).1.cur = override s.cur kw := by
  have hl : (run (step s (.mkConfig id kw)).1 later).objects.lookup id = some (override s.cur kw) :=
    run_preserves (P := fun st => st.objects.lookup id = some (override s.cur kw))
      (fun e he st h => (step_objects_lookup st e id (hfresh e he)).trans h) List.lookup_cons_self
  generalize run (step s (.mkConfig id kw)).1 later = t at hl ⊢
  rw [step, hl]
  exact ⟨rfl, rfl⟩

/-! ### under `jax.jit`: traces are keyed on the captured configuration -/

/-- every cached trace was made with a configuration that has the key it is stored under -/
def CacheOK {κ : Type} (keyOf : Cfg → κ) (cache : List (κ × Cfg)) : Prop := ∀ e ∈ cache, e.1 = keyOf e.2

theorem applyJit_cacheOK {κ : Type} [DecidableEq κ] (keyOf : Cfg → κ) (cache : List (κ × Cfg)) (c : Cfg)
    (h : CacheOK keyOf cache) : CacheOK keyOf (applyJit keyOf cache c).1 := by
  unfold applyJit
  split
  · exact h
  · intro e he
    rcases List.mem_cons.mp he with rfl | he'
    · rfl
    · exact h e he'

/-- **A lazy inverse applied through a jitted function runs with the configuration captured at its creation**,
whatever other inverses the function has been traced for before — provided the comparison of configurations
distinguishes them (`keyOf` injective; the implementation's `ConfigState.__eq__` compares all four settings). -/
theorem jit_uses_creation_config {κ : Type} [DecidableEq κ] (keyOf : Cfg → κ)
    (hinj : ∀ a b, keyOf a = keyOf b → a = b) (cache : List (κ × Cfg)) (h : CacheOK keyOf cache) (c : Cfg) :
    (applyJit keyOf cache c).2 = c := by
  unfold applyJit
  split
  · rename_i used hl
    -- the entry found was stored under the key of its own configuration
    obtain ⟨l₁, l₂, rfl, _⟩ := List.lookup_eq_some_iff.1 hl
    exact (hinj _ _ (h (keyOf c, used) (List.mem_append_right _ List.mem_cons_self))).symm
  · rfl

/-- … along every sequence of applications, starting from an empty cache -/
theorem jit_history_uses_creation_configs {κ : Type} [DecidableEq κ] (keyOf : Cfg → κ)
    (hinj : ∀ a b, keyOf a = keyOf b → a = b) (cs : List Cfg) :
    ∀ cache, CacheOK keyOf cache → runJit keyOf cache cs = cs := by
  induction cs with
  | nil => intro _ _; rfl
  | cons c cs ih =>
    intro cache h
    simp only [runJit]
    rw [jit_uses_creation_config keyOf hinj cache h c, ih _ (applyJit_cacheOK keyOf cache c h)]

/-- the comparison matters: with a key that forgets one setting (here `solver_options`), the second of two
inverses differing only in that setting runs with the first one's configuration (kernel-checked witness) -/
theorem jit_with_forgetful_key_reuses_wrong_trace :
    runJit (fun c => (c.solver, c.throw, c.callback)) [] [⟨1, 0, 0, 0⟩, ⟨1, 0, 2, 0⟩] ≠ [⟨1, 0, 0, 0⟩, ⟨1, 0, 2, 0⟩] := by
  decide +kernel

/-! non-vacuity: a concrete properly nested history with inheritance, override and exceptional exit -/
example : WN [.enter { throw := some 1 }, .read, .enter { solver := some 7 }, .mkInverse 1, .exitExc, .read, .exit] := by
  have h1 : WN [Ev.mkInverse 1] := WN.mk [] 1 WN.nil
  have h2 : WN ([] ++ [Ev.enter { solver := some 7 }] ++ [Ev.mkInverse 1] ++ [Ev.exitExc]) :=
    WN.blockExc [] _ _ WN.nil h1
  have h3 : WN [Ev.read] := WN.read [] WN.nil
  have h4 := WN.blockExc [Ev.read] [Ev.mkInverse 1] { solver := some 7 } h3 h1
  have h5 := WN.read _ h4
  exact WN.block [] _ { throw := some 1 } WN.nil h5
example : trace {} [.enter { throw := some 1 }, .enter { solver := some 7 }, .read, .exitExc, .read, .exit, .read]
    = [.cfg ⟨0, 1, 0, 0⟩, .cfg ⟨7, 1, 0, 0⟩, .cfg ⟨7, 1, 0, 0⟩, .none, .cfg ⟨0, 1, 0, 0⟩, .none, .cfg ⟨0, 0, 0, 0⟩] := by
  decide +kernel

end Furax.C19
