/-
C20 — Stokes containers and pytree helpers act leaf-wise and consistently.

`StokesArith.operation`, `roperation`, `classFor`, `fromStokesKind`, `fromIQUV`, `dot` are the functions the
compiled driver executes.  Most statements are close to the definitions (that is the point: the containers are
thin); the assurance that the Python agrees with them comes from the correspondence.
-/
import FuraxModel.StokesArith
import FuraxProofs.Lemmas.Tables
import Mathlib.Tactic.Ring
import Mathlib.Tactic.NormNum
namespace Furax.C20
open Furax StokesArith

/-- container ⊙ container of the same kind acts independently and identically on every component -/
theorem operation_componentwise (op : BinOp) (a b : SVal Rat) (h : b.kind = a.kind) (r : SVal Rat)
    (hr : operation op a (.stokes b) = .ok r) :
    r.kind = a.kind ∧ (List.zipWith (fun x y => tensorOp (evalOp op) x y) a.comps b.comps).mapM id = some r.comps := by
  unfold operation at hr
  simp only [h, if_true] at hr
  split at hr
  · rename_i cs hcs
    cases hr
    exact ⟨rfl, hcs⟩
  · cases hr

/-- reflected forms respect operand order: `k ⊙ A` applies `k ⊙ component`, not `component ⊙ k` -/
theorem roperation_scalar_order (op : BinOp) (a : SVal Rat) (k : Rat) :
    roperation op a (.scalar k) = mapComps (fun leaf => tensorOp (evalOp op) (Tensor.scalar k) leaf) a ∧
    operation op a (.scalar k) = mapComps (fun leaf => tensorOp (evalOp op) leaf (Tensor.scalar k)) a := ⟨rfl, rfl⟩

/-- … which matters: subtraction and division are not symmetric (kernel-checked instance) -/
theorem order_matters : evalOp .sub 10 3 ≠ evalOp .sub 3 10 := by
  simp only [evalOp, ne_eq, Option.some.injEq]; norm_num

/-- a container of another kind, a list, or any other object is refused (NotImplemented from both the forward
and the reflected method, hence `TypeError`) -/
theorem other_kind_refused (op : BinOp) (a b : SVal Rat) (h : b.kind ≠ a.kind) :
    operation op a (.stokes b) = .notImplemented ∧ roperation op a (.stokes b) = .notImplemented := by
  simp [operation, roperation, h]

theorem foreign_operand_refused (op : BinOp) (a : SVal Rat) :
    operation op a .other = .notImplemented ∧ roperation op a .other = .notImplemented := ⟨rfl, rfl⟩

/-- unknown Stokes kinds are rejected with `ValueError`; the four valid ones are accepted -/
theorem class_for_spec (s : String) :
    (classFor s = .error .valueError ↔ StokesKind.ofName? s = none) ∧
    classFor "I" = .ok .I ∧ classFor "QU" = .ok .QU ∧ classFor "IQU" = .ok .IQU ∧ classFor "IQUV" = .ok .IQUV := by
  refine ⟨?_, rfl, rfl, rfl, rfl⟩
  unfold classFor
  cases StokesKind.ofName? s <;> simp

/-- the kinds of the source are the ones the model knows -/
theorem kinds_pinned : Generated.stokesKinds = ["I", "QU", "IQU", "IQUV"] := rfl

/-- `from_stokes` with positional arguments: 1, 2, 3, 4 arrays give I, QU, IQU, IQUV; any other count is a
`TypeError`; positional and keyword arguments together are a `TypeError` -/
theorem from_stokes_positional :
    fromStokesKind 1 [] = .ok .I ∧ fromStokesKind 2 [] = .ok .QU ∧ fromStokesKind 3 [] = .ok .IQU ∧
    fromStokesKind 4 [] = .ok .IQUV ∧ fromStokesKind 0 [] = .error .typeError ∧
    fromStokesKind 5 [] = .error .typeError ∧ fromStokesKind 1 ["I"] = .error .typeError := by decide

/-- `from_iquv` keeps exactly the components of the kind, in order -/
theorem from_iquv_selects {α} (i q u v : α) :
    fromIQUV .I i q u v = [i] ∧ fromIQUV .QU i q u v = [q, u] ∧ fromIQUV .IQU i q u v = [i, q, u] ∧
    fromIQUV .IQUV i q u v = [i, q, u, v] := ⟨rfl, rfl, rfl, rfl⟩

/-! ### dtype promotion (`as_promoted_dtype`, `from_stokes`): `jnp.result_type` is a join -/

/-- the dtype at a position of `dtypeNames` -/
def dtypeName (i : Fin 8) : String := dtypeNames.get i

theorem mem_names {a : String} (h : a ∈ dtypeNames) : ∃ i, a = dtypeName i :=
  let ⟨i, hi⟩ := List.mem_iff_get.1 h
  ⟨i, hi.symm⟩

/-- `canonical` on positions: int64, float64, complex128 fall back to their 32-bit counterparts -/
def canon (x64 : Bool) (i : Fin 8) : Fin 8 :=
  if x64 then i else if i = 2 then 1 else if i = 5 then 4 else if i = 7 then 6 else i

/-- `dtypeNames` lists the types in ascending order of a chain, except that float64 (5) and complex64 (6) are
incomparable, with complex128 (7) above both; the promoted type is the least upper bound, canonicalised -/
def join (x64 : Bool) (i j : Fin 8) : Fin 8 :=
  canon x64 (if i = 5 ∧ j = 6 ∨ i = 6 ∧ j = 5 then 7 else if i ≤ j then j else i)

/-- the one statement evaluated on the table read from the source environment (128 lookups); the laws below are
those of `join` -/
theorem promote_name : ∀ x64 i j, promote x64 (dtypeName i) (dtypeName j) = some (dtypeName (join x64 i j)) := by
  decide +kernel

theorem canonical_name : ∀ x64 i, canonical x64 (dtypeName i) = dtypeName (canon x64 i) := by decide +kernel

theorem join_self : ∀ x64 i, join x64 i i = canon x64 i := by decide +kernel
theorem join_comm : ∀ x64 i j, join x64 i j = join x64 j i := by decide +kernel
theorem join_assoc : ∀ x64 i j k, join x64 (join x64 i j) k = join x64 i (join x64 j k) := by decide +kernel
theorem join_absorb : ∀ x64 i j, join x64 (join x64 i j) i = join x64 i j := by decide +kernel

/-- on the table read from the source environment, promotion is total, idempotent (up to canonicalisation of
64-bit types when 64-bit mode is off), commutative and associative, in both modes -/
theorem promotion_total : ∀ x64 ∈ [false, true], ∀ a ∈ dtypeNames, ∀ b ∈ dtypeNames,
    (promote x64 a b).isSome = true := by
  intro x64 _ a ha b hb
  obtain ⟨i, rfl⟩ := mem_names ha
  obtain ⟨j, rfl⟩ := mem_names hb
  rw [promote_name]; rfl

theorem promotion_idempotent : ∀ x64 ∈ [false, true], ∀ a ∈ dtypeNames,
    promote x64 a a = some (canonical x64 a) := by
  intro x64 _ a ha
  obtain ⟨i, rfl⟩ := mem_names ha
  rw [promote_name, canonical_name, join_self]

theorem promotion_commutative : ∀ x64 ∈ [false, true], ∀ a ∈ dtypeNames, ∀ b ∈ dtypeNames,
    promote x64 a b = promote x64 b a := by
  intro x64 _ a ha b hb
  obtain ⟨i, rfl⟩ := mem_names ha
  obtain ⟨j, rfl⟩ := mem_names hb
  rw [promote_name, promote_name, join_comm]

theorem promotion_associative : ∀ x64 ∈ [false, true], ∀ a ∈ dtypeNames, ∀ b ∈ dtypeNames, ∀ c ∈ dtypeNames,
    ((promote x64 a b).bind fun ab => promote x64 ab c) = ((promote x64 b c).bind fun bc => promote x64 a bc) := by
  intro x64 _ a ha b hb c hc
  obtain ⟨i, rfl⟩ := mem_names ha
  obtain ⟨j, rfl⟩ := mem_names hb
  obtain ⟨k, rfl⟩ := mem_names hc
  simp only [promote_name, Option.bind_some, join_assoc]

/-- the promoted dtype is an upper bound: promoting it again with any of its arguments changes nothing -/
theorem promotion_upper_bound : ∀ x64 ∈ [false, true], ∀ a ∈ dtypeNames, ∀ b ∈ dtypeNames,
    ((promote x64 a b).bind fun ab => promote x64 ab a) = promote x64 a b := by
  intro x64 _ a ha b hb
  obtain ⟨i, rfl⟩ := mem_names ha
  obtain ⟨j, rfl⟩ := mem_names hb
  simp only [promote_name, Option.bind_some, join_absorb]

/-! ### `furax.tree.dot` on real leaves -/

theorem inner_comm {α} [CommRing α] (a b : List α) :
    (List.zipWith (· * ·) a b).foldl (· + ·) 0 = (List.zipWith (· * ·) b a).foldl (· + ·) 0 := by
  rw [List.zipWith_comm_of_comm mul_comm]

/-- the dot product of two pytrees of real leaves is symmetric -/
theorem dot_comm {α} [CommRing α] (x y : List (List α)) : dot x y = dot y x := by
  unfold dot
  rw [List.zipWith_comm_of_comm inner_comm]

end Furax.C20
