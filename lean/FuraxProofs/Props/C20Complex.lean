/-
C20 (complex leaves) — `furax.tree.dot` / `StokesPyTree.__matmul__` is the HERMITIAN sum of the leaf inner products.

    dot(x, y) = sum(leaves(tree.map(jnp.vdot, x, y)), start=0),     jnp.vdot(a, b) = Σ_i conj(a_i) · b_i

`ComplexDot.treeDot` / `ComplexDot.vdot` (FuraxModel/ComplexDot.lean, over the Gaussian rationals `GRat`) are the
functions the compiled driver executes for `(tree-dot-complex X Y)`.  The real-only statements of
FuraxProofs/Props/C20.lean (`inner_comm`, `dot_comm`) are the special case `im = 0` (`treeDot_real`,
`dot_comm_of_hermitian`).  Over the reals the side on which the conjugation sits is invisible; over `GRat` it is not
(`vdotBad_violates_conj_symm`: the seeded defect C20-d).
-/
import FuraxModel.ComplexDot
import FuraxModel.StokesArith
import FuraxProofs.Lemmas.ComplexDot
namespace Furax.C20
open Furax ComplexDot ComplexDot.GRat

/-! ### (a) conjugate symmetry -/

/-- `⟨y, x⟩ = conj ⟨x, y⟩` for two leaves.  No hypothesis on the lengths: `zipWith` truncates both sides to the same
common prefix (in Python a shape mismatch raises on both sides). -/
theorem vdot_hermitian_symm (x y : List GRat) : vdot y x = conj (vdot x y) := ComplexDot.vdot_conj_symm x y

/-- `dot(y, x) = conj(dot(x, y))` for two pytrees -/
theorem treeDot_hermitian_symm (x y : List (List GRat)) : treeDot y x = conj (treeDot x y) :=
  zsum_symm conj conj_zero conj_add vdot_conj_symm x y

example : treeDot [[⟨2, -1⟩, ⟨1, 1⟩], [⟨4, 0⟩]] [[⟨1, 2⟩, ⟨0, 3⟩], [⟨1/2, 0⟩]] = ⟨5, 8⟩ ∧
    treeDot [[⟨1, 2⟩, ⟨0, 3⟩], [⟨1/2, 0⟩]] [[⟨2, -1⟩, ⟨1, 1⟩], [⟨4, 0⟩]] = ⟨5, -8⟩ := by decide +kernel

/-! ### (b) linearity in the second argument, conjugate-linearity in the first -/

/-- additivity in the second argument (the two summands have the same shape; `x` is arbitrary) -/
theorem treeDot_add_right (x : List (List GRat)) {y y' : List (List GRat)} (h : SameShape y y') :
    treeDot x (treeAdd y y') = treeDot x y + treeDot x y' :=
  zsum_add_right (fun a _ _ hb => vdot_add_right a hb) h x

/-- homogeneity in the second argument: the scalar comes out as it is -/
theorem treeDot_smul_right (c : GRat) (x y : List (List GRat)) : treeDot x (treeSmul c y) = c * treeDot x y :=
  zsum_map_right (c * ·) (mul_zero c) (mul_add c) (fun a b => vdot_smul_right c a b) x y

/-- additivity in the first argument -/
theorem treeDot_add_left {x x' : List (List GRat)} (y : List (List GRat)) (h : SameShape x x') :
    treeDot (treeAdd x x') y = treeDot x y + treeDot x' y := by
  rw [treeDot_hermitian_symm y, treeDot_add_right y h, conj_add, ← treeDot_hermitian_symm, ← treeDot_hermitian_symm]

/-- CONJUGATE-homogeneity in the first argument: the scalar comes out conjugated -/
theorem treeDot_smul_left (c : GRat) (x y : List (List GRat)) : treeDot (treeSmul c x) y = conj c * treeDot x y := by
  rw [treeDot_hermitian_symm y, treeDot_smul_right, conj_mul, ← treeDot_hermitian_symm]

/-- the shape hypothesis of the additivity cannot be dropped in the MODEL (truncation of `zipWith`; the Python
raises on a shape mismatch instead, so this is about the model only) -/
theorem treeDot_add_right_needs_shape :
    ∃ x y y', ¬ SameShape y y' ∧ treeDot x (treeAdd y y') ≠ treeDot x y + treeDot x y' :=
  ⟨[[⟨1, 0⟩]], [[⟨1, 0⟩]], [[]], by decide +kernel, by decide +kernel⟩

/-- sesquilinearity in one statement -/
theorem treeDot_sesquilinear (c d : GRat) {x x' y y' : List (List GRat)} (hx : SameShape x x') (hy : SameShape y y') :
    treeDot (treeAdd (treeSmul c x) x') (treeAdd (treeSmul d y) y') =
      conj c * d * treeDot x y + conj c * treeDot x y' + d * treeDot x' y + treeDot x' y' := by
  have hsy := hy.smul_left d
  rw [treeDot_add_left _ (hx.smul_left c), treeDot_add_right _ hsy, treeDot_add_right _ hsy,
    treeDot_smul_left, treeDot_smul_left, treeDot_smul_right, treeDot_smul_right]
  ring

-- the scalar `i` comes out of the second slot as `i`, out of the first slot as `−i`
example : treeDot [[⟨1, 1⟩, ⟨2, 0⟩]] (treeSmul ⟨0, 1⟩ [[⟨3, 0⟩, ⟨0, 1⟩]]) = ⟨0, 1⟩ * treeDot [[⟨1, 1⟩, ⟨2, 0⟩]] [[⟨3, 0⟩, ⟨0, 1⟩]] ∧
    treeDot (treeSmul ⟨0, 1⟩ [[⟨1, 1⟩, ⟨2, 0⟩]]) [[⟨3, 0⟩, ⟨0, 1⟩]] = ⟨0, -1⟩ * treeDot [[⟨1, 1⟩, ⟨2, 0⟩]] [[⟨3, 0⟩, ⟨0, 1⟩]] ∧
    treeDot [[⟨1, 1⟩, ⟨2, 0⟩]] [[⟨3, 0⟩, ⟨0, 1⟩]] = ⟨3, -1⟩ := by decide +kernel

example : SameShape [[⟨1, 1⟩, ⟨2, 0⟩], [⟨0, 1⟩]] [[⟨3, 0⟩, ⟨0, 1⟩], [⟨5, 5⟩]] ∧
    treeDot [[⟨0, 1⟩, ⟨1, 0⟩], [⟨1, -1⟩]] (treeAdd [[⟨1, 1⟩, ⟨2, 0⟩], [⟨0, 1⟩]] [[⟨3, 0⟩, ⟨0, 1⟩], [⟨5, 5⟩]]) = ⟨2, 8⟩ := by
  decide +kernel

/-! ### (c) `⟨x, x⟩` is real, non-negative, and zero only at zero -/

/-- `dot(x, x) = Σ |x_i|²` (over all entries of all leaves), embedded in the complex numbers -/
theorem treeDot_self_eq (x : List (List GRat)) : treeDot x x = ofRat (treeNormSq x) :=
  zsum_diag ofRat ofRat_zero ofRat_add vdot_self x

theorem treeDot_self_real (x : List (List GRat)) : (treeDot x x).im = 0 := by
  rw [treeDot_self_eq]; rfl

theorem treeDot_self_nonneg (x : List (List GRat)) : 0 ≤ (treeDot x x).re := by
  rw [treeDot_self_eq]; exact treeNormSq_nonneg x

/-- definiteness: `dot(x, x) = 0` iff every entry of every leaf is zero -/
theorem treeDot_self_eq_zero_iff (x : List (List GRat)) : treeDot x x = 0 ↔ ∀ l ∈ x, ∀ a ∈ l, a = 0 := by
  rw [treeDot_self_eq, ← treeNormSq_eq_zero]
  exact ⟨fun h => ofRat_injective h, fun h => congrArg ofRat h⟩

example : treeDot [[⟨1, 2⟩, ⟨0, 3⟩], [⟨1/2, 0⟩]] [[⟨1, 2⟩, ⟨0, 3⟩], [⟨1/2, 0⟩]] = ⟨57/4, 0⟩ := by decide +kernel
example : treeDot [[0, 0], [0]] [[0, 0], [0]] = 0 := by decide +kernel
/-- the Hermitian form is what makes this work: the bilinear `Σ x_i · x_i` vanishes on the non-zero `(1, i)` -/
example : (List.zipWith (fun a b : GRat => a * b) [⟨1, 0⟩, ⟨0, 1⟩] [⟨1, 0⟩, ⟨0, 1⟩]).foldl (· + ·) 0 = 0 ∧
    vdot [⟨1, 0⟩, ⟨0, 1⟩] [⟨1, 0⟩, ⟨0, 1⟩] = ⟨2, 0⟩ := by decide +kernel

/-! ### (d) on real data: the real `dot` of StokesArith -/

/-- the complex dot of embedded real pytrees is the embedded real dot -/
theorem treeDot_ofRat (x y : List (List Rat)) :
    treeDot (x.map (·.map ofRat)) (y.map (·.map ofRat)) = ofRat (StokesArith.dot x y) :=
  zsum_map ofRat ofRat_zero ofRat_add vdot_ofRat x y

/-- on pytrees all of whose entries have zero imaginary part, `treeDot` is `StokesArith.dot` of the real parts -/
theorem treeDot_real {x y : List (List GRat)} (hx : IsRealTree x) (hy : IsRealTree y) :
    treeDot x y = ofRat (StokesArith.dot (x.map (·.map GRat.re)) (y.map (·.map GRat.re))) := by
  rw [← treeDot_ofRat, ← tree_eq_map_ofRat hx, ← tree_eq_map_ofRat hy]

/-- the symmetry of the real dot product (`dot_comm` of FuraxProofs/Props/C20.lean, at `α = Rat`) is the special case
`im = 0` of the conjugate symmetry -/
theorem dot_comm_of_hermitian (x y : List (List Rat)) : StokesArith.dot x y = StokesArith.dot y x := by
  apply ofRat_injective
  rw [← treeDot_ofRat, ← treeDot_ofRat, treeDot_hermitian_symm (y.map (·.map ofRat)), treeDot_ofRat, conj_ofRat]

example : IsRealTree [[⟨1, 0⟩, ⟨2, 0⟩, ⟨3, 0⟩], [⟨1, 0⟩, ⟨0, 0⟩]] ∧
    treeDot [[⟨1, 0⟩, ⟨2, 0⟩, ⟨3, 0⟩], [⟨1, 0⟩, ⟨0, 0⟩]] [[⟨2, 0⟩, ⟨-1, 0⟩, ⟨1, 0⟩], [⟨2, 0⟩, ⟨0, 0⟩]] = ⟨5, 0⟩ ∧
    StokesArith.dot [[1, 2, 3], [1, 0]] [[2, -1, 1], [2, 0]] = (5 : Rat) := by decide +kernel

/-! ### (e) the asymmetric variant (seeded defect C20-d) is wrong -/

/-- a complex first operand against a real second operand: the defective product is not conjugate-symmetric -/
theorem vdotBad_violates_conj_symm :
    ∃ x y : List GRat, (∃ a ∈ x, a.im ≠ 0) ∧ (∀ b ∈ y, b.im = 0) ∧ vdotBad y x ≠ conj (vdotBad x y) :=
  ⟨[⟨0, 1⟩], [⟨1, 0⟩], by decide +kernel, by decide +kernel, by decide +kernel⟩

/-- … and is not `jnp.vdot` there -/
theorem vdotBad_ne_vdot :
    ∃ x y : List GRat, (∃ a ∈ x, a.im ≠ 0) ∧ (∀ b ∈ y, b.im = 0) ∧ vdotBad x y ≠ vdot x y :=
  ⟨[⟨0, 1⟩], [⟨1, 0⟩], by decide +kernel, by decide +kernel, by decide +kernel⟩

/-- the same through `tree.dot`, on two leaves of which only one is mixed -/
theorem treeDotBad_violates_conj_symm :
    ∃ x y : List (List GRat), SameShape x y ∧ IsRealTree y ∧ treeDotBad y x ≠ conj (treeDotBad x y) ∧
      treeDot y x = conj (treeDot x y) :=
  ⟨[[⟨1, 2⟩, ⟨0, 3⟩], [⟨1, 0⟩]], [[⟨2, 0⟩, ⟨1, 0⟩], [⟨4, 0⟩]], by decide +kernel, by decide +kernel, by decide +kernel, by decide +kernel⟩

/-- exactly there: against a real second operand the defective product is the CONJUGATE of the right value … -/
theorem vdotBad_of_second_real (x : List GRat) {y : List GRat} (h : ∀ b ∈ y, b.im = 0) :
    vdotBad x y = conj (vdot x y) := ComplexDot.vdotBad_of_second_real x h

/-- … and in the other configurations (second operand not real, or first operand real) it is `jnp.vdot`: the
defect is invisible to real/real, complex/complex and real/complex tests -/
theorem vdotBad_eq_vdot (x y : List GRat) (h : (∃ b ∈ y, b.im ≠ 0) ∨ ∀ a ∈ x, a.im = 0) : vdotBad x y = vdot x y := by
  rcases h with ⟨b, hb, hne⟩ | h
  · apply vdotBad_of_second_not_real
    rw [List.all_eq_false]
    exact ⟨b, hb, by rw [isReal_iff]; exact hne⟩
  · exact vdotBad_of_first_real y h

example : vdotBad [⟨1, 2⟩] [⟨3, 1⟩] = vdot [⟨1, 2⟩] [⟨3, 1⟩] ∧ vdotBad [⟨1, 0⟩] [⟨3, 1⟩] = vdot [⟨1, 0⟩] [⟨3, 1⟩] ∧
    vdotBad [⟨1, 2⟩] [⟨3, 0⟩] = ⟨3, 6⟩ ∧ vdot [⟨1, 2⟩] [⟨3, 0⟩] = ⟨3, -6⟩ := by decide +kernel

end Furax.C20
