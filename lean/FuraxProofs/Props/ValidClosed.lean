/-
The closed theorems with an EXECUTABLE hypothesis.

`validb : Op → Bool` and `validTb : Op → Bool` (FuraxModel/Valid.lean, compiled into the model driver: `(valid OP)`,
`(valid-T OP)`) decide the hypotheses of `reduce_sound_closed` and `transpose_is_adjoint_closed`
(FuraxProofs/Sem/ValidDecide.lean).  Here the two theorems are restated with `validb o = true` / `validTb o = true`
as hypothesis, so that what the harness checks on a real operator is — verbatim — what the theorem asks.
For `reduce()` the only hypothesis that is not decided is the invertibility of the operands of the lazy inverses that
are neither rotations nor diagonals without zero entry (`promises o`); when there is none (`noPromiseb o`) nothing is
left.  For the transpose everything is decided, the hypothesis on the environment of the uninterpreted leaves apart.
Kernel-evaluated examples follow, on the expressions of `ListSem.Examples` / `ListSem.AdjExamples` and on an expression
with a dense einsum leaf (`C14.Examples.exDense`).
-/
import FuraxProofs.Sem.ValidDecide
import FuraxProofs.Props.C07Side
import FuraxProofs.Props.C08Closed
import FuraxProofs.Props.C14Closed
namespace Furax
namespace Valid
open Op ListSem

/-- the hypothesis of `ListSem.reduce_sound_closed`, verbatim, from the executable check and the promise -/
theorem wt_of_validb (E : Env) (o : Op) (hv : validb o = true)
    (hinv : ∀ a ∈ promises o, invertibleG E a) :
    WTExpr (listArithSem E).invertible listLeafOK o := validb_sound_list E o hv hinv

/-- … and from the executable checks alone when every lazy inverse wraps a rotation or a diagonal without zero
entry -/
theorem wt_of_validb_noPromise (E : Env) (o : Op) (hv : validb o = true) (hp : noPromiseb o = true) :
    WTExpr (listArithSem E).invertible listLeafOK o := by
  refine wt_of_validb E o hv fun a ha => ?_
  rw [(promises_nil_iff o).mpr hp] at ha
  cases ha

/-- **Soundness of `reduce()`, closed, executable hypothesis.**  If the encoded expression passes `(valid OP)` and
the operands of its lazy inverses left as promises (`promises o`) are invertible, then whatever `reduce fuel o` returns passes
the check again, has the structures of `o` and computes the same vector as `o` on every vector of the input size. -/
theorem reduce_sound_closed (E : Env) (fuel : Nat) (o r : Op) (hv : validb o = true)
    (hinv : ∀ a ∈ promises o, invertibleG E a) (h : reduce fuel o = .ok r) :
    validb r = true ∧ (∀ a ∈ lazyOperands r, invertibleG E a) ∧ Op.inS r = Op.inS o ∧ Op.outS r = Op.outS o ∧
    ∀ x : List ℝ, x.length = (Op.inS o).size → den E r x = den E o x := by
  obtain ⟨hw, h1, h2, h3⟩ := ListSem.reduce_sound_closed E fuel o r (wt_of_validb E o hv hinv) h
  obtain ⟨hv', hi'⟩ := (validb_iff _ r).mp hw
  exact ⟨hv', hi', h1, h2, h3⟩

/-- the same for the driver's entry point -/
theorem reduceTop_sound_closed (E : Env) (o r : Op) (hv : validb o = true)
    (hinv : ∀ a ∈ promises o, invertibleG E a) (h : reduceTop o = .ok r) :
    validb r = true ∧ (∀ a ∈ lazyOperands r, invertibleG E a) ∧ Op.inS r = Op.inS o ∧ Op.outS r = Op.outS o ∧
    ∀ x : List ℝ, x.length = (Op.inS o).size → den E r x = den E o x := by
  obtain ⟨hw, h1, h2, h3⟩ := ListSem.reduceTop_sound_closed E o r (wt_of_validb E o hv hinv) h
  obtain ⟨hv', hi'⟩ := (validb_iff _ r).mp hw
  exact ⟨hv', hi', h1, h2, h3⟩

/-- **no hypothesis but two Boolean computations** when every lazy inverse wraps a rotation or a diagonal without zero
entry (in particular when the expression has no lazy inverse at all) -/
theorem reduceTop_sound_decided (E : Env) (o r : Op) (hv : validb o = true) (hp : noPromiseb o = true)
    (h : reduceTop o = .ok r) :
    validb r = true ∧ Op.inS r = Op.inS o ∧ Op.outS r = Op.outS o ∧
    ∀ x : List ℝ, x.length = (Op.inS o).size → den E r x = den E o x := by
  obtain ⟨hw, h1, h2, h3⟩ := ListSem.reduceTop_sound_closed E o r (wt_of_validb_noPromise E o hv hp) h
  exact ⟨validb_complete _ r hw, h1, h2, h3⟩

/-- **C03, closed, executable hypothesis: `op.T` is the exact adjoint of `op`** for every expression that passes
`(valid-T OP)`; no invertibility is asked -/
theorem transpose_is_adjoint_closed (E : Env) (hE : EnvAdj E) (o t : Op) (hv : validTb o = true)
    (h : transposeOp o = .ok t) :
    ∀ x y : List ℝ, x.length = (Op.inS o).size → y.length = (Op.outS o).size →
      dot (den E o x) y = dot x (den E t y) :=
  ListSem.transpose_is_adjoint_closed E hE o t ((validTb_iff o).mp hv).1 ((validTb_iff o).mp hv).2 h

/-- the hypothesis of `C08.tags_truthful_closed` (`TagValid`): its two syntactic components are decided, the two
on the environment of the uninterpreted leaves are left -/
theorem tagValid_of_validb (E : Env) (o : Op) (hv : validb o = true) (ht : tformb o = true)
    (hA : EnvAdjOn E o) (hS : EnvSymOn E o) : C08.TagValid E o :=
  ⟨(validb_iff_noInv o).mpr hv, (tformb_iff o).mp ht, hA, hS⟩

/-- the hypothesis `hP` of `C07.scalar_side_closed` on the operands of a composition, from the executable check -/
theorem operands_wt_of_validb (E : Env) (ops : List Op) (hv : ∀ o ∈ ops, validb o = true)
    (hinv : ∀ o ∈ ops, ∀ a ∈ promises o, invertibleG E a) :
    ∀ o ∈ ops, WTExpr (listArithSem E).invertible listLeafOK o :=
  fun o ho => wt_of_validb E o (hv o ho) (hinv o ho)

/-! ### kernel-evaluated examples -/

namespace Examples
open ListSem.Examples ListSem.AdjExamples

/-- `R(θ)ᵀ ∘ R(θ)` on IQU maps: valid, and its only lazy inverse wraps a rotation -/
theorem ex1_validb : validb ex1 = true := by decide +kernel
theorem ex1_noPromiseb : noPromiseb ex1 = true := by decide +kernel
example : validb ex1 = true := ex1_validb
example : noPromiseb ex1 = true := ex1_noPromiseb
example : invalidReason ex1 = none := (invalidReason_none_iff ex1).mpr ex1_validb

/-- `Pᵀ ∘ P` for an index operator with a repeated index -/
theorem ex2_validb : validb ex2 = true := by decide +kernel
theorem ex2_noPromiseb : noPromiseb ex2 = true := by decide +kernel
example : validb ex2 = true := ex2_validb
example : noPromiseb ex2 = true := ex2_noPromiseb

/-- block row ∘ block column of opaque leaves -/
theorem ex3_validb : validb ex3 = true := by decide +kernel
example : validb ex3 = true := ex3_validb

/-- the well-formedness proofs of `ListSem.Examples`, by evaluation -/
theorem ex1_wt (E : Env) : WTExpr (listArithSem E).invertible listLeafOK ex1 :=
  wt_of_validb_noPromise E ex1 ex1_validb ex1_noPromiseb

theorem ex2_wt (E : Env) : WTExpr (listArithSem E).invertible listLeafOK ex2 :=
  wt_of_validb_noPromise E ex2 ex2_validb ex2_noPromiseb

theorem ex3_wt (E : Env) : WTExpr (listArithSem E).invertible listLeafOK ex3 :=
  wt_of_validb_noPromise E ex3 ex3_validb (by decide +kernel)

/-- the three rewrites are denotation preserving: the hypotheses are two evaluations each -/
theorem ex1_den (E : Env) (x : List ℝ) (hx : x.length = 18) : den E (mkIdentity iqu) x = den E ex1 x :=
  (reduceTop_sound_decided E ex1 _ ex1_validb ex1_noPromiseb ex1_red).2.2.2 x hx

theorem ex2_den (E : Env) (x : List ℝ) (hx : x.length = 3) :
    den E (.leaf 0 .diagonal { inS := idxP.inS, outS := idxP.inS, vals := ⟨[3], [0, 2, 0]⟩, ints := [[0]] }) x
      = den E ex2 x :=
  (reduceTop_sound_decided E ex2 _ ex2_validb ex2_noPromiseb ex2_red).2.2.2 x hx

/-- … and the reduced form of `ex2` (a new diagonal leaf) passes the check again -/
example : validb (.leaf 0 .diagonal { inS := idxP.inS, outS := idxP.inS, vals := ⟨[3], [0, 2, 0]⟩, ints := [[0]] })
    = true := by decide +kernel

/-- the adjointness example (a block column with a lazy inverse of a SINGULAR diagonal): `validTb` decides its
hypotheses; `validb` holds too but leaves the invertibility of the diagonal as a promise (`noPromiseb = false`) —
a promise that is false here, which the adjointness theorem does not need -/
theorem exOp_validTb : validTb exOp = true := by decide +kernel
example : validTb exOp = true := exOp_validTb
example : validb exOp = true := by decide +kernel
example : noPromiseb exOp = false := by decide +kernel

theorem exOp_adjoint (E : Env) (hE : EnvAdj E) (x y : List ℝ) (hx : x.length = 3) (hy : y.length = 5) :
    dot (den E exOp x) y = dot x (den E exOpT y) :=
  transpose_is_adjoint_closed E hE exOp exOpT exOp_validTb exOp_T x y hx hy

/-- `D⁻¹ ∘ D` for a diagonal WITHOUT zero entry: the invertibility of the operand of the lazy inverse is decided
too, nothing is left to promise -/
def diagQ : Params := { diagP with vals := ⟨[3], [2, 1 / 2, 5]⟩ }
def exInv : Op := .comp 9 [.wrap 7 .diagInv (.leaf 5 .diagonal diagQ), .leaf 5 .diagonal diagQ]

theorem exInv_validb : validb exInv = true := by decide +kernel
theorem exInv_noPromiseb : noPromiseb exInv = true := by decide +kernel
example : validb exInv = true := exInv_validb
example : noPromiseb exInv = true := exInv_noPromiseb

theorem exInv_red : reduceTop exInv = .ok (mkIdentity idxP.inS) := by with_unfolding_all rfl

theorem exInv_den (E : Env) (x : List ℝ) (hx : x.length = 3) : den E (mkIdentity idxP.inS) x = den E exInv x :=
  (reduceTop_sound_decided E exInv _ exInv_validb exInv_noPromiseb exInv_red).2.2.2 x hx

/-- … whereas with the singular diagonal of `AdjExamples` the check passes and reports the promise -/
example : promises (.wrap 7 .diagInv (.leaf 5 .diagonal diagP)) = [.leaf 5 .diagonal diagP] := by
  with_unfolding_all rfl

/-! #### an expression with a dense einsum leaf (`C14.Examples.exDense`: `Dense(p1) ∘ (2·Id)`, subscripts
`'ij...,j...->i...'`, ONE block array `(2, 3)`, a leaf `(3, 2)`)

`Einsum.parseSubscripts` is `String.splitOn`, which the Lean kernel does not unfold: the split of the subscripts is
supplied by `Einsum.parseSubscripts_of_terms` (`C14.Examples.parse1`), everything else is evaluated by the kernel.
The compiled driver just runs `validb`. -/

open C14.Examples

/-- the dense leaf passes the leaf check -/
theorem p1_leafOKb : leafOKb .dense p1 = true := by
  rw [leafOKb_dense_eq_terms p1 _ _ _ parse1]
  decide +kernel

open C14.Examples in
/-- `denseOK` itself, decided (`ListSem.denseCheck_iff`) -/
example : denseOK p1 := (leafOKb_iff .dense p1).mp p1_leafOKb (by decide +kernel)

open C14.Examples in
example : ¬ denseOK pBad := fun h => absurd ((denseCheck_iff pBad).mpr h)
  (by rw [denseCheck_eq_terms pBad _ _ _ parseBad]; decide +kernel)

theorem exDense_validb : validb exDense = true := by
  simp only [validb, exDense, validWith, validWithList, p1_leafOKb]
  decide +kernel

theorem exDense_validTb : validTb exDense = true := by
  simp only [validTb, exDense, validWith, validWithList, adjLeafOKb_eq, p1_leafOKb]
  decide +kernel

theorem exDense_noPromiseb : noPromiseb exDense = true := by decide +kernel

open C14.Examples in
example : noPromiseb exDense = true := exDense_noPromiseb

open C14.Examples in
/-- the hypotheses of the two closed theorems, from the check -/
example (E : Env) : WTExpr (listArithSem E).invertible listLeafOK exDense :=
  wt_of_validb_noPromise E exDense exDense_validb exDense_noPromiseb

open C14.Examples in
example : ValidT exDense ∧ exDense.WFT := (validTb_iff exDense).mp exDense_validTb

/-- **C03 on an expression with a dense leaf, hypothesis = the executable check** -/
theorem exDense_adjoint (E : Env) (hE : EnvAdj E) (x y : List ℝ) (hx : x.length = 6) (hy : y.length = 4) :
    dot (den E exDense x) y = dot x (den E exDenseT y) :=
  transpose_is_adjoint_closed E hE exDense exDenseT exDense_validTb exDense_T x y hx hy

open C14.Examples in
/-- the same leaf with one block array PER leaf (`vals` empty: interpreted by the environment) is not constrained by
`validb`, and refused by `validTb` (`transposeOp` builds a new leaf the environment does not know) -/
example : validb (.leaf 2 .dense { p1 with vals := ⟨[], []⟩ }) = true ∧
    validTb (.leaf 2 .dense { p1 with vals := ⟨[], []⟩ }) = false := by
  have h : leafOKb .dense { p1 with vals := ⟨[], []⟩ } = true := by
    rw [leafOKb_dense_eq_terms _ _ _ _ parse1]
    decide +kernel
  simp only [validb, validTb, validWith, adjLeafOKb_eq, h]
  decide +kernel

/-! #### expressions OUTSIDE the domain, with the reason -/

/-- a dense leaf whose blocks are broadcast against the input (`C14.Examples.pBad`: `'ij,j->i'`, blocks `(2, 1)`, a
leaf `(3,)`; `mv` is accepted, `.T.mv` raises): refused, with the reason -/
theorem pBad_leafOKb : leafOKb .dense pBad = false := by
  rw [leafOKb_dense_eq_terms pBad _ _ _ parseBad]
  decide +kernel

open C14.Examples in
example : leafOKb .dense pBad = false ∧
    leafReason .dense pBad = some "dense:blocks-or-leaves-do-not-fit-subscripts-exactly" := by
  refine ⟨pBad_leafOKb, ?_⟩
  rw [leafReason_dense_eq_terms pBad _ _ _ parseBad]
  decide +kernel

open C14.Examples in
/-- … and it really is outside the domain of the theorems (completeness of the dense check) -/
example (inv : Op → Prop) : ¬ WTExpr inv listLeafOK (.leaf 1 .dense pBad) :=
  fun h => Bool.false_ne_true (pBad_leafOKb ▸ validb_complete inv _ h)

/-- a rotation whose angles do not broadcast into the Stokes components -/
def badRot : Op := .leaf 1 .qurot { rotP with vals := ⟨[2], [0, 1]⟩ }
theorem badRot_validb : validb badRot = false := by decide +kernel
example : validb badRot = false := badRot_validb
example : invalidReason badRot = some "stokes:angles-do-not-broadcast-into-leaf" := by decide +kernel

/-- an index operator with an out-of-bounds value (NumPy refuses it; `jax.numpy` clamps) -/
def badIdx : Op := .leaf 1 .index { idxP with idx := [.iarr [2] [1, 3]] }
example : invalidReason badIdx = some "index:indexing-fails" := by decide +kernel

/-- `unique_indices=True` on a repeated index: the promise is checked -/
def badUniq : Op := .leaf 1 .index { idxP with flag := true }
example : invalidReason badUniq = some "index:unique-indices-promise-broken" := by decide +kernel

/-- a composition whose adjacent structures differ (`CompositionOperator([A, B])` built directly) -/
example : invalidReason (.comp 3 [opC, opB]) = some "comp:adjacent-structures-differ" := by decide +kernel

/-- a `false` answer really is outside the domain of the theorem (completeness) -/
example (inv : Op → Prop) : ¬ WTExpr inv listLeafOK badRot :=
  fun h => Bool.false_ne_true (badRot_validb ▸ validb_complete inv badRot h)

end Examples

#print axioms reduce_sound_closed
#print axioms reduceTop_sound_closed
#print axioms reduceTop_sound_decided
#print axioms transpose_is_adjoint_closed
#print axioms Examples.ex1_den
#print axioms Examples.ex2_den
#print axioms Examples.exOp_adjoint
#print axioms Examples.exInv_den
#print axioms Examples.exDense_validb
#print axioms Examples.exDense_validTb
#print axioms Examples.exDense_adjoint

end Valid
end Furax
