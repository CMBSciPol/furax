/-
C16, closed, in the list denotation: the acquisition operator of `furax.instruments.sat` /
`furax.projections` equals the explicit pointing model.

    projection  = QURotationOperator(pa) @ IndexOperator(indices) @ RavelOperator(sky structure)
    acquisition = LinearPolarizerOperator @ HWPOperator @ projection            (then `.reduce()`)

The pixel hit by detector `d` at sample `t` (`vals[d * nsamp + t]`, computed by HEALPix code that is not
modelled) is a parameter.
-/
import FuraxProofs.Sem.ListModel
import FuraxProofs.Sem.ToeplitzList
import FuraxProofs.Props.C16
import FuraxProofs.Lemmas.ReduceEval
namespace Furax
namespace ListSem
namespace Acq
open Op

/-- number of components of a Stokes kind (computable twin of `ncomp`) -/
def nc : StokesKind → Nat
  | .I => 1 | .QU => 2 | .IQU => 3 | .IQUV => 4

theorem nc_eq (k : StokesKind) : nc k = ncomp k := by cases k <;> rfl

theorem nc_pos (k : StokesKind) : 0 < nc k := by cases k <;> decide

/-- the treedef of a Stokes pytree, as the harness encodes it -/
def stokesTd (k : StokesKind) : TreeDef :=
  Tok.node ("stokes:" ++ k.name) (nc k) :: List.replicate (nc k) Tok.leaf

/-- a Stokes pytree of `ShapeDtypeStruct`s of one shape -/
def stokesS (k : StokesKind) (shape : List Nat) : Struct :=
  ⟨stokesTd k, List.replicate (nc k) ⟨shape, .f64⟩⟩

/-- the sky: `K`-pytree of maps of `npix` pixels -/
def skyS (k : StokesKind) (npix : Nat) : Struct := stokesS k [npix]
/-- the time-ordered data before the polariser: `K`-pytree of leaves of shape `(ndet, nsamp)` -/
def todS (k : StokesKind) (ndet nsamp : Nat) : Struct := stokesS k [ndet, nsamp]
/-- the detector time streams: one leaf of shape `(ndet, nsamp)` -/
def detS (ndet nsamp : Nat) : Struct := ⟨[Tok.leaf], [⟨[ndet, nsamp], .f64⟩]⟩

def rotP (k : StokesKind) (ndet nsamp : Nat) (angles : Tensor Rat) : Params :=
  { inS := todS k ndet nsamp, outS := todS k ndet nsamp, vals := angles }
def idxP (k : StokesKind) (npix ndet nsamp : Nat) (vals : List Int) : Params :=
  { inS := skyS k npix, outS := todS k ndet nsamp, idx := [.iarr [ndet, nsamp] vals], flag := false }
def ravelP (k : StokesKind) (npix : Nat) : Params := { inS := skyS k npix, outS := skyS k npix }
def hwpP (k : StokesKind) (ndet nsamp : Nat) : Params := { inS := todS k ndet nsamp, outS := todS k ndet nsamp }
def polP (k : StokesKind) (ndet nsamp : Nat) : Params := { inS := todS k ndet nsamp, outS := detS ndet nsamp }

/-- `QURotationOperator(pa, tod_structure)` -/
def rotOp (k : StokesKind) (ndet nsamp : Nat) (angles : Tensor Rat) : Op := .leaf 1 .qurot (rotP k ndet nsamp angles)
/-- `IndexOperator(indices, in_structure=reshape.out_structure())` -/
def idxOp (k : StokesKind) (npix ndet nsamp : Nat) (vals : List Int) : Op :=
  .leaf 2 .index (idxP k npix ndet nsamp vals)
/-- `RavelOperator(in_structure=landscape.structure)`: a no-op relabelling for a HEALPix landscape -/
def ravelOp (k : StokesKind) (npix : Nat) : Op := .leaf 3 .ravel (ravelP k npix)
/-- `HWPOperator(projection.out_structure())` -/
def hwpOp (k : StokesKind) (ndet nsamp : Nat) : Op := .leaf 4 .hwp (hwpP k ndet nsamp)
/-- `LinearPolarizerOperator.create((ndet, nsamp), dtype, K)` -/
def polOp (k : StokesKind) (ndet nsamp : Nat) : Op := .leaf 5 .polarizer (polP k ndet nsamp)

/-- `projection = rotation @ sampling @ reshape` (the second `@` appends to the composition) -/
def projOp (k : StokesKind) (npix ndet nsamp : Nat) (vals : List Int) (angles : Tensor Rat) : Op :=
  .comp 6 [rotOp k ndet nsamp angles, idxOp k npix ndet nsamp vals, ravelOp k npix]

/-- `acquisition = polarizer @ hwp @ projection` (`CompositionOperator.__matmul__` concatenates the operand lists) -/
def acqOp (k : StokesKind) (npix ndet nsamp : Nat) (vals : List Int) (angles : Tensor Rat) : Op :=
  .comp 7 [polOp k ndet nsamp, hwpOp k ndet nsamp, rotOp k ndet nsamp angles, idxOp k npix ndet nsamp vals,
    ravelOp k npix]

/-- the modelled `@` builds exactly these operand lists (the compositions it creates get `uid = 0`; the
denotation does not look at the `uid` of a composition) -/
theorem projOp_matmul (k : StokesKind) (npix ndet nsamp : Nat) (vals : List Int) (angles : Tensor Rat) :
    (pyMatmul (rotOp k ndet nsamp angles) (idxOp k npix ndet nsamp vals) >>= fun ri => pyMatmul ri (ravelOp k npix))
      = .ok (.comp 0 [rotOp k ndet nsamp angles, idxOp k npix ndet nsamp vals, ravelOp k npix]) := by
  simp [pyMatmul, matmulOf, baseMatmul, rotOp, idxOp, ravelOp, Op.inS, Op.outS, squareLeaf, isComp, lazyInverseOf,
    mkComp, rotP, idxP, ravelP, inSLast, bind, Except.bind]

theorem acqOp_matmul (k : StokesKind) (npix ndet nsamp : Nat) (vals : List Int) (angles : Tensor Rat) :
    (pyMatmul (polOp k ndet nsamp) (hwpOp k ndet nsamp) >>= fun ph =>
        pyMatmul ph (projOp k npix ndet nsamp vals angles))
      = .ok (.comp 0 [polOp k ndet nsamp, hwpOp k ndet nsamp, rotOp k ndet nsamp angles,
          idxOp k npix ndet nsamp vals, ravelOp k npix]) := by
  simp [pyMatmul, matmulOf, baseMatmul, projOp, polOp, hwpOp, rotOp, idxOp, ravelOp, Op.inS, Op.outS, squareLeaf,
    isComp, lazyInverseOf, mkComp, polP, hwpP, rotP, idxP, ravelP, inSLast, outSHead, bind, Except.bind]

/-- what the constructors guarantee: the pixel array has one in-range value per (detector, sample); the position
angles are a well-formed array of shape `(nsamp,)`; nothing is empty -/
structure Valid (npix ndet nsamp : Nat) (vals : List Int) (angles : Tensor Rat) : Prop where
  npix_pos : 0 < npix
  ndet_pos : 0 < ndet
  nsamp_pos : 0 < nsamp
  vals_len : vals.length = ndet * nsamp
  vals_rng : ∀ v ∈ vals, 0 ≤ v ∧ v < (npix : Int)
  ang_shape : angles.shape = [nsamp]
  ang_wf : angles.wellFormed = true

theorem chunks_replicate (m n : Nat) (x : V) :
    chunks (List.replicate m n) x = (List.range m).map fun c => headChunk n (x.drop (c * n)) := by
  induction m generalizing x with
  | zero => rfl
  | succ m ih =>
    rw [List.replicate_succ, chunks_cons, ih, List.range_succ_eq_map, List.map_cons, List.map_map, Nat.zero_mul,
      List.drop_zero]
    congr 2
    funext c
    simp only [Function.comp, List.drop_drop, Nat.succ_mul, Nat.add_comm]

theorem perLeaf_replicate (f : LeafS → LeafS → V → V) (li lo : LeafS) (m : Nat) (x : V) :
    perLeaf f (List.replicate m li) (List.replicate m lo) x
      = ((List.range m).map fun c => fit lo.size (f li lo (headChunk li.size (x.drop (c * li.size))))).flatten := by
  induction m generalizing x with
  | zero => rfl
  | succ m ih =>
    rw [List.replicate_succ, List.replicate_succ, perLeaf_cons, ih, List.range_succ_eq_map, List.map_cons,
      List.flatten_cons, List.map_map, Nat.zero_mul, List.drop_zero]
    congr 2
    apply List.map_congr_left
    intro c _
    simp only [Function.comp, List.drop_drop]
    rw [Nat.succ_mul, Nat.add_comm]

/-- the concatenation of `m` rows of length `n`: entry `t` of row `c`, at position `c * n + t`, is `f c t` -/
def rows (m n : Nat) (f : Nat → Nat → ℝ) : V := ((List.range m).map fun c => (List.range n).map (f c)).flatten

theorem rows_lengths (m n : Nat) (f : Nat → Nat → ℝ) :
    ((List.range m).map fun c => (List.range n).map (f c)).map List.length = List.replicate m n := by
  simp [Function.comp_def]

theorem rows_length (m n : Nat) (f : Nat → Nat → ℝ) : (rows m n f).length = m * n := by
  rw [rows, List.length_flatten, rows_lengths, List.sum_replicate, smul_eq_mul]

theorem headChunk_drop_rows {m n : Nat} (f : Nat → Nat → ℝ) {c : Nat} (hc : c < m) :
    headChunk n ((rows m n f).drop (c * n)) = (List.range n).map (f c) :=
  -- cutting the rows into `m` chunks of length `n` gives the rows back; compare the entries at `c`
  List.map_inj_left.mp ((chunks_replicate m n _).symm.trans (chunks_of_flatten _ _ (rows_lengths m n f))) c
    (List.mem_range.mpr hc)

theorem rows_getD {m n : Nat} (f : Nat → Nat → ℝ) {c t : Nat} (hc : c < m) (ht : t < n) :
    (rows m n f).getD (c * n + t) 0 = f c t := by
  rw [← drop_getD, ← headChunk_getD n _ t ht, headChunk_drop_rows f hc, Axes.ma_getD_map_range n _ t ht]

/-- the Stokes vector of pixel `p` of the sky `x` (components concatenated, `npix` pixels each) -/
def skyAt (k : StokesKind) (npix : Nat) (x : V) (p : Nat) : SV ℝ :=
  SV.ofPresent k ((List.range (nc k)).map fun c => x.getD (c * npix + p) 0) 0

/-- **the Stokes vector of sample `t`**, read from the concatenated components -/
theorem svAt_eq (k : StokesKind) (n : Nat) (x : V) (t : Nat) (ht : t < n) : svAt k n x t = skyAt k n x t := by
  rw [svAt, ← nc_eq, chunks_replicate, List.map_map, skyAt]
  congr 1
  apply List.map_congr_left
  intro c _
  exact (headChunk_getD n _ t ht).trans (drop_getD (c * n) x t)

theorem stokesMap_getD (k : StokesKind) (n : Nat) (g : Nat → SV ℝ → SV ℝ) (x : V) (c t : Nat) (hc : c < nc k)
    (ht : t < n) :
    (stokesMap k n g x).getD (c * n + t) 0 = (SV.present k (g t (skyAt k n x t))).getD c 0 := by
  show (rows (ncomp k) n fun c t => (SV.present k (g t (svAt k n x t))).getD c 0).getD _ 0 = _
  rw [rows_getD _ (nc_eq k ▸ hc) ht, svAt_eq k n x t ht]

section kinds
variable {n : Nat}

theorem skyAt_IQUV (x : V) (p : Nat) :
    skyAt .IQUV n x p = ⟨x.getD p 0, x.getD (n + p) 0, x.getD (2 * n + p) 0, x.getD (3 * n + p) 0⟩ := by
  simp only [skyAt, nc, List.range, List.range.loop, List.map, SV.ofPresent, Nat.zero_mul, Nat.zero_add, Nat.one_mul]

theorem skyAt_IQU (x : V) (p : Nat) :
    skyAt .IQU n x p = ⟨x.getD p 0, x.getD (n + p) 0, x.getD (2 * n + p) 0, 0⟩ := by
  simp only [skyAt, nc, List.range, List.range.loop, List.map, SV.ofPresent, Nat.zero_mul, Nat.zero_add, Nat.one_mul]

theorem skyAt_QU (x : V) (p : Nat) : skyAt .QU n x p = ⟨0, x.getD p 0, x.getD (n + p) 0, 0⟩ := by
  simp only [skyAt, nc, List.range, List.range.loop, List.map, SV.ofPresent, Nat.zero_mul, Nat.zero_add, Nat.one_mul]

theorem skyAt_I (x : V) (p : Nat) : skyAt .I n x p = ⟨x.getD p 0, 0, 0, 0⟩ := by
  simp only [skyAt, nc, List.range, List.range.loop, List.map, SV.ofPresent, Nat.zero_mul, Nat.zero_add]

/-- a vector whose entry `c * n + t` is component `c` of the Stokes vector `v`, for every component of the kind:
the same, component by component -/
theorem entries_IQUV {y : V} {t : Nat} {v : SV ℝ}
    (h : ∀ c, c < nc .IQUV → y.getD (c * n + t) 0 = (SV.present .IQUV v).getD c 0) :
    y.getD t 0 = v.i ∧ y.getD (n + t) 0 = v.q ∧ y.getD (2 * n + t) 0 = v.u ∧ y.getD (3 * n + t) 0 = v.v := by
  have h0 := h 0 (by decide)
  have h1 := h 1 (by decide)
  rw [Nat.zero_mul, Nat.zero_add] at h0
  rw [Nat.one_mul] at h1
  exact ⟨h0, h1, h 2 (by decide), h 3 (by decide)⟩

theorem entries_IQU {y : V} {t : Nat} {v : SV ℝ}
    (h : ∀ c, c < nc .IQU → y.getD (c * n + t) 0 = (SV.present .IQU v).getD c 0) :
    y.getD t 0 = v.i ∧ y.getD (n + t) 0 = v.q ∧ y.getD (2 * n + t) 0 = v.u := by
  have h0 := h 0 (by decide)
  have h1 := h 1 (by decide)
  rw [Nat.zero_mul, Nat.zero_add] at h0
  rw [Nat.one_mul] at h1
  exact ⟨h0, h1, h 2 (by decide)⟩

theorem entries_QU {y : V} {t : Nat} {v : SV ℝ}
    (h : ∀ c, c < nc .QU → y.getD (c * n + t) 0 = (SV.present .QU v).getD c 0) :
    y.getD t 0 = v.q ∧ y.getD (n + t) 0 = v.u := by
  have h0 := h 0 (by decide)
  have h1 := h 1 (by decide)
  rw [Nat.zero_mul, Nat.zero_add] at h0
  rw [Nat.one_mul] at h1
  exact ⟨h0, h1⟩

end kinds

theorem prodNat_two (a b : Nat) : prodNat [a, b] = a * b := congrArg (· * b) (Nat.one_mul a)

theorem stokesS_size (k : StokesKind) (sh : List Nat) : (stokesS k sh).size = nc k * prodNat sh := by
  simp [Struct.size, stokesS, LeafS.size]

theorem skyS_size (k : StokesKind) (npix : Nat) : (skyS k npix).size = nc k * npix := by
  rw [skyS, stokesS_size, prodNat_singleton]

theorem todS_size (k : StokesKind) (ndet nsamp : Nat) : (todS k ndet nsamp).size = nc k * (ndet * nsamp) := by
  rw [todS, stokesS_size, prodNat_two]

theorem detS_size (ndet nsamp : Nat) : (detS ndet nsamp).size = ndet * nsamp := by
  simp [detS, Struct.size, LeafS.size, prodNat]

theorem stokesS_kind (k : StokesKind) (sh : List Nat) : kindOf (stokesS k sh).leaves.length = some k := by
  cases k <;> rfl

theorem stokesS_headD (k : StokesKind) (sh : List Nat) : ((stokesS k sh).leaves.headD default).shape = sh := by
  cases k <;> rfl

theorem stokesS_shapes (k : StokesKind) (sh : List Nat) : ∀ l ∈ (stokesS k sh).leaves, l.shape = sh := by
  intro l hl
  rw [(List.mem_replicate.mp hl).2]

/-- the pixel hit at flat (detector, sample) position `j` -/
def pix (vals : List Int) (j : Nat) : Nat := (vals.getD j 0).toNat

/-- the position angle of sample `t` -/
noncomputable def psi (angles : Tensor Rat) (t : Nat) : ℝ := ((angles.data.getD t 0 : Rat) : ℝ)

section leaves
variable {npix ndet nsamp : Nat} {vals : List Int} {angles : Tensor Rat}

theorem Valid.pix_lt (hv : Valid npix ndet nsamp vals angles) (j : Nat) (hj : j < ndet * nsamp) :
    pix vals j < npix := by
  have hjl : j < vals.length := hv.vals_len ▸ hj
  obtain ⟨h0, h1⟩ := hv.vals_rng _ (List.getElem_mem hjl)
  rw [pix, List.getD_eq_getElem _ _ hjl]
  exact (Int.toNat_lt h0).mpr h1

theorem Valid.vals_py (hv : Valid npix ndet nsamp vals angles) : ∀ i ∈ vals, -(npix : Int) ≤ i ∧ i < npix := by
  intro i hi
  obtain ⟨h0, h1⟩ := hv.vals_rng i hi
  exact ⟨(Int.neg_nonpos_of_nonneg (Int.natCast_nonneg npix)).trans h0, h1⟩

/-- **the position map of the sampling operator**: element `j` of the result reads pixel `vals[j]` -/
theorem indexPositions_pix (hv : Valid npix ndet nsamp vals angles) :
    Index.indexPositions [npix] [.iarr [ndet, nsamp] vals]
      = .ok ([ndet, nsamp], (List.range (ndet * nsamp)).map (pix vals)) := by
  -- one array index on the only axis: no leading and no trailing axes (`A = C = []` in `indexPositions_eval`)
  rw [show [npix] = [] ++ npix :: [] from rfl,
    indexPositions_eval [] [] [ndet, nsamp] npix vals _ rfl rfl hv.vals_py (hv.vals_len.trans (prodNat_two _ _).symm)]
  show Except.ok ([ndet, nsamp], (List.range (prodNat [ndet, nsamp])).map _) = _
  rw [prodNat_two]
  congr 2
  apply List.map_congr_left
  intro j hj
  have hj' : j < ndet * nsamp := List.mem_range.mp hj
  have hjl : j < vals.length := hv.vals_len ▸ hj'
  have h0 := (hv.vals_rng _ (List.getElem_mem hjl)).1
  -- so `posFn` reads entry `j` of `vals`, which is not negative
  rw [posFn, nvf, pix, prodNat_two, show prodNat ([] : List Nat) = 1 from rfl, Nat.mul_one, Nat.mul_one,
    Nat.div_one, Nat.mod_one, Nat.add_zero, Nat.div_eq_of_lt hj', Nat.zero_mul, Nat.zero_add, Nat.mod_eq_of_lt hj',
    List.getD_eq_getElem _ _ hjl, Index.normIdx_of_nonneg _ _ h0]

theorem den_ravel (E : Env) (k : StokesKind) (x : V) (hx : x.length = nc k * npix) :
    den E (ravelOp k npix) x = x :=
  reshape_id E 3 .ravel (ravelP k npix) (.inl rfl) rfl x (hx.trans (skyS_size k npix).symm)

/-- the sky sampled along the scan: component `c`, flat (detector, sample) position `j` ↦ `x[c·npix + vals[j]]` -/
def sampled (k : StokesKind) (npix n : Nat) (vals : List Int) (x : V) : V :=
  rows (nc k) n fun c j => x.getD (c * npix + pix vals j) 0

theorem sampled_length (k : StokesKind) (npix n : Nat) (vals : List Int) (x : V) :
    (sampled k npix n vals x).length = nc k * n := rows_length _ _ _

theorem gather_chunk (hv : Valid npix ndet nsamp vals angles) (x : V) (c : Nat) :
    Index.gather ((List.range (ndet * nsamp)).map (pix vals)) (headChunk npix (x.drop (c * npix)))
      = (List.range (ndet * nsamp)).map fun j => x.getD (c * npix + pix vals j) 0 := by
  rw [Index.gather, List.map_map]
  refine List.map_congr_left fun j hj => ?_
  exact (headChunk_getD _ _ _ (hv.pix_lt j (List.mem_range.mp hj))).trans (drop_getD _ x _)

/-- **the sampling operator gathers the pointed pixels**, component by component -/
theorem den_idx (E : Env) (k : StokesKind) (hv : Valid npix ndet nsamp vals angles) (x : V)
    (hx : x.length = nc k * npix) :
    den E (idxOp k npix ndet nsamp vals) x = sampled k npix (ndet * nsamp) vals x := by
  have hper : perLeaf (gatherLeaf [.iarr [ndet, nsamp] vals]) (List.replicate (nc k) ⟨[npix], .f64⟩)
      (List.replicate (nc k) ⟨[ndet, nsamp], .f64⟩) x = sampled k npix (ndet * nsamp) vals x := by
    rw [perLeaf_replicate]
    refine congrArg List.flatten (List.map_congr_left fun c _ => ?_)
    simp only [gatherLeaf, indexPositions_pix hv, LeafS.size, prodNat_singleton, prodNat_two]
    rw [gather_chunk hv, fit_eq_self (by simp)]
  show fit (todS k ndet nsamp).size (perLeaf _ _ _ (fit (skyS k npix).size x)) = _
  rw [skyS_size, fit_eq_self hx, todS_size]
  exact (congrArg (fit (nc k * (ndet * nsamp))) hper).trans (fit_eq_self (sampled_length ..))

theorem skyAt_sampled (k : StokesKind) (npix : Nat) {n : Nat} (vals : List Int) (x : V) {j : Nat} (hj : j < n) :
    skyAt k n (sampled k npix n vals x) j = skyAt k npix x (pix vals j) :=
  congrArg (SV.ofPresent k · 0) (List.map_congr_left fun _ hc => rows_getD _ (List.mem_range.mp hc) hj)

/-- the angles, of shape `(nsamp,)`, broadcast along the detectors -/
theorem Valid.ang_Bc (hv : Valid npix ndet nsamp vals angles) : Bc angles.shape [ndet, nsamp] := by
  rw [hv.ang_shape]
  refine ⟨Nat.le_succ 1, fun j hj => .inr ?_⟩
  obtain rfl : j = 0 := Nat.lt_one_iff.mp hj
  rfl

/-- the first two clauses of `stokesOK`: a Stokes pytree has `|K|` leaves of one shape -/
theorem stokesS_ok (k : StokesKind) (sh : List Nat) :
    (∃ k', kindOf (stokesS k sh).leaves.length = some k') ∧
      ∀ l ∈ (stokesS k sh).leaves, l.shape = ((stokesS k sh).leaves.headD default).shape :=
  ⟨⟨k, stokesS_kind k sh⟩, fun l hl => (stokesS_shapes k sh l hl).trans (stokesS_headD k sh).symm⟩

theorem leafShape_rotP (k : StokesKind) : leafShape (rotP k ndet nsamp angles) = [ndet, nsamp] :=
  stokesS_headD k _
theorem leafShape_hwpP (k : StokesKind) : leafShape (hwpP k ndet nsamp) = [ndet, nsamp] := stokesS_headD k _
theorem leafShape_polP (k : StokesKind) : leafShape (polP k ndet nsamp) = [ndet, nsamp] := stokesS_headD k _

theorem rotP_ok (k : StokesKind) (hv : Valid npix ndet nsamp vals angles) :
    stokesOK .qurot (rotP k ndet nsamp angles) :=
  ⟨(stokesS_ok k _).1, (stokesS_ok k _).2, fun _ => ⟨hv.ang_wf, (leafShape_rotP k).symm ▸ hv.ang_Bc⟩,
    nofun⟩

theorem hwpP_ok (k : StokesKind) (ndet nsamp : Nat) : stokesOK .hwp (hwpP k ndet nsamp) :=
  ⟨(stokesS_ok k _).1, (stokesS_ok k _).2, nofun, nofun⟩

theorem polP_ok (k : StokesKind) (ndet nsamp : Nat) : stokesOK .polarizer (polP k ndet nsamp) :=
  ⟨(stokesS_ok k _).1, (stokesS_ok k _).2, nofun, fun _ => ⟨_, rfl, (leafShape_polP k).symm⟩⟩

/-- an array of shape `(n,)` broadcast to `(m, n)` is read at the column index -/
theorem bIdx_row (m n j : Nat) : bIdx [n] [m, n] j = j % n := by
  show (0 * n + if (n == 1) = true then 0 else j % n) = j % n
  rw [Nat.zero_mul, Nat.zero_add]
  split
  · rename_i h
    rw [beq_iff_eq.mp h, Nat.mod_one]
  · rfl

/-- the angle the rotation uses at flat position `j = d·nsamp + t` is the position angle of sample `t` -/
theorem angleAt_psi (hv : Valid npix ndet nsamp vals angles) (j : Nat) (hj : j < ndet * nsamp) :
    angleAt angles [ndet, nsamp] j = psi angles (j % nsamp) := by
  rw [angleAt_eq angles _ j hv.ang_wf hv.ang_Bc (by rw [prodNat_two]; exact hj), angleQ, hv.ang_shape, bIdx_row]
  rfl

theorem den_proj_rot (E : Env) (k : StokesKind) (hv : Valid npix ndet nsamp vals angles) (x : V)
    (hx : x.length = nc k * npix) :
    den E (projOp k npix ndet nsamp vals angles) x
      = den E (rotOp k ndet nsamp angles) (sampled k npix (ndet * nsamp) vals x) := by
  show den E _ (den E (idxOp k npix ndet nsamp vals) (den E (ravelOp k npix) x)) = _
  rw [den_ravel E k x hx, den_idx E k hv x hx]

theorem den_proj (E : Env) (k : StokesKind) (hv : Valid npix ndet nsamp vals angles) (x : V)
    (hx : x.length = nc k * npix) :
    den E (projOp k npix ndet nsamp vals angles) x
      = stokesMap k (ndet * nsamp) (rotG angles [ndet, nsamp]) (sampled k npix (ndet * nsamp) vals x) := by
  have h := den_qurot E 1 (rotP_ok k hv) (stokesS_kind k _) (sampled k npix (ndet * nsamp) vals x)
    ((sampled_length ..).trans (todS_size k ndet nsamp).symm)
  rw [leafShape_rotP, prodNat_two] at h
  exact (den_proj_rot E k hv x hx).trans h

/-- **C16, projection, closed.**  For a sky `x` (the `|K|` components concatenated, `npix` pixels each), component
`c` of `projection.mv(x)` for detector `d` at sample `t` is component `c` of the Stokes vector found at the pointed
pixel `p = indices[d, t]` with `(Q, U)` rotated by `2ψ_t`: `Q' = Q cos 2ψ − U sin 2ψ`, `U' = Q sin 2ψ + U cos 2ψ`,
`I` and `V` unchanged. -/
theorem projection_closed (E : Env) (k : StokesKind) (hv : Valid npix ndet nsamp vals angles) (x : V)
    (hx : x.length = nc k * npix) (c d t : Nat) (hc : c < nc k) (hd : d < ndet) (ht : t < nsamp) :
    (den E (projOp k npix ndet nsamp vals angles) x).getD (c * (ndet * nsamp) + (d * nsamp + t)) 0
      = (SV.present k (SV.rot (Real.cos (2 * psi angles t)) (Real.sin (2 * psi angles t))
          (skyAt k npix x (pix vals (d * nsamp + t))))).getD c 0 := by
  have hj := flat_lt hd ht
  rw [den_proj E k hv x hx, stokesMap_getD k _ _ _ c _ hc hj, skyAt_sampled _ _ _ _ hj, rotG, angleAt_psi hv _ hj,
    flat_mod d ht]

/-- the same, component by component, for a sky with all four Stokes parameters -/
theorem projection_closed_IQUV (E : Env) (hv : Valid npix ndet nsamp vals angles) (x : V)
    (hx : x.length = 4 * npix) (d t : Nat) (hd : d < ndet) (ht : t < nsamp) :
    let N := ndet * nsamp
    let j := d * nsamp + t
    let p := pix vals j
    let y := den E (projOp .IQUV npix ndet nsamp vals angles) x
    y.getD j 0 = x.getD p 0 ∧
    y.getD (N + j) 0 = x.getD (npix + p) 0 * Real.cos (2 * psi angles t)
        - x.getD (2 * npix + p) 0 * Real.sin (2 * psi angles t) ∧
    y.getD (2 * N + j) 0 = x.getD (npix + p) 0 * Real.sin (2 * psi angles t)
        + x.getD (2 * npix + p) 0 * Real.cos (2 * psi angles t) ∧
    y.getD (3 * N + j) 0 = x.getD (3 * npix + p) 0 := by
  intro N j p y
  have h := entries_IQUV fun c hc => projection_closed E .IQUV hv x hx c d t hc hd ht
  rw [skyAt_IQUV] at h
  exact h

theorem den_pol_hwp (E : Env) (k : StokesKind) (z : V) (hz : z.length = nc k * (ndet * nsamp)) :
    den E (polOp k ndet nsamp) (den E (hwpOp k ndet nsamp) z)
      = polMap k (ndet * nsamp) (stokesMap k (ndet * nsamp) (fun _ => SV.hwp) z) := by
  have h1 := den_hwp E 4 (hwpP_ok k ndet nsamp) (stokesS_kind k _) z (hz.trans (todS_size k ndet nsamp).symm)
  rw [leafShape_hwpP, prodNat_two] at h1
  have h2 := den_polarizer E (p := polP k ndet nsamp) 5 (stokesS_kind k _)
    (stokesMap k (ndet * nsamp) (fun _ => SV.hwp) z)
    (by rw [stokesMap_length, ← nc_eq]; exact (todS_size k ndet nsamp).symm)
  rw [leafShape_polP, prodNat_two] at h2
  rw [hwpOp, h1, polOp, h2]
  exact fit_eq_self ((polMap_length ..).trans (detS_size ndet nsamp).symm)

/-- **C16, acquisition, closed (whole vector).**  The detector time streams are, sample by sample,
polariser ∘ HWP ∘ rotation applied to the sky Stokes vector found at the pointed pixel: exactly
`Acquisition.acquire`, the per-sample model the compiled driver runs. -/
theorem den_acq (E : Env) (k : StokesKind) (hv : Valid npix ndet nsamp vals angles) (x : V)
    (hx : x.length = nc k * npix) :
    den E (acqOp k npix ndet nsamp vals angles) x
      = (List.range (ndet * nsamp)).map fun j =>
          Acquisition.acquire (1 / 2 : ℝ) k (Real.cos (2 * psi angles (j % nsamp)))
            (Real.sin (2 * psi angles (j % nsamp))) (skyAt k npix x (pix vals j)) := by
  show den E (polOp k ndet nsamp) (den E (hwpOp k ndet nsamp) (den E (projOp k npix ndet nsamp vals angles) x)) = _
  rw [den_proj E k hv x hx, den_pol_hwp E k _ (by rw [stokesMap_length, nc_eq]),
    stokesMap_comp k _ _ _ _ (hwp_resp k), polMap_eq]
  apply List.map_congr_left
  intro j hj
  have hj' := List.mem_range.mp hj
  rw [svAt_stokesMap _ _ _ _ _ hj', svAt_eq _ _ _ _ hj', skyAt_sampled _ _ _ _ hj', rotG, angleAt_psi hv j hj']
  exact pol_resp k _ _ _ (present_ofPresent _ _ (present_length _ _))

theorem den_acq_length (E : Env) (k : StokesKind) (hv : Valid npix ndet nsamp vals angles) (x : V)
    (hx : x.length = nc k * npix) : (den E (acqOp k npix ndet nsamp vals angles) x).length = ndet * nsamp := by
  rw [den_acq E k hv x hx, List.length_map, List.length_range]

/-- **C16, acquisition, closed.**  The time stream of detector `d` at sample `t` is
`pol (hwp (rot (cos 2ψ_t) (sin 2ψ_t) sky_p))`, `p = indices[d, t]` the pointed pixel, `ψ_t` the position angle:
`Acquisition.acquire` of the model. -/
theorem acquisition_closed (E : Env) (k : StokesKind) (hv : Valid npix ndet nsamp vals angles) (x : V)
    (hx : x.length = nc k * npix) (d t : Nat) (hd : d < ndet) (ht : t < nsamp) :
    (den E (acqOp k npix ndet nsamp vals angles) x).getD (d * nsamp + t) 0
      = Acquisition.acquire (1 / 2 : ℝ) k (Real.cos (2 * psi angles t)) (Real.sin (2 * psi angles t))
          (skyAt k npix x (pix vals (d * nsamp + t))) := by
  rw [den_acq E k hv x hx, Axes.ma_getD_map_range _ _ _ (flat_lt hd ht), flat_mod d ht]

/-- **the sign, derived from the definitions**: for an IQU sky (maps `I`, `Q`, `U` concatenated) the time stream is
`(I_p + Q_p cos 2ψ_t − U_p sin 2ψ_t) / 2`.  `SV.hwp` flips `U` and `V` AFTER the rotation and the polariser reads
only `I` and `Q`, so the HWP has no effect here and `U` enters through the rotation only, with the MINUS sign of
`Q' = Q cos 2ψ − U sin 2ψ`.  This is `C16.acquisition_real` at the pointed pixel. -/
theorem acquisition_closed_IQU (E : Env) (hv : Valid npix ndet nsamp vals angles) (x : V)
    (hx : x.length = 3 * npix) (d t : Nat) (hd : d < ndet) (ht : t < nsamp) :
    let p := pix vals (d * nsamp + t)
    (den E (acqOp .IQU npix ndet nsamp vals angles) x).getD (d * nsamp + t) 0
      = (x.getD p 0 + x.getD (npix + p) 0 * Real.cos (2 * psi angles t)
          - x.getD (2 * npix + p) 0 * Real.sin (2 * psi angles t)) / 2 := by
  intro p
  rw [acquisition_closed E .IQU hv x hx d t hd ht, C16.acquisition_real, skyAt_IQU]

/-- the same for an IQUV sky: `V` does not reach the detector -/
theorem acquisition_closed_IQUV (E : Env) (hv : Valid npix ndet nsamp vals angles) (x : V)
    (hx : x.length = 4 * npix) (d t : Nat) (hd : d < ndet) (ht : t < nsamp) :
    let p := pix vals (d * nsamp + t)
    (den E (acqOp .IQUV npix ndet nsamp vals angles) x).getD (d * nsamp + t) 0
      = (x.getD p 0 + x.getD (npix + p) 0 * Real.cos (2 * psi angles t)
          - x.getD (2 * npix + p) 0 * Real.sin (2 * psi angles t)) / 2 := by
  intro p
  rw [acquisition_closed E .IQUV hv x hx d t hd ht, skyAt_IQUV]
  exact C16.acquisition_real (psi angles t) _

/-- QU sky: `(Q_p cos 2ψ_t − U_p sin 2ψ_t) / 2` -/
theorem acquisition_closed_QU (E : Env) (hv : Valid npix ndet nsamp vals angles) (x : V)
    (hx : x.length = 2 * npix) (d t : Nat) (hd : d < ndet) (ht : t < nsamp) :
    let p := pix vals (d * nsamp + t)
    (den E (acqOp .QU npix ndet nsamp vals angles) x).getD (d * nsamp + t) 0
      = (x.getD p 0 * Real.cos (2 * psi angles t) - x.getD (npix + p) 0 * Real.sin (2 * psi angles t)) / 2 := by
  intro p
  rw [acquisition_closed E .QU hv x hx d t hd ht, skyAt_QU]
  exact one_div_mul_eq_div 2 _

/-- intensity-only sky: `I_p / 2` -/
theorem acquisition_closed_I (E : Env) (hv : Valid npix ndet nsamp vals angles) (x : V)
    (hx : x.length = 1 * npix) (d t : Nat) (hd : d < ndet) (ht : t < nsamp) :
    (den E (acqOp .I npix ndet nsamp vals angles) x).getD (d * nsamp + t) 0
      = x.getD (pix vals (d * nsamp + t)) 0 / 2 := by
  rw [acquisition_closed E .I hv x hx d t hd ht, skyAt_I]
  exact one_div_mul_eq_div 2 _

/-! ### well-formedness, and `reduce()` -/

theorem forall₂_replicate {α β : Type} (R : α → β → Prop) (a : α) (b : β) (h : R a b) (m : Nat) :
    List.Forall₂ R (List.replicate m a) (List.replicate m b) := by
  induction m with
  | zero => exact .nil
  | succ m ih => rw [List.replicate_succ, List.replicate_succ]; exact .cons h ih

theorem idxP_ok (k : StokesKind) (hv : Valid npix ndet nsamp vals angles) :
    listLeafOK .index (idxP k npix ndet nsamp vals) := by
  have hpos : ∀ q ∈ (List.range (ndet * nsamp)).map (pix vals), q < (⟨[npix], .f64⟩ : LeafS).size :=
    List.forall_mem_map.mpr fun j hj => (hv.pix_lt j (List.mem_range.mp hj)).trans_eq (prodNat_singleton npix).symm
  refine ⟨⟨rfl, forall₂_replicate _ _ _
    ⟨_, indexPositions_pix hv, hpos, nofun, rfl⟩ _⟩, ?_, ?_⟩
  · intro sh vs h
    obtain ⟨rfl, rfl⟩ := IdxEntry.iarr.inj (List.mem_singleton.mp h)
    rw [hv.vals_len, prodNat_two]
  · -- the only indexed axis is axis `0`, of length `npix`
    intro axis ha sh vs hget l hl n hn i hi
    obtain rfl : axis = 0 := List.mem_singleton.mp ha
    obtain ⟨rfl, rfl⟩ := IdxEntry.iarr.inj (Option.some.inj hget)
    rw [stokesS_shapes k _ l hl] at hn
    obtain rfl : npix = n := Option.some.inj hn
    exact hv.vals_py i hi

theorem ravelP_ok (k : StokesKind) (npix : Nat) : listLeafOK .ravel (ravelP k npix) :=
  ⟨rfl, forall₂_replicate (fun li lo : LeafS => lo.size = li.size) _ _ rfl _⟩

/-- **the acquisition expression is well formed** in the sense of the closed soundness theorem of `reduce()`:
every leaf passes its constructor's validation (`listLeafOK`), adjacent structures match; there is no lazy inverse -/
theorem acqOp_wt (E : Env) (k : StokesKind) (hv : Valid npix ndet nsamp vals angles) :
    WTExpr (listArithSem E).invertible listLeafOK (acqOp k npix ndet nsamp vals angles) := by
  simp only [acqOp, polOp, hwpOp, rotOp, idxOp, ravelOp, WTExpr, WTList, Chain]
  exact ⟨by simp, ⟨polP_ok k ndet nsamp, hwpP_ok k ndet nsamp, rotP_ok k hv, idxP_ok k hv, ravelP_ok k npix, trivial⟩,
    rfl, rfl, rfl, rfl, trivial⟩

theorem projOp_wt (E : Env) (k : StokesKind) (hv : Valid npix ndet nsamp vals angles) :
    WTExpr (listArithSem E).invertible listLeafOK (projOp k npix ndet nsamp vals angles) := by
  simp only [projOp, rotOp, idxOp, ravelOp, WTExpr, WTList, Chain]
  exact ⟨by simp, ⟨rotP_ok k hv, idxP_ok k hv, ravelP_ok k npix, trivial⟩, rfl, rfl, trivial⟩

/-- **C16, `reduce()`, closed.**  Whatever `acquisition.reduce()` returns, it computes the same time streams as
the unreduced acquisition on every sky — an instance of `reduceTop_sound_closed`, with no hypothesis beyond the
validity of the constructor arguments. -/
theorem acquisition_reduced_closed (E : Env) (k : StokesKind) (hv : Valid npix ndet nsamp vals angles) (r : Op)
    (h : reduceTop (acqOp k npix ndet nsamp vals angles) = .ok r) (x : V) (hx : x.length = nc k * npix) :
    den E r x = den E (acqOp k npix ndet nsamp vals angles) x :=
  (reduceTop_sound_closed E _ r (acqOp_wt E k hv) h).2.2.2 x (hx.trans (skyS_size k npix).symm)

/-- hence the reduced operator is the explicit pointing model too -/
theorem acquisition_reduced_model (E : Env) (k : StokesKind) (hv : Valid npix ndet nsamp vals angles) (r : Op)
    (h : reduceTop (acqOp k npix ndet nsamp vals angles) = .ok r) (x : V) (hx : x.length = nc k * npix)
    (d t : Nat) (hd : d < ndet) (ht : t < nsamp) :
    (den E r x).getD (d * nsamp + t) 0
      = Acquisition.acquire (1 / 2 : ℝ) k (Real.cos (2 * psi angles t)) (Real.sin (2 * psi angles t))
          (skyAt k npix x (pix vals (d * nsamp + t))) := by
  rw [acquisition_reduced_closed E k hv r h x hx]
  exact acquisition_closed E k hv x hx d t hd ht

/-- the rotation and the index operator never meet a rule: `TransposeIndexRule` wants a transpose on the left -/
theorem fire_rot_idx (red : Op → Except PyErr Op) (k : StokesKind) (npix ndet nsamp : Nat) (vals : List Int)
    (angles : Tensor Rat) :
    fireFirst (reductionCfg red).rules (rotOp k ndet nsamp angles) (idxOp k npix ndet nsamp vals) = .ok none := by
  rw [fireFirst_rules red (.inl rfl) (.inl ⟨rfl, rfl⟩) (.inl rfl) (.inl rfl) (.inl rfl) (.inr rfl)]; rfl

/-- the ravel, whose output structure is its input structure, reduces to the identity -/
theorem reduce_ravelOp (fuel : Nat) (k : StokesKind) (npix : Nat) :
    reduce (fuel + 1) (ravelOp k npix) = .ok (mkIdentity (skyS k npix)) := by
  simp [reduce, ravelOp, ravelP]

/-- the sampling operator indexes axis `0` and stays -/
theorem reduce_idxOp (fuel : Nat) (k : StokesKind) (npix ndet nsamp : Nat) (vals : List Int) :
    reduce (fuel + 1) (idxOp k npix ndet nsamp vals) = .ok (idxOp k npix ndet nsamp vals) := by
  rw [idxOp, reduce, idxP, show indexedAxes [IdxEntry.iarr [ndet, nsamp] vals] = [0] from rfl]
  rfl

/-- the reduced acquisition: polariser ∘ rotation ∘ sampling -/
def acqRed (k : StokesKind) (npix ndet nsamp : Nat) (vals : List Int) (angles : Tensor Rat) : Op :=
  .comp 0 [polOp k ndet nsamp, rotOp k ndet nsamp angles, idxOp k npix ndet nsamp vals]

/-- **what `acquisition.reduce()` is, for all parameters**: the ravel (whose output structure is its input
structure) reduces to the identity and is dropped, `LinearPolarizerHWPRule` removes the half-wave plate; no other
rule fires.  In particular `QURotationHWPRule` does NOT fire: it matches `rotation @ hwp`, and the acquisition
contains `hwp @ rotation`. -/
theorem reduceTop_acqOp (k : StokesKind) (npix ndet nsamp : Nat) (vals : List Int) (angles : Tensor Rat) :
    reduceTop (acqOp k npix ndet nsamp vals angles) = .ok (acqRed k npix ndet nsamp vals angles) := by
  -- fuel: the acquisition is a composition of leaves, of depth 2, so `reduceTop` runs `reduce (2 * 2 + 8) = reduce 12`
  -- and reduces the operands with `reduce 11`.  `algebraicReduction_of_scan` hands the scan `fuel + 32`; the four
  -- scan steps below (fire, advance, advance, stop) each take one unit, whence `fuel + 31 … fuel + 28`.
  -- `fireFirst_rules`: its six arguments say that the pair is matched by none of the structural rules (move-axis,
  -- reshape, pack, block, index·transpose, transpose·index), which leaves the polarimetry rules.
  have hp : reduce 11 (polOp k ndet nsamp) = .ok (polOp k ndet nsamp) := rfl
  have hh : reduce 11 (hwpOp k ndet nsamp) = .ok (hwpOp k ndet nsamp) := rfl
  have hq : reduce 11 (rotOp k ndet nsamp angles) = .ok (rotOp k ndet nsamp angles) := rfl
  have h1 : fireFirst (reductionCfg (reduce 11)).rules (polOp k ndet nsamp) (hwpOp k ndet nsamp)
      = .ok (some [polOp k ndet nsamp]) := by
    rw [fireFirst_rules _ (.inl rfl) (.inl ⟨rfl, rfl⟩) (.inl rfl) (.inl rfl) (.inl rfl) (.inl rfl)]; rfl
  have h2 : fireFirst (reductionCfg (reduce 11)).rules (polOp k ndet nsamp) (rotOp k ndet nsamp angles) = .ok none := by
    rw [fireFirst_rules _ (.inl rfl) (.inl ⟨rfl, rfl⟩) (.inl rfl) (.inl rfl) (.inl rfl) (.inl rfl)]; rfl
  have ha : algebraicReduction (reduce 11) [polOp k ndet nsamp, hwpOp k ndet nsamp, rotOp k ndet nsamp angles,
      idxOp k npix ndet nsamp vals, mkIdentity (skyS k npix)]
      = .ok [polOp k ndet nsamp, rotOp k ndet nsamp angles, idxOp k npix ndet nsamp vals] :=
    algebraicReduction_of_scan _ (Nat.le_of_ble_eq_true rfl) rfl (List.cons_ne_nil _ _) fun fuel =>
      (scan_fire _ (fuel + 31) _ 0 (Nat.le_of_ble_eq_true rfl) h1 rfl).trans <|
      (scan_advance _ (fuel + 30) _ 0 (Nat.le_of_ble_eq_true rfl) h2).trans <|
      (scan_advance _ (fuel + 29) _ 1 (Nat.le_of_ble_eq_true rfl) (fire_rot_idx _ k npix ndet nsamp vals angles)).trans <|
      scan_stop _ (fuel + 28) _ 2 (Nat.lt_irrefl 3)
  rw [reduceTop, acqOp, show 2 * Op.depth _ + 8 = 11 + 1 from rfl, reduce_comp]
  simp only [List.mapM_cons, List.mapM_nil, reduce_ravelOp, reduce_idxOp, hp, hh, hq, bind, Except.bind, pure,
    Except.pure, ha]
  rfl

/-- the projection alone loses its ravel only -/
theorem reduceTop_projOp (k : StokesKind) (npix ndet nsamp : Nat) (vals : List Int) (angles : Tensor Rat) :
    reduceTop (projOp k npix ndet nsamp vals angles)
      = .ok (.comp 0 [rotOp k ndet nsamp angles, idxOp k npix ndet nsamp vals]) := by
  have hq : reduce 11 (rotOp k ndet nsamp angles) = .ok (rotOp k ndet nsamp angles) := rfl
  have ha : algebraicReduction (reduce 11) [rotOp k ndet nsamp angles, idxOp k npix ndet nsamp vals,
      mkIdentity (skyS k npix)] = .ok [rotOp k ndet nsamp angles, idxOp k npix ndet nsamp vals] :=
    algebraicReduction_of_scan _ (Nat.le_of_ble_eq_true rfl) rfl (List.cons_ne_nil _ _) fun fuel =>
      (scan_advance _ (fuel + 31) _ 0 (Nat.le_of_ble_eq_true rfl) (fire_rot_idx _ k npix ndet nsamp vals angles)).trans <|
      scan_stop _ (fuel + 30) _ 1 (Nat.lt_irrefl 2)
  rw [reduceTop, projOp, show 2 * Op.depth _ + 8 = 11 + 1 from rfl, reduce_comp]
  simp only [List.mapM_cons, List.mapM_nil, reduce_ravelOp, reduce_idxOp, hq, bind, Except.bind, pure, Except.pure,
    ha]
  rfl

/-- **the reduced acquisition computes the same time streams** -/
theorem acquisition_reduced (E : Env) (k : StokesKind) (hv : Valid npix ndet nsamp vals angles) (x : V)
    (hx : x.length = nc k * npix) :
    den E (acqRed k npix ndet nsamp vals angles) x = den E (acqOp k npix ndet nsamp vals angles) x :=
  acquisition_reduced_closed E k hv _ (reduceTop_acqOp k npix ndet nsamp vals angles) x hx

/-- a small concrete instance, by evaluation of the model: IQU sky of 4 pixels, 2 detectors, 3 samples -/
example : reduceTop (acqOp .IQU 4 2 3 [0, 1, 1, 3, 2, 0] ⟨[3], [0, 1 / 2, 1]⟩)
    = .ok (.comp 0 [polOp .IQU 2 3, rotOp .IQU 2 3 ⟨[3], [0, 1 / 2, 1]⟩, idxOp .IQU 4 2 3 [0, 1, 1, 3, 2, 0]]) := by
  rfl

example : Valid 4 2 3 [0, 1, 1, 3, 2, 0] ⟨[3], [0, 1 / 2, 1]⟩ :=
  ⟨by decide, by decide, by decide, rfl, by decide, rfl, rfl⟩

/-! ### `Pᵀ P` is the diagonal of hit counts -/

/-- number of (detector, sample) pairs that hit pixel `p` -/
def hits (ndet nsamp : Nat) (vals : List Int) (p : Nat) : Nat :=
  ((List.range (ndet * nsamp)).map (pix vals)).count p

theorem hits_eq (ndet nsamp : Nat) (vals : List Int) (p : Nat) :
    hits ndet nsamp vals p
      = ((List.range ndet).map fun d => (List.range nsamp).countP fun t => pix vals (d * nsamp + t) == p).sum := by
  unfold hits
  rw [List.count_eq_countP, List.countP_map, countP_range_mul]
  rfl

/-- the sky with every pixel multiplied by its hit count, component by component -/
noncomputable def hitSky (k : StokesKind) (npix ndet nsamp : Nat) (vals : List Int) (x : V) : V :=
  ((List.range (nc k)).map fun c => (List.range npix).map fun p =>
    (hits ndet nsamp vals p : ℝ) * x.getD (c * npix + p) 0).flatten

/-- `samplingᵀ ∘ sampling` multiplies every pixel by its hit count (`scatter_gather_mult`, leaf by leaf) -/
theorem denT_idx_sampled (E : Env) (k : StokesKind) (hv : Valid npix ndet nsamp vals angles) (x : V) :
    denT E (idxOp k npix ndet nsamp vals) (sampled k npix (ndet * nsamp) vals x)
      = hitSky k npix ndet nsamp vals x := by
  have hper : perLeaf (scatterLeaf [.iarr [ndet, nsamp] vals]) (List.replicate (nc k) ⟨[ndet, nsamp], .f64⟩)
      (List.replicate (nc k) ⟨[npix], .f64⟩) (sampled k npix (ndet * nsamp) vals x)
        = hitSky k npix ndet nsamp vals x := by
    rw [perLeaf_replicate]
    refine congrArg List.flatten (List.map_congr_left fun c hc => ?_)
    simp only [scatterLeaf, indexPositions_pix hv, LeafS.size, prodNat_singleton, prodNat_two]
    -- chunk `c` of the sampled sky is the gather of chunk `c` of the sky
    rw [sampled, headChunk_drop_rows _ (List.mem_range.mp hc), ← gather_chunk hv,
      Index.scatter_gather_mult (α := ℝ) npix _ _
        (List.forall_mem_map.mpr fun j hj => hv.pix_lt j (List.mem_range.mp hj)) (headChunk_length _ _),
      fit_eq_self (by simp)]
    refine List.map_congr_left fun p hp => ?_
    rw [headChunk_getD _ _ _ (List.mem_range.mp hp), drop_getD]
    rfl
  show fit (skyS k npix).size (perLeaf _ _ _ (fit (todS k ndet nsamp).size _)) = _
  rw [todS_size, fit_eq_self (sampled_length ..), skyS_size]
  exact (congrArg (fit (nc k * npix)) hper).trans (fit_eq_self (rows_length ..))

theorem denT_ravel (E : Env) (k : StokesKind) (y : V) (hy : y.length = nc k * npix) :
    denT E (ravelOp k npix) y = y := by
  show fit (skyS k npix).size (fit (skyS k npix).size y) = y
  rw [skyS_size, fit_eq_self hy, fit_eq_self hy]

/-- **C16, `Pᵀ P`, closed.**  `projection.T.mv(projection.mv(x))` multiplies, in every Stokes component, the value
of the sky at pixel `p` by the number of (detector, sample) pairs that hit `p`: the rotations cancel sample by
sample (`Rᵀ R = I`, since `cos² + sin² = 1`) and what remains is `samplingᵀ ∘ sampling`. -/
theorem ptp_closed (E : Env) (k : StokesKind) (hv : Valid npix ndet nsamp vals angles) (x : V)
    (hx : x.length = nc k * npix) :
    denT E (projOp k npix ndet nsamp vals angles) (den E (projOp k npix ndet nsamp vals angles) x)
      = hitSky k npix ndet nsamp vals x := by
  have hmem : mem (rotP k ndet nsamp angles).inS (sampled k npix (ndet * nsamp) vals x) :=
    (sampled_length ..).trans (todS_size k ndet nsamp).symm
  show denT E (ravelOp k npix) (denT E (idxOp k npix ndet nsamp vals) (denT E (rotOp k ndet nsamp angles) _)) = _
  rw [den_proj_rot E k hv x hx, rotOp, (qurot_inv E 1 _ (rotP_ok k hv) _ hmem).2.2.1, denT_idx_sampled E k hv x]
  exact denT_ravel E k _ (rows_length ..)

theorem ptp_closed_getD (E : Env) (k : StokesKind) (hv : Valid npix ndet nsamp vals angles) (x : V)
    (hx : x.length = nc k * npix) (c p : Nat) (hc : c < nc k) (hp : p < npix) :
    (denT E (projOp k npix ndet nsamp vals angles) (den E (projOp k npix ndet nsamp vals angles) x)).getD
        (c * npix + p) 0 = (hits ndet nsamp vals p : ℝ) * x.getD (c * npix + p) 0 := by
  rw [ptp_closed E k hv x hx]
  exact rows_getD _ hc hp

/-- the same with the transpose written as the operator `projection.T` (`TransposeOperator(projection)`) and the
product as the composition `projection.T @ projection` -/
theorem ptp_closed_op (E : Env) (k : StokesKind) (hv : Valid npix ndet nsamp vals angles) (x : V)
    (hx : x.length = nc k * npix) (u u' : Nat) :
    den E (.comp u [.wrap u' .transpose (projOp k npix ndet nsamp vals angles),
        projOp k npix ndet nsamp vals angles]) x = hitSky k npix ndet nsamp vals x :=
  ptp_closed E k hv x hx

end leaves

end Acq
end ListSem
end Furax
