/-
The transpose is the exact adjoint, in the list denotation (property C03): `⟨den E o x, y⟩ = ⟨x, denT E o y⟩` for every
`Valid o` (`den_adjoint_on`, by induction over all constructors), and the form `op.T` the model computes
(`transposeOp`) denotes `denT` (`transposeOp_den_on`), hence `transpose_is_adjoint_closed_on`.

The only semantic hypothesis is on the leaves the denotation leaves to the environment (`isEnvLeaf`: dense einsum
blocks with one block array per leaf, observation matrices, opaque operators, Toeplitz operators with a rank-0 band
array): `EnvAdjOn`, `EnvSymOn`.  Every interpreted class is adjoint by a theorem about its kernel (`leaf_adjoint`);
`.broadcastDiagonal` is EXCLUDED (`adjLeafOK`: its `leafDenT` is a placeholder).  Lazy inverses need NO invertibility
hypothesis (`chooseInv_adjoint`: an inverse of `A` on `ℝⁿ` exists iff one of its adjoint does, and then they are
adjoint; otherwise both lazy inverses are the zero map).  `TFormOK` excludes the dense leaves without a shared block
array and asks every `DiagonalInverseOperator` to wrap a `DiagonalOperator` leaf; `DiagInvCounterexample` shows that
the latter is necessary.  The pairing `dot` of flat real vectors is in FuraxProofs/Sem/DotList.lean.
-/
import FuraxProofs.Sem.ListModel
import FuraxProofs.Sem.DotList
import FuraxProofs.Lemmas.TransposeAdjoint
import Mathlib.LinearAlgebra.Matrix.NonsingularInverse
namespace Furax
namespace ListSem
open Op

/-- scatter-add is the adjoint of gather -/
theorem gatherLeaf_adjoint (idx : List IdxEntry) (uniq : Prop) (li lo : LeafS) (h : indexLeafOK idx uniq li lo)
    (c d : V) (hc : c.length = li.size) (hd : d.length = lo.size) :
    dot (fit lo.size (gatherLeaf idx li lo c)) d = dot c (fit li.size (scatterLeaf idx lo li d)) := by
  obtain ⟨pos, hp, hlt, _, _⟩ := h
  have hlen : pos.length = lo.size := indexPositions_length hp
  unfold gatherLeaf scatterLeaf
  simp only [hp]
  rw [fit_eq_self (by rw [Index.gather_length, hlen]), fit_eq_self (Index.scatterAdd_length _ _ _),
    dot_eq_zip, Index.scatter_adjoint li.size pos d c hlt (by rw [hd, hlen]) hc, ← dot_eq_zip, dot_comm]

/-- the unit vector `e_k` of length `n` -/
def unitVec (n k : Nat) : V := (List.range n).map fun i => if i = k then 1 else 0

theorem unitVec_length (n k : Nat) : (unitVec n k).length = n := by
  rw [unitVec, List.length_map, List.length_range]

theorem unitVec_getD (n k i : Nat) (hi : i < n) : (unitVec n k).getD i 0 = if i = k then 1 else 0 := by
  unfold unitVec
  rw [List.getD_eq_getElem _ _ (by rw [List.length_map, List.length_range]; exact hi), List.getElem_map,
    List.getElem_range]

theorem gather_getD (pos : List Nat) (x : V) (k : Nat) (hk : k < pos.length) :
    (Index.gather pos x).getD k 0 = x.getD (pos[k]) 0 := by
  unfold Index.gather
  rw [List.getD_eq_getElem _ _ (by rw [List.length_map]; exact hk), List.getElem_map]
  rfl

/-- two gathers that undo each other are adjoint (a permutation matrix: the inverse is the transpose) -/
theorem gather_perm_adjoint (M N : Nat) (pos pos' : List Nat) (hl : pos.length = M) (hl' : pos'.length = N)
    (h1 : ∀ c : V, c.length = N → Index.gather pos' (Index.gather pos c) = c)
    (h2 : ∀ d : V, d.length = M → Index.gather pos (Index.gather pos' d) = d)
    (c y : V) (hc : c.length = N) (hy : y.length = M) :
    dot (Index.gather pos c) y = dot c (Index.gather pos' y) := by
  -- entry `j` of `h2` at the unit vector `eₖ`
  have h2e : ∀ k j (hj : j < pos.length),
      (Index.gather pos' (unitVec M k)).getD pos[j] 0 = (unitVec M k).getD j 0 := fun k j hj => by
    rw [← gather_getD pos _ j hj, h2 _ (unitVec_length M k)]
  have hval : ∀ k (hk : k < pos.length), (Index.gather pos' (unitVec M k)).getD pos[k] 0 = 1 := fun k hk => by
    rw [h2e k k hk, unitVec_getD M k k (hl ▸ hk), if_pos rfl]
  -- every selected position is in bounds: `gather pos' eₖ` is not zero there
  have hb : ∀ p ∈ pos, p < N := by
    intro p hp
    obtain ⟨k, hk, rfl⟩ := List.getElem_of_mem hp
    refine Nat.lt_of_not_le fun hge => zero_ne_one (α := ℝ) ?_
    rw [← hval k hk, List.getD_eq_default _ _ (by rw [Index.gather_length, hl']; exact hge)]
  -- no position is selected twice: `gather pos' eᵢ` is `1` at `pos[i]` and `0` at `pos[j]`
  have hnd : pos.Nodup := by
    rw [List.Nodup, List.pairwise_iff_getElem]
    intro i j hi hj hij heq
    have e := h2e i j hj
    rw [← heq, hval i hi, unitVec_getD M i j (hl ▸ hj), if_neg (Nat.ne_of_gt hij)] at e
    exact one_ne_zero e
  -- so the scatter-add along `pos` is the gather along `pos'`
  have hs : Index.scatterAdd N pos y = Index.gather pos' y := by
    rw [← h1 _ (Index.scatterAdd_length N pos y), Index.gather_scatter_id N pos y hnd hb (hy.trans hl.symm)]
  rw [dot_eq_zip, Index.scatter_adjoint N pos y c hb (hy.trans hl.symm) hc, ← dot_eq_zip, hs, dot_comm]

/-- the positions `transpose(a, order)` reads -/
def transposePos (shape order : List Nat) : List Nat :=
  (List.range (prodNat (Axes.transposeShape shape order))).map fun k =>
    ravelIdx shape ((List.range shape.length).map fun ax =>
      (unravel (Axes.transposeShape shape order) k).getD (order.idxOf ax) 0)

theorem transposeData_eq_gather (shape order : List Nat) (c : V) :
    Axes.transposeData shape order c = Index.gather (transposePos shape order) c := by
  rw [Axes.transposeData, Index.gather, transposePos, List.map_map]
  rfl

/-- the move-axis kernel of a leaf is a gather, of as many entries as the output leaf has -/
theorem moveLeaf_eq_gather (src dst : List Int) (li lo : LeafS) (order : List Nat)
    (ho : Axes.moveaxisOrder li.shape.length src dst = .ok order)
    (hs : lo.shape = Axes.transposeShape li.shape order) :
    (transposePos li.shape order).length = lo.size ∧
      ∀ c : V, moveLeaf src dst li lo c = Index.gather (transposePos li.shape order) c := by
  refine ⟨by rw [transposePos, List.length_map, List.length_range, LeafS.size, hs], fun c => ?_⟩
  rw [← transposeData_eq_gather, moveLeaf, Axes.moveaxis, ho]
  rfl

theorem moveLeaf_adjoint (src dst : List Int) (li lo : LeafS) (order : List Nat)
    (ho : Axes.moveaxisOrder li.shape.length src dst = .ok order)
    (hs : lo.shape = Axes.transposeShape li.shape order) (c d : V) (hc : c.length = li.size)
    (hd : d.length = lo.size) :
    dot (fit lo.size (moveLeaf src dst li lo c)) d = dot c (fit li.size (moveLeaf dst src lo li d)) := by
  obtain ⟨order', ho'⟩ := Axes.moveaxisOrder_swap_ok _ src dst order ho
  have hlen : lo.shape.length = li.shape.length := by
    rw [hs, Axes.ma_transposeShape_length]
    simpa using (Axes.moveaxisOrder_perm _ _ _ _ ho).length_eq
  have hback : Axes.transposeShape lo.shape order' = li.shape := by
    rw [hs]; exact Axes.moveaxis_inverse_shape _ src dst order order' li.shape ho ho' rfl
  obtain ⟨hl1, e1⟩ := moveLeaf_eq_gather src dst li lo order ho hs
  obtain ⟨hl2, e2⟩ := moveLeaf_eq_gather dst src lo li order' (hlen ▸ ho') hback.symm
  rw [e1, e2, fit_eq_self (by rw [Index.gather_length, hl1]), fit_eq_self (by rw [Index.gather_length, hl2])]
  refine gather_perm_adjoint lo.size li.size _ _ hl1 hl2 ?_ ?_ c d hc hd
  · intro c' hc'
    rw [← transposeData_eq_gather, ← transposeData_eq_gather]
    have := Axes.moveaxis_inverse_data _ src dst order order' li.shape c' ho ho' rfl hc'
    rwa [← hs] at this
  · intro d' hd'
    rw [← transposeData_eq_gather, ← transposeData_eq_gather]
    have := Axes.moveaxis_inverse_data _ dst src order' order lo.shape d' (hlen ▸ ho') (hlen ▸ ho) rfl hd'
    rwa [hback] at this

theorem broadcastTo_self (sh : List Nat) (c : V) (hc : c.length = prodNat sh) :
    ((⟨sh, c⟩ : Tensor ℝ).broadcastTo sh).data = c := by
  unfold Tensor.broadcastTo
  apply List.ext_getElem
  · simp [hc]
  · intro i h1 h2
    simp only [List.getElem_map, List.getElem_range]
    have hi : i < prodNat sh := by simpa using h1
    obtain ⟨v1, v2⟩ := Axes.ma_unravel_valid sh i hi
    rw [Diagonal.bcastIndex_self sh _ v1, v2]
    exact List.getD_eq_getElem _ _ h2

/-- the strict diagonal product of a leaf is self-adjoint, accepted or not (`diagLeaf_form`): the zero map, or the
entry-wise product of the leaf itself with fixed weights -/
theorem diagLeaf_adjoint (vals : Tensor Rat) (axes : List Int) (l : LeafS) (c d : V) (hc : c.length = l.size)
    (hd : d.length = l.size) :
    dot (fit l.size (diagLeaf true vals axes l l c)) d = dot c (fit l.size (diagLeaf true vals axes l l d)) := by
  rw [dot_fit_left _ _ _ hd.le, dot_fit_right _ _ _ hc.le]
  rcases diagLeaf_form true vals axes l l with h | ⟨D, S, r, hS, h⟩ <;> rw [h]
  · rw [dot_nil_left, dot_nil_right]
  · obtain ⟨rfl, rfl⟩ := hS rfl
    beta_reduce
    rw [List.replicate_zero, List.append_nil, broadcastTo_self _ c hc, broadcastTo_self _ d hd, dot_zipWith_mul]

/-- a flat vector of `ncomp k` components of `n` samples, from its samples -/
def ofSamples (k : StokesKind) (n : Nat) (G : Nat → SV ℝ) : V :=
  ((List.range (ncomp k)).map fun c => (List.range n).map fun t => (SV.present k (G t)).getD c 0).flatten

theorem stokesMap_eq_ofSamples (k : StokesKind) (n : Nat) (g : Nat → SV ℝ → SV ℝ) (x : V) :
    stokesMap k n g x = ofSamples k n (fun t => g t (svAt k n x t)) := rfl

theorem polTMap_eq_ofSamples (k : StokesKind) (n : Nat) (y : V) :
    polTMap k n y = ofSamples k n
      (fun t => (⟨(1 / 2 : ℝ) * y.getD t 0, (1 / 2 : ℝ) * y.getD t 0, 0, 0⟩ : SV ℝ)) := rfl

theorem self_eq_ofSamples (k : StokesKind) (n : Nat) (x : V) (hx : x.length = ncomp k * n) :
    x = ofSamples k n (svAt k n x) :=
  (stokesMap_id k n (fun _ v => v) x hx (fun _ _ => rfl)).symm

/-- the pairing of two samples: over the components that exist -/
def pdot (k : StokesKind) (v w : SV ℝ) : ℝ := dot (SV.present k v) (SV.present k w)

/-- the component-wise product of two Stokes samples -/
def svMul (a b : SV ℝ) : SV ℝ := ⟨a.i * b.i, a.q * b.q, a.u * b.u, a.v * b.v⟩

theorem present_svMul (k : StokesKind) (a b : SV ℝ) :
    SV.present k (svMul a b) = List.zipWith (· * ·) (SV.present k a) (SV.present k b) := by
  cases k <;> rfl

theorem zipWith_ofSamples (k : StokesKind) (n : Nat) (D G : Nat → SV ℝ) :
    List.zipWith (· * ·) (ofSamples k n D) (ofSamples k n G) = ofSamples k n fun t => svMul (D t) (G t) := by
  unfold ofSamples
  rw [zipWith_flatten_map _ _ _ _ fun c _ => by rw [List.length_map, List.length_map]]
  congr 1
  refine List.map_congr_left fun c _ => ?_
  rw [List.zipWith_map, List.zipWith_self]
  refine List.map_congr_left fun t _ => ?_
  rw [present_svMul, getD_zipWith_mul]

theorem sum_flatten_comps (n : Nat) (a : Nat → Nat → ℝ) (cs : List Nat) :
    ((cs.map fun c => (List.range n).map (a c)).flatten).sum =
      ((List.range n).map fun t => (cs.map fun c => a c t).sum).sum := by
  induction cs with
  | nil => simp
  | cons c cs ih =>
    rw [List.map_cons, List.flatten_cons, List.sum_append, ih, ← List.sum_map_add]
    rfl

theorem dot_ofSamples (k : StokesKind) (n : Nat) (G H : Nat → SV ℝ) :
    dot (ofSamples k n G) (ofSamples k n H) = ((List.range n).map fun t => pdot k (G t) (H t)).sum := by
  rw [dot, zipWith_ofSamples, ofSamples, sum_flatten_comps]
  congr 1
  refine List.map_congr_left fun t _ => ?_
  rw [← present_length k (svMul (G t) (H t)), range_map_getD, present_svMul, pdot, dot]

theorem dot_ofSamples_left (k : StokesKind) (n : Nat) (G : Nat → SV ℝ) (y : V) (hy : y.length = ncomp k * n) :
    dot (ofSamples k n G) y = ((List.range n).map fun t => pdot k (G t) (svAt k n y t)).sum := by
  conv_lhs => rw [self_eq_ofSamples k n y hy]
  exact dot_ofSamples k n G _

/-- sample-wise maps that are adjoint sample by sample (over the components that exist) are adjoint -/
theorem stokesMap_adjoint (k : StokesKind) (n : Nat) (g gT : Nat → SV ℝ → SV ℝ)
    (hg : ∀ t v w, pdot k (g t v) w = pdot k v (gT t w)) (x y : V) (hx : x.length = ncomp k * n)
    (hy : y.length = ncomp k * n) :
    dot (stokesMap k n g x) y = dot x (stokesMap k n gT y) := by
  rw [stokesMap_eq_ofSamples, stokesMap_eq_ofSamples, dot_ofSamples_left k n _ y hy, dot_comm,
    dot_ofSamples_left k n _ x hx]
  exact congrArg List.sum (List.map_congr_left fun t _ => (hg t _ _).trans (dot_comm _ _))

theorem pdot_rot (k : StokesKind) (c s : ℝ) (v w : SV ℝ) :
    pdot k (SV.rot c s v) w = pdot k v (SV.rotT c s w) := by
  cases k <;> simp only [pdot, SV.present, SV.rot, SV.rotT, dot_cons, dot_nil_left] <;> ring

theorem pdot_hwp (k : StokesKind) (v w : SV ℝ) : pdot k (SV.hwp v) w = pdot k v (SV.hwp w) := by
  cases k <;> simp only [pdot, SV.present, SV.hwp, dot_cons, dot_nil_left] <;> ring

theorem pdot_pol (k : StokesKind) (v : SV ℝ) (a : ℝ) :
    SV.pol (1 / 2 : ℝ) k v * a = pdot k v (⟨(1 / 2 : ℝ) * a, (1 / 2 : ℝ) * a, 0, 0⟩ : SV ℝ) := by
  cases k <;> simp only [pdot, SV.present, SV.pol, dot_cons, dot_nil_left] <;> ring

theorem polMap_adjoint (k : StokesKind) (n : Nat) (x y : V) (hx : x.length = ncomp k * n) (hy : y.length = n) :
    dot (polMap k n x) y = dot x (polTMap k n y) := by
  rw [polTMap_eq_ofSamples, dot_comm x, dot_ofSamples_left k n _ x hx]
  conv_lhs => rw [← range_map_getD y, hy]
  rw [polMap, dot, List.zipWith_map, List.zipWith_self]
  exact congrArg List.sum (List.map_congr_left fun t _ => (pdot_pol k _ _).trans (dot_comm _ _))

theorem sum_range_blocks (B l : Nat) (g : Nat → ℝ) :
    ∑ q ∈ Finset.range (B * l), g q = ∑ b ∈ Finset.range B, ∑ i ∈ Finset.range l, g (b * l + i) := by
  induction B with
  | zero => simp
  | succ B ih => rw [Nat.succ_mul, Finset.sum_range_add, ih, Finset.sum_range_succ]

/-- the length of the last axis divides the size of a leaf (rank 0: the convention `l = 1`) -/
theorem leaf_size_blocks (li : LeafS) : li.size = li.size / li.shape.getLastD 1 * li.shape.getLastD 1 := by
  by_cases h : li.shape = []
  · simp [LeafS.size, h, prodNat]
  · have := leaf_size_eq li h
    rw [Nat.div_mul_cancel ⟨prodNat li.shape.dropLast, by rw [this, Nat.mul_comm]⟩]

/-- the Toeplitz kernel of a leaf is self-adjoint: row by row this is the symmetry of the band matrix `band|i−j|` of
that row (`toep_symm`; each batch row `b` has its own band row `toepBandAt K vals li.shape b`, whatever the
broadcasting of the batch axes); for every number of bands (also `K > l`), every band array (batched or not), every
leaf -/
theorem toepLeaf_adjoint (K : Nat) (vals : Tensor Rat) (li lo lo' : LeafS) (c d : V) (hc : c.length = li.size) :
    dot (toepLeaf K vals li lo c) d = dot c (toepLeaf K vals li lo' d) := by
  rw [dot_eq_sum_range li.size _ _ (toepLeaf_length _ _ _ _ _), dot_eq_sum_range li.size _ _ hc]
  generalize hl : li.shape.getLastD 1 = l
  have hB := leaf_size_blocks li
  rw [hl] at hB
  generalize li.size / l = B at hB
  rw [hB, sum_range_blocks, sum_range_blocks]
  refine Finset.sum_congr rfl fun b hb => ?_
  -- entry `i` of row `b` of the output is the banded product of row `b` of the input
  have row : ∀ (lo : LeafS) (x : V), ∀ i ∈ Finset.range l, (toepLeaf K vals li lo x).getD (b * l + i) 0 =
      Toeplitz.toep (K - 1) l (toepBandAt K vals li.shape b) (rowOf l x b) i := by
    intro lo x i hi
    subst hl
    exact toepLeaf_getD_row K vals li lo x b i (Finset.mem_range.mp hi)
      (hB ▸ flat_lt (Finset.mem_range.mp hb) (Finset.mem_range.mp hi))
  rw [Finset.sum_congr rfl fun i hi => congrArg (· * d.getD (b * l + i) 0) (row lo c i hi),
    Finset.sum_congr rfl fun i hi => congrArg (c.getD (b * l + i) 0 * ·) (row lo' d i hi)]
  exact toep_symm (K - 1) l _ (rowOf l c b) (rowOf l d b)

/-- the leaf classes no rule looks into -/
def isEnvCls : LeafCls → Bool
  | .dense | .toeplitz | .obsMatrix | .opaque => true
  | _ => false

/-- **the leaves interpreted by the environment**: dense einsum blocks with one block array PER leaf (those with ONE
shared block array, `denseShared`, are interpreted by the einsum kernel `denseLeaf`), observation matrices, opaque
operators, and
the degenerate Toeplitz leaves whose band array has rank 0 (`toepK p.vals = none`; Python refuses them); a Toeplitz
leaf whose band array has a last axis (un-batched `[K]` or batched `bs ++ [K]`) is interpreted by the kernel
`toepLeaf` -/
def isEnvLeaf : LeafCls → Params → Bool
  | .dense, p => !denseShared p
  | .obsMatrix, _ | .opaque, _ => true
  | .toeplitz, p => (toepK p.vals).isNone
  | _, _ => false

theorem isEnvCls_of_isEnvLeaf {c : LeafCls} {p : Params} (h : isEnvLeaf c p = true) : isEnvCls c = true := by
  cases c with
  | dense | toeplitz | obsMatrix | «opaque» => rfl
  | _ => cases h

/-- a leaf interpreted by the environment has the maps `E.f u` / `E.fT u` for kernels -/
theorem leafKer_env {c : LeafCls} {p : Params} (h : isEnvLeaf c p = true) (E : Env) (u : Nat) :
    leafKer E u c p = E.f u ∧ leafKerT E u c p = E.fT u := by
  cases c with
  | dense =>
    have hs : ¬ denseShared p = true := Bool.eq_false_iff.mp ((Bool.not_eq_true' _).mp h)
    exact ⟨funext fun _ => if_neg hs, funext fun _ => if_neg hs⟩
  | toeplitz =>
    have hK : toepK p.vals = none := Option.isNone_iff_eq_none.mp h
    exact ⟨funext fun _ => by simp only [leafKer, hK], funext fun _ => by simp only [leafKerT, hK]⟩
  | obsMatrix | «opaque» => exact ⟨rfl, rfl⟩
  | _ => cases h

/-- `leafDenT` is the adjoint of `leafDen` on the vectors of the sizes the leaf declares -/
def LeafAdjAt (E : Env) (u : Nat) (c : LeafCls) (p : Params) : Prop :=
  ∀ x y : V, x.length = p.inS.size → y.length = (Op.outS (.leaf u c p)).size →
    dot (leafDen E u c p x) y = dot x (leafDenT E u c p y)

/-- on vectors of the declared sizes the two length normalisations drop out of the pairing, and the kernels are left -/
theorem LeafAdjAt.of_ker {E : Env} {u : Nat} {c : LeafCls} {p : Params}
    (h : ∀ x y : V, x.length = p.inS.size → y.length = outSize (.leaf u c p) →
      dot (leafKer E u c p x) y = dot x (leafKerT E u c p y)) : LeafAdjAt E u c p := by
  intro x y hx hy
  rw [leafDen_of_len hx, leafDenT_of_len hy, dot_fit_left (outSize _) _ _ hy.le, dot_fit_right _ _ _ hx.le]
  exact h x y hx hy

theorem LeafAdjAt.of_env {E : Env} {u : Nat} {c : LeafCls} {p : Params} (hc : isEnvLeaf c p = true)
    (h : ∀ x y : V, x.length = p.inS.size → y.length = (Op.outS (.leaf u c p)).size →
      dot (E.f u x) y = dot x (E.fT u y)) : LeafAdjAt E u c p :=
  .of_ker (by rw [(leafKer_env hc E u).1, (leafKer_env hc E u).2]; exact h)

/-- a Toeplitz leaf (`@symmetric`: its `transpose` is `lambda self: self`) is interpreted by a self-adjoint map:
`leafDenT` and `leafDen` agree on the vectors of the size the leaf declares.  A THEOREM for every band array with a
last axis, batched or not (`toeplitz_leaf_sym`); for the degenerate rank-0 band it says that `E.fT u` and `E.f u`
agree there -/
def LeafSymAt (E : Env) (u : Nat) (p : Params) : Prop :=
  ∀ y : V, y.length = p.inS.size → leafDen E u .toeplitz p y = leafDenT E u .toeplitz p y

theorem LeafSymAt.of_env {E : Env} {u : Nat} {p : Params} (hK : toepK p.vals = none)
    (h : ∀ y : V, y.length = p.inS.size → E.f u y = E.fT u y) : LeafSymAt E u p := by
  obtain ⟨e, eT⟩ := leafKer_env (c := .toeplitz) (Option.isNone_iff_eq_none.mpr hK) E u
  intro y _
  rw [leafDen_eq, leafDenT_eq, e, eT]
  exact congrArg (fit p.inS.size) (h _ (fit_length _ _))

/-- a leaf of a class whose `transpose` is `lambda self: self` has the map of its transpose — as functions, on all
inputs, for the classes the denotation interprets by a kernel; for a Toeplitz leaf this asks for a band array with a
last axis (a rank-0 band is left to the environment) -/
theorem leafDenT_eq_leafDen_of_symmetric (E : Env) (u : Nat) {c : LeafCls} (p : Params)
    (hc : isSymmetricLeaf c = true) (hK : c = .toeplitz → toepK p.vals ≠ none) :
    leafDenT E u c p = leafDen E u c p := by
  cases c with
  | identity | homothety | diagonal | hwp => rfl
  | toeplitz =>
    obtain ⟨K, hK⟩ := Option.ne_none_iff_exists'.mp (hK rfl)
    funext y
    simp only [leafDen, leafDenT, squareLeaf, if_true, hK]
  | _ => cases hc

theorem toeplitz_leaf_sym (E : Env) (u : Nat) (p : Params) (h : toepK p.vals ≠ none) : LeafSymAt E u p :=
  fun y _ => (congrFun (leafDenT_eq_leafDen_of_symmetric E u p rfl fun _ => h) y).symm

mutual
/-- every leaf of the expression (also below wrappers) satisfies `P` -/
def AllLeaves (P : Nat → LeafCls → Params → Prop) : Op → Prop
  | .leaf u c p => P u c p
  | .wrap _ _ o => AllLeaves P o
  | .comp _ ops => AllLeavesList P ops
  | .cont _ _ _ ops => AllLeavesList P ops
def AllLeavesList (P : Nat → LeafCls → Params → Prop) : List Op → Prop
  | [] => True
  | o :: os => AllLeaves P o ∧ AllLeavesList P os
end

theorem AllLeavesList_iff (P : Nat → LeafCls → Params → Prop) (ops : List Op) :
    AllLeavesList P ops ↔ ∀ o ∈ ops, AllLeaves P o := by
  induction ops with
  | nil => exact ⟨fun _ _ h => (nomatch h), fun _ => trivial⟩
  | cons o os ih => rw [List.forall_mem_cons, ← ih]; rfl

theorem allLeaves_mono (P Q : Nat → LeafCls → Params → Prop) (h : ∀ u c p, P u c p → Q u c p) :
    ∀ o, AllLeaves P o → AllLeaves Q o := by
  intro o
  induction o using Op.induction_mem with
  | leaf u c p => exact h u c p
  | wrap u k o ih => exact ih
  | comp u ops ih | cont u k td ops ih =>
    exact fun hP => (AllLeavesList_iff Q ops).mpr fun o ho => ih o ho ((AllLeavesList_iff P ops).mp hP o ho)

theorem allLeavesList_mono (P Q : Nat → LeafCls → Params → Prop) (h : ∀ u c p, P u c p → Q u c p) :
    ∀ ops, AllLeavesList P ops → AllLeavesList Q ops :=
  fun ops hP => (AllLeavesList_iff Q ops).mpr fun o ho => allLeaves_mono P Q h o ((AllLeavesList_iff P ops).mp hP o ho)

theorem allLeaves_of_forall (P : Nat → LeafCls → Params → Prop) (h : ∀ u c p, P u c p) : ∀ o, AllLeaves P o := by
  intro o
  induction o using Op.induction_mem with
  | leaf u c p => exact h u c p
  | wrap u k o ih => exact ih
  | comp u ops ih | cont u k td ops ih => exact (AllLeavesList_iff P ops).mpr ih

theorem allLeavesList_of_forall (P : Nat → LeafCls → Params → Prop) (h : ∀ u c p, P u c p) :
    ∀ ops, AllLeavesList P ops :=
  fun ops => (AllLeavesList_iff P ops).mpr fun o _ => allLeaves_of_forall P h o

/-- **assumption A2 (DESIGN.md §4), for the expression `o`**: for every leaf of `o` interpreted by the environment
(`isEnvLeaf`: dense einsum block, observation matrix, opaque operator, Toeplitz with a rank-0 band array) with
identity `u`, `E.fT u` is the adjoint of `E.f u` on the vectors of the sizes the leaf declares.  (Toeplitz leaves with
a band array `bs ++ [K]`, batched or not, need no assumption: `toeplitz_leaf_adjoint`; the einsum kernel has its own
adjointness theorem, C14.) -/
def EnvAdjOn (E : Env) (o : Op) : Prop := AllLeaves (fun u c p => isEnvLeaf c p = true → LeafAdjAt E u c p) o

/-- **the (degenerate) Toeplitz leaves of `o` with a rank-0 band array are interpreted by self-adjoint maps**
(`transpose` returns `self` for them); nothing is asked of the Toeplitz leaves whose band array has a last axis,
batched or not (`toeplitz_leaf_sym`) -/
def EnvSymOn (E : Env) (o : Op) : Prop :=
  AllLeaves (fun u c p => c = .toeplitz → toepK p.vals = none → LeafSymAt E u p) o

/-- the same for ALL identities, classes and parameters at once — a sufficient condition that does not mention
the expression.  NOTE: the environment is keyed by the Python identity only, so `sym` asks EVERY `E.f u` to be
self-adjoint; when an expression mixes rank-0-band Toeplitz leaves with non-symmetric dense/opaque leaves use the
per-expression hypotheses `EnvAdjOn` / `EnvSymOn` (the `_on` theorems below), which only constrain the leaves
that occur. -/
structure EnvAdj (E : Env) : Prop where
  adj : ∀ u c p, isEnvLeaf c p = true → LeafAdjAt E u c p
  sym : ∀ u p, toepK p.vals = none → LeafSymAt E u p

theorem EnvAdj.adjOn {E : Env} (h : EnvAdj E) (o : Op) : EnvAdjOn E o :=
  allLeaves_of_forall _ h.adj o

theorem EnvAdj.symOn {E : Env} (h : EnvAdj E) (o : Op) : EnvSymOn E o :=
  allLeaves_of_forall _ (fun u _ p _ hK => h.sym u p hK) o

/-- an expression without Toeplitz leaves with a rank-0 band array and without dense / observation-matrix / opaque
leaves needs no assumption on the environment -/
theorem envAdjOn_of_noEnvLeaf (E : Env) (o : Op) (h : AllLeaves (fun _ c p => isEnvLeaf c p = false) o) :
    EnvAdjOn E o :=
  allLeaves_mono _ _ (fun _ _ _ hp ht => absurd ht (by rw [hp]; simp)) o h

/-- the Toeplitz leaves whose band array has a last axis (un-batched `[K]` or batched `bs ++ [K]`) need no
assumption -/
theorem envSymOn_of_unbatched (E : Env) (o : Op)
    (h : AllLeaves (fun _ c p => c = .toeplitz → toepK p.vals ≠ none) o) : EnvSymOn E o :=
  allLeaves_mono _ _ (fun _ _ _ hp hc hn => absurd hn (hp hc)) o h

theorem envSymOn_of_noEnvLeaf (E : Env) (o : Op) (h : AllLeaves (fun _ c p => isEnvLeaf c p = false) o) :
    EnvSymOn E o :=
  allLeaves_mono _ _ (fun _ c p hp hc hn => by subst hc; simp [isEnvLeaf, hn] at hp) o h

/-- validity of the parameters of the leaves for the adjointness theorems: `listLeafOK`, and the class is not
`BroadcastDiagonalOperator` (EXCLUDED: its `leafDenT` is a placeholder in the denotation) -/
def adjLeafOK (c : LeafCls) (p : Params) : Prop := listLeafOK c p ∧ c ≠ .broadcastDiagonal

/-- a diagonal leaf is self-adjoint, whatever its values and axes -/
theorem diagonal_leaf_adjoint (E : Env) (u : Nat) (p : Params) : LeafAdjAt E u .diagonal p := by
  refine .of_ker (perLeaf_adjoint (· = ·) _ _ _ _ (List.forall₂_same.mpr fun _ _ => rfl) ?_)
  rintro li lo rfl c d hc hd
  exact diagLeaf_adjoint p.vals _ li c d hc hd

theorem identity_leaf_adjoint (E : Env) (u : Nat) (p : Params) : LeafAdjAt E u .identity p :=
  .of_ker fun _ _ _ _ => rfl

theorem homothety_leaf_adjoint (E : Env) (u : Nat) (p : Params) : LeafAdjAt E u .homothety p :=
  .of_ker fun x y _ _ => (dot_vsmul_left _ x y).trans (dot_vsmul_right _ x y).symm

/-- rotation and half-wave plate leaves: sample-wise maps, adjoint sample by sample -/
theorem stokes_leaf_adjoint (E : Env) (u : Nat) {c : LeafCls} (hc : c = .qurot ∨ c = .hwp) (p : Params)
    (hok : stokesOK c p) : LeafAdjAt E u c p := by
  obtain ⟨k, hk⟩ := hok.1
  have hsz : p.inS.size = ncomp k * (p.inS.leaves.headD default).size := stokesOK_size hok hk
  rcases hc with rfl | rfl <;> refine .of_ker fun x y hx hy => ?_ <;> simp only [leafKer, leafKerT, hk]
  · exact stokesMap_adjoint k _ (rotG p.vals _) (rotTG p.vals _) (fun t v w => pdot_rot k _ _ v w) x y
      (hx.trans hsz) (hy.trans hsz)
  · exact stokesMap_adjoint k _ _ _ (fun _ v w => pdot_hwp k v w) x y (hx.trans hsz) (hy.trans hsz)

theorem polarizer_leaf_adjoint (E : Env) (u : Nat) (p : Params) (hok : stokesOK .polarizer p) :
    LeafAdjAt E u .polarizer p := by
  obtain ⟨k, hk⟩ := hok.1
  have hsz : p.inS.size = ncomp k * (p.inS.leaves.headD default).size := stokesOK_size hok hk
  obtain ⟨l, hl, hls⟩ := hok.2.2.2 rfl
  have hout : p.outS.size = prodNat (leafShape p) := by
    simp [Struct.size, hl, LeafS.size, hls]
  refine .of_ker fun x y hx hy => ?_
  simp only [leafKer, leafKerT, hk]
  exact polMap_adjoint k _ x y (hx.trans hsz) (hy.trans hout)

/-- a Toeplitz leaf (band array `bs ++ [K]`, batched or not) is self-adjoint on the vectors of the size of the
structure: the symmetry of the band matrix of every batch row (`toepLeaf_adjoint`), for every band array, every number
of bands and every input structure; no validity hypothesis is needed (not even that the batch axes broadcast) -/
theorem toeplitz_leaf_adjoint (E : Env) (u : Nat) (p : Params) (h : toepK p.vals ≠ none) :
    LeafAdjAt E u .toeplitz p := by
  obtain ⟨K, hK⟩ := Option.ne_none_iff_exists'.mp h
  refine .of_ker fun x y hx hy => ?_
  simp only [leafKer, leafKerT, hK]
  refine perLeaf_adjoint (· = ·) _ _ _ _ (List.forall₂_same.mpr fun _ _ => rfl) ?_ x y hx hy
  rintro li lo rfl c d hc _
  rw [fit_eq_self (toepLeaf_length _ _ _ _ _), fit_eq_self (toepLeaf_length _ _ _ _ _)]
  exact toepLeaf_adjoint K p.vals li li li c d hc

/-- a dense einsum leaf with a shared block array is adjoint to the leaf with the rewritten subscripts (C14:
`denseLeaf_adjoint`, FuraxProofs/Sem/DenseLeaf.lean) -/
theorem dense_leaf_adjoint (E : Env) (u : Nat) (p : Params) (hs : denseShared p = true) (h : denseOK p) :
    LeafAdjAt E u .dense p :=
  .of_ker fun x y hx hy => by
    simp only [leafKer, leafKerT, hs, if_true]
    exact denseLeaf_adjoint p h x y hx hy

/-- leaf adjointness: for every leaf class but `BroadcastDiagonalOperator`, under the validity of the parameters
(`listLeafOK`), `leafDenT` is the adjoint of `leafDen`; a THEOREM for the interpreted classes (Toeplitz leaves,
batched band or not, and dense einsum leaves with a shared block array included), the assumption `hE` (see
`EnvAdjOn`) for the leaves interpreted by the environment (`isEnvLeaf`) -/
theorem leaf_adjoint (E : Env) (u : Nat) (c : LeafCls) (p : Params)
    (hE : isEnvLeaf c p = true → LeafAdjAt E u c p) (hok : adjLeafOK c p) : LeafAdjAt E u c p := by
  obtain ⟨hok, hnb⟩ := hok
  cases c with
  | broadcastDiagonal => exact absurd rfl hnb
  | dense =>
    by_cases hs : denseShared p = true
    · exact dense_leaf_adjoint E u p hs (hok hs)
    · exact hE (by simp [isEnvLeaf, hs])
  | toeplitz =>
    by_cases hK : toepK p.vals = none
    · exact hE (by simp [isEnvLeaf, hK])
    · exact toeplitz_leaf_adjoint E u p hK
  | obsMatrix | «opaque» => exact hE rfl
  | identity => exact identity_leaf_adjoint E u p
  | homothety => exact homothety_leaf_adjoint E u p
  | diagonal => exact diagonal_leaf_adjoint E u p
  | index => exact .of_ker (perLeaf_adjoint _ _ _ _ _ hok.1.2 (gatherLeaf_adjoint p.idx _))
  | pack => exact .of_ker (perLeaf_adjoint _ _ _ _ _ hok.2 (gatherLeaf_adjoint p.idx _))
  | moveAxis =>
    refine .of_ker (perLeaf_adjoint _ _ _ _ _ hok.2 ?_)
    rintro li lo ⟨o, ho, hs, _⟩ c d hc hd
    exact moveLeaf_adjoint _ _ li lo o ho hs c d hc hd
  | ravel | reshape => exact .of_ker fun _ _ _ _ => rfl
  | qurot => exact stokes_leaf_adjoint E u (.inl rfl) p hok
  | hwp => exact stokes_leaf_adjoint E u (.inr rfl) p hok
  | polarizer => exact polarizer_leaf_adjoint E u p hok

theorem IsInvOn.congr {n : Nat} {f f' g : V → V} (h : IsInvOn n f g) (hf : ∀ x, x.length = n → f' x = f x) :
    IsInvOn n f' g :=
  ⟨fun x hx => ⟨(h.1 x hx).1, by rw [hf _ (h.1 x hx).1, (h.1 x hx).2.1], by rw [hf x hx, (h.1 x hx).2.2]⟩, h.2⟩

section Inverse
open Matrix

/- `B` is the adjoint of `A` on `ℝⁿ` -/
variable {n : Nat} {A B : V → V} (hA : ∀ x, x.length = n → (A x).length = n)
  (hB : ∀ y, y.length = n → (B y).length = n)
  (hadj : ∀ x y, x.length = n → y.length = n → dot (A x) y = dot x (B y))
include hA hB hadj

/-- two maps that are adjoint on `ℝⁿ` are a matrix and its transpose there (adjointness forces linearity): the
columns of the matrix are the images `A eⱼ` of the unit vectors -/
theorem adjoint_pair_is_mulVecL :
    ∃ M : Matrix (Fin n) (Fin n) ℝ,
      (∀ x, x.length = n → A x = mulVecL M x) ∧ ∀ y, y.length = n → B y = mulVecL Mᵀ y := by
  let M : Matrix (Fin n) (Fin n) ℝ := fun i j => toFn n (A (List.ofFn (Pi.single j 1))) i
  -- `(B y)ⱼ = ⟨eⱼ, B y⟩ = ⟨A eⱼ, y⟩`
  have hBM : ∀ y, y.length = n → B y = mulVecL Mᵀ y := by
    intro y hy
    rw [← ofFn_toFn n (B y) (hB y hy), mulVecL]
    congr 1
    funext j
    have h := hadj (List.ofFn (Pi.single j 1)) y (by simp) hy
    rw [dot_eq_dotProduct n _ y (hA _ (by simp)), dot_ofFn_left, single_one_dotProduct] at h
    exact h.symm
  refine ⟨M, fun x hx => ?_, hBM⟩
  -- `(A x)ᵢ = ⟨A x, eᵢ⟩ = ⟨x, B eᵢ⟩ = ⟨x, Mᵀ eᵢ⟩ = ⟨M x, eᵢ⟩`
  rw [← ofFn_toFn n (A x) (hA x hx), ← ofFn_toFn n (mulVecL M x) (mulVecL_length M x)]
  congr 1
  funext i
  have h := hadj x (List.ofFn (Pi.single i 1)) hx (by simp)
  rw [hBM _ (by simp), ← mulVecL_adjoint, dot_comm, dot_ofFn_left, single_one_dotProduct, dot_comm (mulVecL M x),
    dot_ofFn_left, single_one_dotProduct] at h
  exact h

/-- if `A` has an inverse on `ℝⁿ`, so has its adjoint `B`, and the two inverses are adjoint: in coordinates `A` is a
matrix `M` and `B` is `Mᵀ` (`adjoint_pair_is_mulVecL`), an inverse function of `A` gives a right inverse matrix `N` of
`M`, which is two-sided (`mul_eq_one_comm`), and `Nᵀ` inverts `Mᵀ`. -/
theorem inv_adjoint_exists {g : V → V} (hg : IsInvOn n A g) :
    ∃ g', IsInvOn n B g' ∧ ∀ x y, x.length = n → y.length = n → dot (g x) y = dot x (g' y) := by
  obtain ⟨M, hAM, hBM⟩ := adjoint_pair_is_mulVecL hA hB hadj
  obtain ⟨N, hMN⟩ := Matrix.mulVec_surjective_iff_exists_right_inverse.mp fun v =>
    ⟨toFn n (g (List.ofFn v)), by
      rw [← toFn_mulVecL, ← hAM _ (hg.1 _ (by simp)).1, (hg.1 _ (by simp)).2.1, toFn_ofFn]⟩
  have hNM : N * M = 1 := mul_eq_one_comm.mp hMN
  have hgN : ∀ x, x.length = n → g x = mulVecL N x :=
    isInvOn_unique n A g _ hg ((isInvOn_mulVecL hMN hNM).congr hAM)
  refine ⟨mulVecL Nᵀ, (isInvOn_mulVecL ?_ ?_).congr hBM, fun x y hx _ => by rw [hgN x hx, mulVecL_adjoint]⟩
  · rw [← Matrix.transpose_mul, hNM, Matrix.transpose_one]
  · rw [← Matrix.transpose_mul, hMN, Matrix.transpose_one]

/-- **the adjoint of the lazy inverse is the lazy inverse of the adjoint**: `chooseInv n A` and `chooseInv n B`
are adjoint on `ℝⁿ` as soon as `A` and `B` are (an inverse of `A` exists iff one of `B` does; when none exists both
are the zero map) -/
theorem chooseInv_adjoint :
    ∀ x y, x.length = n → y.length = n → dot (chooseInv n A x) y = dot x (chooseInv n B y) := by
  intro x y hx hy
  by_cases h : ∃ g, IsInvOn n A g
  · obtain ⟨g, hg⟩ := h
    obtain ⟨g', hg', hgg⟩ := inv_adjoint_exists hA hB hadj hg
    rw [chooseInv_eq n A g hg x hx, chooseInv_eq n B g' hg' y hy]
    exact hgg x y hx hy
  · have h' : ¬ ∃ g', IsInvOn n B g' := by
      rintro ⟨g', hg'⟩
      obtain ⟨g, hg, _⟩ := inv_adjoint_exists hB hA
        (fun x y hx hy => by rw [dot_comm, ← hadj y x hy hx, dot_comm]) hg'
      exact h ⟨g, hg⟩
    rw [chooseInv_of_not_exists h, chooseInv_of_not_exists h', dot_replicate_zero_left, dot_replicate_zero_right]

end Inverse

/-- `denT E o` is the adjoint of `den E o` on the vectors of the declared sizes -/
def AdjAt (E : Env) (o : Op) : Prop :=
  ∀ x y : V, x.length = inSize o → y.length = outSize o → dot (den E o x) y = dot x (denT E o y)

theorem app_adjoint (E : Env) : ∀ ops : List Op, ops ≠ [] → (∀ o ∈ ops, StructOK o) → (∀ o ∈ ops, AdjAt E o) →
    Chain ops → ∀ x y : V, x.length = (inSLast ops).size → y.length = (outSHead ops).size →
      dot (app E ops x) y = dot x (appT E ops y)
  | [], hne, _, _, _ => absurd rfl hne
  | [o], _, _, ha, _ => fun x y hx hy => ha o List.mem_cons_self x y hx hy
  | o :: b :: rest, _, hok, ha, hc => fun x y hx hy => by
      obtain ⟨hoko, hok⟩ := List.forall_mem_cons.mp hok
      obtain ⟨hao, ha⟩ := List.forall_mem_cons.mp ha
      have hio : outSize b = inSize o := congrArg Struct.size hc.1.symm
      rw [app, appT, hao _ y ((app_length E (b :: rest) (List.cons_ne_nil _ _)
        (fun o' ho' => den_length E o' (hok o' ho')) x).trans hio) hy]
      exact app_adjoint E (b :: rest) (List.cons_ne_nil _ _) hok ha hc.2 x _ hx ((denT_length E o hoko y).trans hio.symm)

theorem sumApp_adjoint (E : Env) (ops : List Op) (ha : ∀ o ∈ ops, AdjAt E o) (x y : V)
    (hx : ∀ o ∈ ops, x.length = inSize o) (hy : ∀ o ∈ ops, y.length = outSize o) :
    dot (sumApp E ops x) y = dot x (sumAppT E ops y) := by
  induction ops with
  | nil => rw [sumApp, sumAppT, dot_nil_left, dot_nil_right]
  | cons o os ih =>
    obtain ⟨hao, ha⟩ := List.forall_mem_cons.mp ha
    obtain ⟨hxo, hx⟩ := List.forall_mem_cons.mp hx
    obtain ⟨hyo, hy⟩ := List.forall_mem_cons.mp hy
    rw [sumApp, sumAppT, dot_vadd_left, dot_vadd_right, ih ha hx hy, hao x y hxo hyo]

/-- the pairing with a vector whose first block is `fit n a` splits at `n` -/
theorem dot_block_right (n : Nat) (x a r : V) (h : n ≤ x.length) :
    dot x (fit n a ++ r) = dot (headChunk n x) a + dot (x.drop n) r := by
  rw [dot_take_drop n x _ _ (fit_length _ _) h, headChunk_of_le h, dot_fit_right _ _ _ (List.length_take_le _ _)]

theorem dot_block_left (n : Nat) (a r y : V) (h : n ≤ y.length) :
    dot (fit n a ++ r) y = dot a (headChunk n y) + dot r (y.drop n) := by
  rw [dot_comm, dot_block_right n y a r h, dot_comm a, dot_comm r]

theorem rowApp_adjoint (E : Env) (m : Nat) (ops : List Op) (ha : ∀ o ∈ ops, AdjAt E o)
    (hm : ∀ o ∈ ops, outSize o = m) (x y : V) (hx : x.length = (ops.map inSize).sum) (hy : y.length = m) :
    dot (rowApp E ops x) y = dot x (colAppT E ops y) := by
  induction ops generalizing x with
  | nil => rw [rowApp, colAppT, dot_nil_left, dot_nil_right]
  | cons o os ih =>
    obtain ⟨hao, ha⟩ := List.forall_mem_cons.mp ha
    obtain ⟨hmo, hm⟩ := List.forall_mem_cons.mp hm
    rw [List.map_cons, List.sum_cons] at hx
    rw [rowApp, colAppT, dot_vadd_left, dot_block_right _ x _ _ (hx ▸ Nat.le_add_right _ _),
      ih ha hm (x.drop (inSize o)) (by rw [List.length_drop, hx, Nat.add_sub_cancel_left]),
      hao _ y (headChunk_length _ _) (hy.trans hmo.symm)]

theorem colApp_adjoint (E : Env) (n : Nat) (ops : List Op) (ha : ∀ o ∈ ops, AdjAt E o)
    (hn : ∀ o ∈ ops, inSize o = n) (x y : V) (hx : x.length = n) (hy : y.length = (ops.map outSize).sum) :
    dot (colApp E ops x) y = dot x (rowAppT E ops y) := by
  induction ops generalizing y with
  | nil => rw [colApp, rowAppT, dot_nil_left, dot_nil_right]
  | cons o os ih =>
    obtain ⟨hao, ha⟩ := List.forall_mem_cons.mp ha
    obtain ⟨hno, hn⟩ := List.forall_mem_cons.mp hn
    rw [List.map_cons, List.sum_cons] at hy
    rw [colApp, rowAppT, dot_vadd_right, dot_block_left _ _ _ y (hy ▸ Nat.le_add_right _ _),
      ih ha hn (y.drop (outSize o)) (by rw [List.length_drop, hy, Nat.add_sub_cancel_left]),
      hao x _ (hx.trans hno.symm) (headChunk_length _ _)]

theorem diagApp_adjoint (E : Env) (ops : List Op) (ha : ∀ o ∈ ops, AdjAt E o) (x y : V)
    (hx : x.length = (ops.map inSize).sum) (hy : y.length = (ops.map outSize).sum) :
    dot (diagApp E ops x) y = dot x (diagAppT E ops y) := by
  induction ops generalizing x y with
  | nil => rw [diagApp, diagAppT, dot_nil_left, dot_nil_right]
  | cons o os ih =>
    obtain ⟨hao, ha⟩ := List.forall_mem_cons.mp ha
    rw [List.map_cons, List.sum_cons] at hx hy
    rw [diagApp, diagAppT, dot_block_left _ _ _ y (hy ▸ Nat.le_add_right _ _),
      dot_block_right _ x _ _ (hx ▸ Nat.le_add_right _ _),
      ih ha (x.drop (inSize o)) (y.drop (outSize o)) (by rw [List.length_drop, hx, Nat.add_sub_cancel_left])
        (by rw [List.length_drop, hy, Nat.add_sub_cancel_left]),
      hao _ _ (headChunk_length _ _) (headChunk_length _ _)]

/-- **`Valid`**: every leaf passed its constructor's validation and is not a `BroadcastDiagonalOperator`
(`adjLeafOK`), every wrapper, composition and container is structurally well formed (`StructOK`: non-empty chains
with matching adjacent structures, containers whose operands fit together, lazy inverses around square operands).
NO invertibility hypothesis: a lazy inverse of a singular operand denotes the zero map, whose adjoint is the zero
map. -/
def Valid (o : Op) : Prop := WTExpr (fun _ => True) adjLeafOK o

theorem Valid.structOK {o : Op} (h : Valid o) : StructOK o := WTExpr.structOK h

theorem adjAt_wrap (E : Env) (u : Nat) (k : WrapCls) (o : Op) (hv : Valid o) (hw : WrapOK (fun _ => True) k o)
    (ih : AdjAt E o) : AdjAt E (.wrap u k o) := by
  intro x y hx hy
  rw [inSize_wrap] at hx
  rw [outSize_wrap] at hy
  rcases den_wrap_cases E k o with ⟨_, hd, h⟩ | ⟨hk, h⟩ | ⟨hd, u', p, rfl, h⟩ <;> rw [(h u).1, (h u).2]
  · -- a transposing wrapper: the hypothesis on the operand with the roles of `x` and `y` exchanged
    rw [if_neg hd] at hx
    rw [dot_comm, ← ih y x hy hx, dot_comm]
  · have hio : outSize o = inSize o := congrArg Struct.size (hw.1 (hk.elim .inl fun hd => .inr (.inr hd))).1.symm
    rw [hio, ite_self] at hx
    exact chooseInv_adjoint (fun x _ => (den_length E o hv.structOK x).trans hio)
      (fun y _ => denT_length E o hv.structOK y) (fun x y hx hy => ih x y hx (hy.trans hio.symm)) x y hx hy
  · rw [if_pos hd] at hx
    exact diagonal_leaf_adjoint E u' _ x y hx hy

theorem adjAt_cont (E : Env) (u : Nat) (k : ContCls) (td : TreeDef) (ops : List Op) (hc : ContOK k td ops)
    (ih : ∀ o ∈ ops, AdjAt E o) : AdjAt E (.cont u k td ops) := by
  obtain ⟨_, hc⟩ := hc
  intro x y hx hy
  cases k with
  | add =>
    rw [den_cont_add, denT_cont_add]
    exact sumApp_adjoint E ops ih x y (fun o ho => hx.trans (congrArg Struct.size (hc o ho).1.symm))
      (fun o ho => hy.trans (congrArg Struct.size (hc o ho).2.symm))
  | blockRow =>
    rw [den_cont_blockRow, denT_cont_blockRow]
    exact rowApp_adjoint E _ ops ih (fun o ho => congrArg Struct.size (hc o ho)) x y
      (by rw [hx, inSize, Op.inS, nest_size, inSList_sizes]) hy
  | blockDiag =>
    rw [den_cont_blockDiag, denT_cont_blockDiag]
    exact diagApp_adjoint E ops ih x y (by rw [hx, inSize, Op.inS, nest_size, inSList_sizes])
      (by rw [hy, outSize, Op.outS, nest_size, outSList_sizes])
  | blockCol =>
    rw [den_cont_blockCol, denT_cont_blockCol]
    exact colApp_adjoint E _ ops ih (fun o ho => congrArg Struct.size (hc o ho)) x y hx
      (by rw [hy, outSize, Op.outS, nest_size, outSList_sizes])

/-- **`denT E o` is the exact adjoint of `den E o`**, for every valid expression (all constructors: leaves, the
transpose wrappers, lazy inverses, compositions and sums of any length, block rows / diagonals / columns), in the
pairing of flat real vectors; the only assumption is on the uninterpreted leaves that occur in `o` (`EnvAdjOn`) -/
theorem den_adjoint_on (E : Env) : ∀ o, EnvAdjOn E o → Valid o → ∀ x y : V, x.length = inSize o →
    y.length = outSize o → dot (den E o x) y = dot x (denT E o y) := by
  intro o
  induction o using Op.induction_mem with
  | leaf u c p => exact fun hE h => leaf_adjoint E u c p hE h
  | wrap u k o ih => exact fun hE h => adjAt_wrap E u k o h.1 h.2 (ih hE h.1)
  | comp u ops ih =>
    intro hE h x y hx hy
    have hv := (WTList_iff _ _ ops).mp h.2.1
    rw [den_comp, denT_comp]
    exact app_adjoint E ops h.1 (fun o ho => (hv o ho).structOK)
      (fun o ho => ih o ho ((AllLeavesList_iff _ ops).mp hE o ho) (hv o ho)) h.2.2 x y hx hy
  | cont u k td ops ih =>
    intro hE h
    have hv := (WTList_iff _ _ ops).mp h.2.1
    exact adjAt_cont E u k td ops h.2.2 fun o ho => ih o ho ((AllLeavesList_iff _ ops).mp hE o ho) (hv o ho)

theorem adjAtList (E : Env) : ∀ ops, AllLeavesList (fun u c p => isEnvLeaf c p = true → LeafAdjAt E u c p) ops →
    WTList (fun _ => True) adjLeafOK ops → ∀ o ∈ ops, AdjAt E o :=
  fun ops hE h o ho => den_adjoint_on E o ((AllLeavesList_iff _ ops).mp hE o ho) ((WTList_iff _ _ ops).mp h o ho)

theorem den_adjoint (E : Env) (hE : EnvAdj E) : ∀ o, Valid o → ∀ x y : V, x.length = inSize o →
    y.length = outSize o → dot (den E o x) y = dot x (denT E o y) :=
  fun o h => den_adjoint_on E o (hE.adjOn o) h

mutual
/-- what `transposeOp_den` needs beyond structural well-formedness, at the positions `transposeOp` visits (it
goes through compositions and containers, it does not look inside wrappers):
* every dense leaf has ONE block array shared by its leaves (`denseShared`: interpreted by the einsum kernel) —
  `transposeOp` makes a NEW leaf (uid 0, transposed subscripts) that the environment cannot know, so the dense
  leaves with one block array per leaf are EXCLUDED;
* every `DiagonalInverseOperator` wraps a `DiagonalOperator` leaf (what its constructor is given by `op.I`): its
  `transpose` returns `self`, which is the adjoint only for a self-adjoint operand. -/
def TFormOK : Op → Prop
  | .leaf _ c p => c = .dense → denseShared p = true
  | .wrap _ k o => k = .diagInv → ∃ u p, o = .leaf u .diagonal p
  | .comp _ ops => TFormOKList ops
  | .cont _ _ _ ops => TFormOKList ops
def TFormOKList : List Op → Prop
  | [] => True
  | o :: os => TFormOK o ∧ TFormOKList os
end

/-- `t` denotes `denT E o` on the vectors of the output size of `o` -/
def TAt (E : Env) (o t : Op) : Prop := ∀ y : V, y.length = outSize o → den E t y = denT E o y

theorem app_append (E : Env) (a b : List Op) (y : V) : app E (a ++ b) y = app E a (app E b y) := by
  induction a with
  | nil => rfl
  | cons o os ih => rw [List.cons_append, app, app, ih]

theorem transposeWrapper_ne (c : LeafCls) : transposeWrapper c ≠ .inverse ∧ transposeWrapper c ≠ .diagInv := by
  unfold transposeWrapper
  split <;> exact ⟨nofun, nofun⟩

theorem tAt_leaf (E : Env) (u : Nat) (c : LeafCls) (p : Params)
    (hS : c = .toeplitz → toepK p.vals = none → LeafSymAt E u p) (t : Op)
    (hc : c = .dense → denseShared p = true) (h : transposeOp (.leaf u c p) = .ok t) : TAt E (.leaf u c p) t := by
  intro y hy
  rcases leafCls_cases c with hs | hw | rfl | rfl
  · -- `transpose` is `lambda self: self`
    rw [transpose_symmetric_leaf u c p hs] at h
    cases h
    by_cases hK : c = .toeplitz ∧ toepK p.vals = none
    · obtain ⟨rfl, hK⟩ := hK
      exact hS rfl hK y hy
    · rw [den, denT, leafDenT_eq_leafDen_of_symmetric E u p hs fun hc hn => hK ⟨hc, hn⟩]
  · -- a transpose wrapper around the leaf
    rw [transpose_wrapped_leaf u c p hw] at h
    cases h
    rw [den_wrap_T (transposeWrapper_ne c).1 (transposeWrapper_ne c).2]
  · -- a new move-axis leaf with source and destination, input and output structure exchanged
    cases h
    rfl
  · -- a new dense leaf with the rewritten subscripts, interpreted by the kernel like the old one
    have hsh := hc rfl
    rw [transposeOp_dense] at h
    cases hd : dualParams p with
    | error e => rw [hd] at h; cases h
    | ok p' =>
      rw [hd] at h
      cases h
      have hp' : p' = { p with inS := p.outS, outS := p.inS, str := p'.str } := by
        unfold dualParams at hd
        split at hd
        · cases hd; rfl
        · cases hd
      have hsh' : denseShared p' = true := by rw [hp']; exact hsh
      rw [den, denT]
      simp only [leafDen, leafDenT, squareLeaf, Bool.false_eq_true, if_false, hsh, hsh', if_true]
      unfold denseLeafT
      rw [hd, hp']

theorem tAt_wrap (E : Env) (u : Nat) (k : WrapCls) (o t : Op) (hd : k = .diagInv → ∃ u p, o = .leaf u .diagonal p)
    (h : transposeOp (.wrap u k o) = .ok t) : TAt E (.wrap u k o) t := by
  intro y _
  cases k with
  | inverse =>
    -- the generic `TransposeOperator` around the lazy inverse
    cases h
    rw [den_wrap_T (by decide) (by decide)]
  | diagInv =>
    -- `self`, around a diagonal leaf: both maps are the diagonal of the pseudo-inverse values
    cases h
    obtain ⟨u', p, rfl⟩ := hd rfl
    rw [den_diagInv_leaf, denT_diagInv_leaf]
  | transpose | reshapeT | qurotT | obsT =>
    -- the operand
    cases h
    rw [denT_wrap_T (by decide) (by decide)]

/-- `o` and `t` are related by `transposeOp`: `t` denotes `denT E o` and has the structures of `o`, swapped -/
def TRel (E : Env) (o t : Op) : Prop := TAt E o t ∧ Op.inS t = Op.outS o ∧ Op.outS t = Op.inS o

theorem app_reverse_eq (E : Env) (ops ts : List Op) (hrel : List.Forall₂ (TRel E) ops ts)
    (hok : ∀ o ∈ ops, StructOK o) (hc : Chain ops) (y : V) (hy : y.length = (outSHead ops).size) :
    app E ts.reverse y = appT E ops y := by
  induction hrel generalizing y with
  | nil => rfl
  | @cons o t os ts' hr hrest ih =>
    rw [List.reverse_cons, app_append, appT]
    have e : app E [t] y = denT E o y := by
      rw [app, app]; exact hr.1 y hy
    rw [e]
    cases hrest with
    | nil => rfl
    | @cons o' t' os' ts'' hr' hrest' =>
      refine ih (fun o'' ho'' => hok o'' (by simp [ho''])) hc.2 _ ?_
      rw [denT_length E o (hok o (by simp)), inSize, hc.1]
      rfl

/-- the transposes of the operands of a container, assembled the dual way, denote the transpose of the container:
a sum of transposes, the block column of the transposes of a block row, the block row of the transposes of a block
column, the block diagonal of the transposes -/
theorem cont_tEq (E : Env) (ops ts : List Op) (hrel : List.Forall₂ (TRel E) ops ts) :
    (∀ y : V, (∀ o ∈ ops, y.length = outSize o) →
      sumApp E ts y = sumAppT E ops y ∧ colApp E ts y = colAppT E ops y) ∧
    ∀ y : V, rowApp E ts y = rowAppT E ops y ∧ diagApp E ts y = diagAppT E ops y := by
  induction hrel with
  | nil => exact ⟨fun _ _ => ⟨rfl, rfl⟩, fun _ => ⟨rfl, rfl⟩⟩
  | @cons o t os ts' hr _ ih =>
    have hio : inSize t = outSize o := congrArg Struct.size hr.2.1
    have hoi : outSize t = inSize o := congrArg Struct.size hr.2.2
    refine ⟨fun y hy => ?_, fun y => ?_⟩
    · obtain ⟨hyo, hy⟩ := List.forall_mem_cons.mp hy
      rw [sumApp, sumAppT, colApp, colAppT, hr.1 y hyo, (ih.1 y hy).1, (ih.1 y hy).2, hoi]
      exact ⟨rfl, rfl⟩
    · rw [rowApp, rowAppT, diagApp, diagAppT, hio, hoi, hr.1 _ (headChunk_length _ _), (ih.2 _).1, (ih.2 _).2]
      exact ⟨rfl, rfl⟩

theorem tRel_of_forall (E : Env) (ops : List Op)
    (ih : ∀ o ∈ ops, ∀ t, EnvSymOn E o → StructOK o → TFormOK o → o.WFT → transposeOp o = .ok t → TAt E o t) :
    ∀ ts, AllLeavesList (fun u c p => c = .toeplitz → toepK p.vals = none → LeafSymAt E u p) ops →
      (∀ o ∈ ops, StructOK o) → TFormOKList ops → WFTList ops → transposeList ops = .ok ts →
      List.Forall₂ (TRel E) ops ts := by
  induction ops with
  | nil => exact fun ts _ _ _ _ h => by rw [transposeList_nil_ok h]; exact .nil
  | cons o os ihl =>
    intro ts hS hok hf hw h
    obtain ⟨t, ts', ht, hts, rfl⟩ := transposeList_cons_ok h
    obtain ⟨iho, ih⟩ := List.forall_mem_cons.mp ih
    obtain ⟨hoko, hok⟩ := List.forall_mem_cons.mp hok
    exact .cons ⟨iho t hS.1 hoko hf.1 hw.1 ht, transpose_structure o t hw.1 ht⟩ (ihl ih ts' hS.2 hok hf.2 hw.2 hts)

/-- **the FORM `op.T` that the model computes (`transposeOp`, the one the correspondence check compares with the
real furax) denotes `denT`**: every case of `transposeOp` — symmetric leaves returning themselves, the new
move-axis leaf with swapped axes and structures, the dedicated and generic transpose wrappers, lazy inverses,
`DiagonalInverseOperator`, reversed compositions of the transposes, sums, block row ↔ column, block diagonal.
Only structural well-formedness is used (no leaf validity); the dense leaves with one block array per leaf are
EXCLUDED (`TFormOK`), those with a shared block array are covered (the new leaf is interpreted by the kernel). -/
theorem transposeOp_den_structOK (E : Env) (o t : Op) (hS : EnvSymOn E o) (hok : StructOK o) (hf : TFormOK o)
    (hw : o.WFT) (h : transposeOp o = .ok t) : ∀ y : V, y.length = outSize o → den E t y = denT E o y := by
  induction o using Op.induction_mem generalizing t with
  | leaf u c p => exact tAt_leaf E u c p hS t hf h
  | wrap u k o _ => exact tAt_wrap E u k o t hf h
  | comp u ops ih =>
    intro y hy
    obtain ⟨ts, hts, rfl⟩ := transposeOp_comp_ok h
    obtain ⟨_, hoks, hch⟩ := (StructOK_comp_iff u ops).mp hok
    rw [den_comp, denT_comp]
    exact app_reverse_eq E ops ts (tRel_of_forall E ops ih ts hS hoks hf hw hts) hoks hch y hy
  | cont u k td ops ih =>
    intro y hy
    obtain ⟨ts, hts, rfl⟩ := transposeOp_cont_ok h
    obtain ⟨_, hoks, _, hc⟩ := (StructOK_cont_iff u k td ops).mp hok
    obtain ⟨h1, h2⟩ := cont_tEq E ops ts (tRel_of_forall E ops ih ts hS hoks hf hw hts)
    cases k with
    | add =>
      rw [ContCls.dual, den_cont_add, denT_cont_add]
      exact (h1 y fun o ho => hy.trans (congrArg Struct.size (hc o ho).2.symm)).1
    | blockRow =>
      rw [ContCls.dual, den_cont_blockCol, denT_cont_blockRow]
      exact (h1 y fun o ho => hy.trans (congrArg Struct.size (hc o ho).symm)).2
    | blockDiag =>
      rw [ContCls.dual, den_cont_blockDiag, denT_cont_blockDiag]
      exact (h2 y).2
    | blockCol =>
      rw [ContCls.dual, den_cont_blockRow, denT_cont_blockCol]
      exact (h2 y).1

theorem tAtList (E : Env) : ∀ (ops ts : List Op),
    AllLeavesList (fun u c p => c = .toeplitz → toepK p.vals = none → LeafSymAt E u p) ops → (∀ o ∈ ops, StructOK o) →
    TFormOKList ops → WFTList ops → transposeList ops = .ok ts → List.Forall₂ (TRel E) ops ts :=
  fun ops => tRel_of_forall E ops fun o _ t => transposeOp_den_structOK E o t

/-- `Valid`, every dense leaf has a shared block array, and `DiagonalInverseOperator` around `DiagonalOperator` leaves
only -/
def ValidT (o : Op) : Prop := Valid o ∧ TFormOK o

theorem transposeOp_den_on (E : Env) : ∀ o t, EnvSymOn E o → ValidT o → o.WFT → transposeOp o = .ok t →
    ∀ y : V, y.length = outSize o → den E t y = denT E o y :=
  fun o t hS hv hw h => transposeOp_den_structOK E o t hS hv.1.structOK hv.2 hw h

theorem transposeOp_den (E : Env) (hE : EnvAdj E) : ∀ o t, ValidT o → o.WFT → transposeOp o = .ok t →
    ∀ y : V, y.length = outSize o → den E t y = denT E o y :=
  fun o t hv hw h => transposeOp_den_structOK E o t (hE.symOn o) hv.1.structOK hv.2 hw h

/-- **C03, closed: `op.T` is the exact adjoint of `op`** in the list denotation — for every valid expression
whose dense leaves have a shared block array, `⟨op x, y⟩ = ⟨x, op.T y⟩` for all `x` of the input size and `y` of the output size, where
`op.T` is the form `transposeOp` computes; the assumptions on the environment concern the uninterpreted leaves of
`o` only -/
theorem transpose_is_adjoint_closed_on (E : Env) (o t : Op) (hE : EnvAdjOn E o) (hS : EnvSymOn E o)
    (hv : ValidT o) (hw : o.WFT) (h : transposeOp o = .ok t) :
    ∀ x y : V, x.length = inSize o → y.length = outSize o → dot (den E o x) y = dot x (den E t y) := by
  intro x y hx hy
  rw [transposeOp_den_on E o t hS hv hw h y hy]
  exact den_adjoint_on E o hE hv.1 x y hx hy

/-- **C03, closed, NO assumption on the environment**: for every valid expression whose leaves are all interpreted
(no dense / observation-matrix / opaque leaf, no Toeplitz leaf with a rank-0 band array) `op.T` is the exact
adjoint of `op`, whatever the environment -/
theorem transpose_is_adjoint_closed_noEnv (E : Env) (o t : Op)
    (hI : AllLeaves (fun _ c p => isEnvLeaf c p = false) o) (hv : ValidT o) (hw : o.WFT)
    (h : transposeOp o = .ok t) : ∀ x y : V, x.length = inSize o → y.length = outSize o →
    dot (den E o x) y = dot x (den E t y) :=
  transpose_is_adjoint_closed_on E o t (envAdjOn_of_noEnvLeaf E o hI) (envSymOn_of_noEnvLeaf E o hI) hv hw h

theorem transpose_is_adjoint_closed (E : Env) (hE : EnvAdj E) (o t : Op) (hv : ValidT o) (hw : o.WFT)
    (h : transposeOp o = .ok t) : ∀ x y : V, x.length = inSize o → y.length = outSize o →
    dot (den E o x) y = dot x (den E t y) :=
  transpose_is_adjoint_closed_on E o t (hE.adjOn o) (hE.symOn o) hv hw h

/-! ### non-vacuity -/

/-- the identity environment satisfies `EnvAdj` (so does any environment of finitely supported matrices and their
transposes) -/
def idEnv : Env := ⟨fun _ x => x, fun _ x => x, fun _ _ _ => rfl, fun _ _ _ => rfl⟩

theorem idEnv_adj : EnvAdj idEnv :=
  ⟨fun _ _ _ hc => .of_env hc fun _ _ _ _ => rfl, fun _ _ hK => .of_env hK fun _ _ => rfl⟩

section MatEnv
open Matrix

/-- an environment of matrices: the operator with identity `u` multiplies by `W u` (an `m × n` operator is an
`N × N` matrix padded with zeros), its transpose by `(W u)ᵀ` -/
noncomputable def matEnv (N : Nat) (W : Nat → Matrix (Fin N) (Fin N) ℝ) : Env where
  f u x := List.ofFn (W u *ᵥ toFn N x)
  fT u y := List.ofFn ((W u)ᵀ *ᵥ toFn N y)
  hom u a x := by
    rw [toFn_smul, Matrix.mulVec_smul, List.map_ofFn]
    rfl
  homT u a x := by
    rw [toFn_smul, Matrix.mulVec_smul, List.map_ofFn]
    rfl

/-- **`EnvAdj.adj` holds for EVERY family of matrices** (symmetric or not) -/
theorem matEnv_adj (N : Nat) (W : Nat → Matrix (Fin N) (Fin N) ℝ) (u : Nat) (c : LeafCls) (p : Params)
    (hc : isEnvLeaf c p = true) : LeafAdjAt (matEnv N W) u c p :=
  .of_env hc fun x y _ _ => mulVecL_adjoint (W u) x y

/-- a Toeplitz leaf interpreted by a symmetric matrix (rank-0 band array), or by the kernel (band array `bs ++ [K]`),
satisfies `LeafSymAt` -/
theorem matEnv_sym (N : Nat) (W : Nat → Matrix (Fin N) (Fin N) ℝ) (u : Nat) (h : (W u)ᵀ = W u) (p : Params) :
    LeafSymAt (matEnv N W) u p := by
  by_cases hK : toepK p.vals = none
  · exact .of_env hK fun y _ => congrArg (fun M => mulVecL M y) h.symm
  · exact toeplitz_leaf_sym _ u p hK

/-- hence the per-expression hypotheses hold for every expression whose Toeplitz leaves carry symmetric
matrices, whatever the other (dense, observation, opaque) leaves carry -/
theorem matEnv_adjOn (N : Nat) (W : Nat → Matrix (Fin N) (Fin N) ℝ) (o : Op) : EnvAdjOn (matEnv N W) o :=
  allLeaves_of_forall _ (matEnv_adj N W) o

end MatEnv

namespace AdjExamples
open Examples

/-- a diagonal with a ZERO entry (singular) on vectors of length 3 -/
def diagP : Params := { inS := idxP.inS, outS := idxP.inS, vals := ⟨[3], [2, 0, 5]⟩, ints := [[0]] }

theorem diagP_ok : diagonalOK diagP := by
  intro l hl c
  simp only [diagP, idxP, List.mem_singleton] at hl
  subst hl
  obtain ⟨y, hy, hys, _⟩ := Diagonal.apply_vector true 3 ((castT diagP.vals).data) (⟨[3], c⟩ : Tensor ℝ) 0
    (by simp) rfl
  exact ⟨y, hy, hys⟩

/-- `BlockColumn([Index ∘ Diagonal, InverseOperator(Diagonal)])` from vectors of length 3 to vectors of length
2 + 3, the diagonal being singular: an index operator (with a repeated index) composed with a diagonal, and a lazy
inverse of a NON-invertible operand, inside a block column -/
def exOp : Op :=
  .cont 2 .blockCol td2 [.comp 1 [.leaf 4 .index idxP, .leaf 5 .diagonal diagP],
    .wrap 7 .inverse (.leaf 5 .diagonal diagP)]

/-- its transpose, as `transposeOp` computes it: a block row -/
def exOpT : Op :=
  .cont 0 .blockRow td2 [.comp 0 [.leaf 5 .diagonal diagP, .wrap 0 .transpose (.leaf 4 .index idxP)],
    .wrap 0 .transpose (.wrap 7 .inverse (.leaf 5 .diagonal diagP))]

theorem exOp_valid : Valid exOp := by
  have hi : adjLeafOK .index idxP := ⟨idxP_ok, by simp⟩
  have hd : adjLeafOK .diagonal diagP := ⟨diagP_ok, by simp⟩
  simp only [Valid, exOp, WTExpr, WTList, Chain, ContOK, WrapOK, WrapCls.isLazy]
  refine ⟨by simp, ⟨⟨by simp, ⟨hi, hd, trivial⟩, rfl, trivial⟩, ⟨hd, ?_⟩, trivial⟩, by decide, ?_⟩
  · exact ⟨fun _ => ⟨rfl, trivial⟩, by simp, by simp, by simp⟩
  · intro o ho
    simp only [List.mem_cons, List.not_mem_nil, or_false] at ho
    rcases ho with rfl | rfl <;> rfl

theorem exOp_validT : ValidT exOp :=
  ⟨exOp_valid, by simp [exOp, TFormOK, TFormOKList]⟩

theorem exOp_wft : exOp.WFT := by
  simp [exOp, Op.WFT, Op.WFTList, isSymmetricLeaf, diagP]

theorem exOp_T : transposeOp exOp = .ok exOpT := by
  simp [exOp, exOpT, transposeOp, transposeList, isSymmetricLeaf]

/-- the closed theorem on the example: `⟨exOp x, y⟩ = ⟨x, exOp.T y⟩` for `x ∈ ℝ³`, `y ∈ ℝ⁵`, whatever the
environment (the expression has no uninterpreted leaf, but `EnvAdj` is part of the statement) -/
example (E : Env) (hE : EnvAdj E) (x y : V) (hx : x.length = 3) (hy : y.length = 5) :
    dot (den E exOp x) y = dot x (den E exOpT y) :=
  transpose_is_adjoint_closed E hE exOp exOpT exOp_validT exOp_wft exOp_T x y hx hy

example (x y : V) (hx : x.length = 3) (hy : y.length = 5) :
    dot (den idEnv exOp x) y = dot x (den idEnv exOpT y) :=
  transpose_is_adjoint_closed idEnv idEnv_adj exOp exOpT exOp_validT exOp_wft exOp_T x y hx hy

end AdjExamples

/-! ### the list denotation inhabits the abstract framework `AdjCore` (FuraxProofs/Lemmas/TransposeAdjoint.lean) -/

/-- the list denotation with the Euclidean pairing is an `AdjCore` -/
noncomputable def listAdjCore (E : Env) : AdjCore V ℝ where
  den := den E
  mem := mem
  honest := fun o x ho hx => Laws.honest E o ho x hx
  add := vadd
  zero := []
  comp_law := fun u ops x => Laws.comp_law_sem E _ rfl u ops x
  add_law := Laws.add_law E
  dot := dot
  dot_add_left := dot_vadd_left
  dot_zero_left := dot_nil_left
  dot_add_right := dot_vadd_right
  dot_zero_right := dot_nil_right

/-- the closed theorem in the vocabulary of the framework: `op.T` is the adjoint of `op` (`AdjCore.IsAdjointOn`)
for every valid expression whose dense leaves have a shared block array — including block containers and lazy inverses, which the
abstract induction `AdjCore.transpose_adjoint` (fragment `Frag`) does not reach -/
theorem listAdjCore_isAdjointOn (E : Env) (hE : EnvAdj E) (o t : Op) (hv : ValidT o) (hw : o.WFT)
    (h : transposeOp o = .ok t) : (listAdjCore E).IsAdjointOn o t :=
  fun x y hx hy => transpose_is_adjoint_closed E hE o t hv hw h x y hx hy

/-! ### the hypothesis on `DiagonalInverseOperator` in `TFormOK` is necessary -/

namespace DiagInvCounterexample

def s3 : Struct := ⟨[.leaf], [⟨[3], .f64⟩]⟩
def cycP : Params := { inS := s3, outS := s3, idx := [.iarr [3] [1, 2, 0]], flag := true }
def cyc : Op := .leaf 1 .index cycP
def dcyc : Op := .wrap 2 .diagInv cyc

theorem hpos : Index.indexPositions [3] [.iarr [3] [1, 2, 0]] = .ok ([3], [1, 2, 0]) := by decide

theorem den_cyc (E : Env) (a b c : ℝ) : den E cyc [a, b, c] = [b, c, a] := by
  rw [cyc, den]
  simp [leafDen, cycP, s3, squareLeaf, perLeaf, chunks, headChunk, fit, List.takeD, gatherLeaf, hpos, Index.gather,
    Struct.size, LeafS.size, prodNat]

theorem denT_cyc (E : Env) (a b c : ℝ) : denT E cyc [a, b, c] = [c, a, b] := by
  rw [cyc, denT]
  simp [leafDenT, cycP, s3, squareLeaf, perLeaf, chunks, headChunk, fit, List.takeD, scatterLeaf, hpos,
    Index.scatterAdd, Struct.size, LeafS.size, prodNat, List.range_succ]

theorem len3 {x : V} (hx : x.length = 3) : ∃ a b c, x = [a, b, c] := by
  match x, hx with
  | [a, b, c], _ => exact ⟨a, b, c, rfl⟩

theorem inv1 (E : Env) : IsInvOn 3 (den E cyc) (denT E cyc) := by
  refine ⟨fun x hx => ?_, fun a x _ => (homLaw E (leafHom E)).2 cyc a x⟩
  obtain ⟨a, b, c, rfl⟩ := len3 hx
  rw [denT_cyc, den_cyc, den_cyc, denT_cyc]
  exact ⟨rfl, rfl, rfl⟩

theorem inv2 (E : Env) : IsInvOn 3 (denT E cyc) (den E cyc) := by
  refine ⟨fun x hx => ?_, fun a x _ => (homLaw E (leafHom E)).1 cyc a x⟩
  obtain ⟨a, b, c, rfl⟩ := len3 hx
  rw [den_cyc, denT_cyc, denT_cyc, den_cyc]
  exact ⟨rfl, rfl, rfl⟩

theorem cyc_not_diag (u' : ℕ) (p : Params) : cyc ≠ leaf u' .diagonal p := nofun

/-- **`DiagonalInverseOperator.transpose` returns `self`; this is NOT the adjoint when the operand is not
self-adjoint**: around the cyclic shift of ℝ³ (an index operator: structurally well formed, square,
invertible) the form `op.T = op` denotes the inverse shift while the adjoint `denT` is the shift itself.  Hence
the hypothesis of `TFormOK` on `DiagonalInverseOperator` (its constructor only receives `DiagonalOperator`s). -/
theorem diagInv_self_not_adjoint (E : Env) :
    StructOK dcyc ∧ dcyc.WFT ∧ transposeOp dcyc = .ok dcyc ∧
      den E dcyc [1, 0, 0] = [0, 1, 0] ∧ denT E dcyc [1, 0, 0] = [0, 0, 1] := by
  refine ⟨?_, trivial, rfl, ?_, ?_⟩
  · simp [dcyc, cyc, StructOK, WTExpr, WrapOK, WrapCls.isLazy, Op.inS, Op.outS, squareLeaf, cycP]
  · rw [dcyc, den_diagInv_of_not_leaf cyc_not_diag]
    have h3 : inSize cyc = 3 := by decide
    rw [h3, chooseInv_eq 3 _ _ (inv1 E) _ rfl, denT_cyc]
  · rw [dcyc, denT_diagInv_of_not_leaf cyc_not_diag]
    have h3 : inSize cyc = 3 := by decide
    rw [h3, chooseInv_eq 3 _ _ (inv2 E) _ rfl, den_cyc]

/-- so the statement of `transposeOp_den` fails for it -/
theorem diagInv_not_TAt (E : Env) : ¬ TAt E dcyc dcyc := by
  intro h
  obtain ⟨_, _, _, h1, h2⟩ := diagInv_self_not_adjoint E
  have := h [1, 0, 0] (by decide)
  rw [h1, h2] at this
  simp at this

end DiagInvCounterexample

#print axioms leaf_adjoint
#print axioms toepLeaf_adjoint
#print axioms toeplitz_leaf_adjoint
#print axioms toeplitz_leaf_sym
#print axioms transpose_is_adjoint_closed_noEnv
#print axioms DiagInvCounterexample.diagInv_not_TAt
#print axioms chooseInv_adjoint
#print axioms den_adjoint_on
#print axioms den_adjoint
#print axioms transposeOp_den
#print axioms transposeOp_den_structOK
#print axioms transpose_is_adjoint_closed_on
#print axioms transpose_is_adjoint_closed
#print axioms matEnv_adj
#print axioms listAdjCore_isAdjointOn
#print axioms idEnv_adj
#print axioms AdjExamples.exOp_valid

end ListSem
end Furax
