/-
Addressing in flat vectors: a flat vector is the leaves of a pytree concatenated, each leaf row-major, so that entry `q`
of leaf `k` sits at `offset sizes k + q`.  `leafChunk ls k x` is leaf `k` of `x` on the leaves `ls`; leaf `k` of the
result of a leaf-wise map between two DIFFERENT structures is the kernel applied to leaf `k` (`perLeaf_leafChunk`).
-/
import FuraxProofs.Sem.BlockMatrixList
namespace Furax
namespace ListSem

/-- leaf `k` of a flat vector on the leaves `ls` -/
def leafChunk (ls : List LeafS) (k : Nat) (x : V) : V :=
  headChunk (ls.getD k default).size (x.drop (offset (ls.map LeafS.size) k))

theorem leafChunk_length (ls : List LeafS) (k : Nat) (x : V) :
    (leafChunk ls k x).length = (ls.getD k default).size := headChunk_length _ _

theorem leafChunk_getD (ls : List LeafS) (k : Nat) (x : V) (q : Nat) (hq : q < (ls.getD k default).size) :
    (leafChunk ls k x).getD q 0 = x.getD (offset (ls.map LeafS.size) k + q) 0 := by
  unfold leafChunk
  rw [headChunk_getD _ _ _ hq, drop_getD]

theorem leafChunk_zero (l : LeafS) (ls : List LeafS) (x : V) : leafChunk (l :: ls) 0 x = headChunk l.size x := rfl

theorem leafChunk_succ (l : LeafS) (ls : List LeafS) (k : Nat) (x : V) :
    leafChunk (l :: ls) (k + 1) x = leafChunk ls k (x.drop l.size) := by
  simp only [leafChunk, List.getD_cons_succ, List.map_cons, offset_cons_succ, List.drop_drop]

/-- the input and output leaf lists may have different sizes, leaf by leaf -/
theorem perLeaf_leafChunk (f : LeafS → LeafS → V → V) (ins outs : List LeafS) (hl : ins.length = outs.length)
    (x : V) (k : Nat) (hk : k < outs.length) :
    leafChunk outs k (perLeaf f ins outs x)
      = fit (outs.getD k default).size (f (ins.getD k default) (outs.getD k default) (leafChunk ins k x)) := by
  induction ins generalizing outs x k with
  | nil => cases outs with
    | nil => simp at hk
    | cons _ _ => simp at hl
  | cons li ins ih =>
    cases outs with
    | nil => simp at hk
    | cons lo outs =>
      rw [perLeaf_cons]
      cases k with
      | zero =>
        rw [leafChunk_zero, leafChunk_zero, headChunk_append _ (fit_length _ _)]
        rfl
      | succ k =>
        rw [leafChunk_succ, leafChunk_succ, List.drop_left' (fit_length _ _),
          ih outs (by simpa using hl) _ k (by simpa using hk)]
        rfl

theorem flatten_map_getD_offset {β} [Inhabited β] (f : β → V) (sz : β → Nat) : ∀ (ls : List β),
    (∀ l ∈ ls, (f l).length = sz l) → ∀ (k q : Nat), k < ls.length → q < sz (ls.getD k default) →
    (ls.map f).flatten.getD (offset (ls.map sz) k + q) 0 = (f (ls.getD k default)).getD q 0
  | [], _, _, _, hk, _ => absurd hk (Nat.not_lt_zero _)
  | l :: ls, hlen, 0, q, _, hq => by
    rw [offset_zero, Nat.zero_add, List.map_cons, List.flatten_cons,
      List.getD_append _ _ _ _ (by rw [hlen l List.mem_cons_self]; exact hq)]
    rfl
  | l :: ls, hlen, k + 1, q, hk, hq => by
    have hl := hlen l List.mem_cons_self
    rw [List.map_cons, List.map_cons, offset_cons_succ, List.flatten_cons,
      List.getD_append_right _ _ _ _ (by omega), hl, Nat.add_assoc, Nat.add_sub_cancel_left]
    exact flatten_map_getD_offset f sz ls (fun l' hl' => hlen l' (List.mem_cons_of_mem _ hl')) k q
      (Nat.lt_of_succ_lt_succ hk) hq

theorem forall₂_getD {α β : Type} [Inhabited α] [Inhabited β] {R : α → β → Prop} {a : List α} {b : List β}
    (h : List.Forall₂ R a b) (k : Nat) (hk : k < a.length) : R (a.getD k default) (b.getD k default) := by
  have hk' : k < b.length := h.length_eq ▸ hk
  rw [List.getD_eq_getElem _ _ hk, List.getD_eq_getElem _ _ hk']
  exact h.get hk hk'

theorem offset_eq_of_forall₂ (R : LeafS → LeafS → Prop) (ins outs : List LeafS) (h : List.Forall₂ R ins outs)
    (hR : ∀ li lo, R li lo → lo.size = li.size) (k : Nat) :
    offset (outs.map LeafS.size) k = offset (ins.map LeafS.size) k := by
  induction h generalizing k with
  | nil => rfl
  | cons hr _ ih =>
    cases k with
    | zero => rfl
    | succ k => simp only [List.map_cons, offset_cons_succ, hR _ _ hr, ih k]

end ListSem
end Furax
