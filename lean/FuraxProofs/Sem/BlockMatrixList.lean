/-
Block operators act as the block matrices of their blocks, closed, in the list denotation (property C10).

The block-diagonal matrix, the horizontal concatenation and the vertical stacking are written out on lists of blocks
`(rows, columns, entries)` (`blockDiagEntry`, `blockRowEntry`, `blockColEntry`), entry by entry and by bands
(`InBand`, `offset` = partial sums of the sizes).  The dense matrix `asMatrix` of a block container is that matrix of
the dense matrices of its blocks (`asMatrix_blockDiag`, `asMatrix_blockRow`, `asMatrix_blockCol`): entry `(i, j)` is
coordinate `i` of the image of the `j`-th unit vector, computed by one induction per recursion `diagApp` / `rowApp` /
`colApp`.  The transposed recursions are these recursions on the blocks `TransposeOperator(o)` (`trOps`), which gives
the matrices of `denT`; the same statements through Mathlib's `Matrix.blockDiagonal'` and `finSigmaFinEquiv` follow.
-/
import FuraxProofs.Sem.LinearList
namespace Furax
namespace ListSem
open Op

theorem ext_getD {x y : V} (hl : x.length = y.length) (h : ∀ i, i < x.length → x.getD i 0 = y.getD i 0) :
    x = y := by
  apply List.ext_getElem hl
  intro i h1 h2
  have := h i h1
  rwa [List.getD_eq_getElem _ _ h1, List.getD_eq_getElem _ _ h2] at this

theorem unitVec_getD' (n k i : Nat) : (unitVec n k).getD i 0 = if i < n ∧ i = k then 1 else 0 := by
  by_cases hi : i < n
  · rw [unitVec_getD n k i hi]
    exact if_congr (and_iff_right hi).symm rfl rfl
  · rw [List.getD_eq_default _ _ (by rw [unitVec_length]; exact Nat.le_of_not_lt hi), if_neg fun h => hi h.1]

theorem unitVec_of_le {n k : Nat} (h : n ≤ k) : unitVec n k = List.replicate n 0 := by
  apply ext_getD (by rw [unitVec_length, List.length_replicate])
  intro i hi
  rw [unitVec_length] at hi
  rw [unitVec_getD', List.getD_replicate _ hi, if_neg (by omega)]

theorem headChunk_unitVec (c : Nat) {N j : Nat} (hj : j < N) : headChunk c (unitVec N j) = unitVec c j := by
  apply ext_getD (by rw [headChunk_length, unitVec_length])
  intro i hi
  rw [headChunk_length] at hi
  rw [headChunk_eq_fit, fit_getD _ _ _ hi, unitVec_getD', unitVec_getD']
  exact if_congr (by omega) rfl rfl

theorem drop_unitVec_ge {c N j : Nat} (h : c ≤ j) : (unitVec N j).drop c = unitVec (N - c) (j - c) := by
  apply ext_getD (by rw [List.length_drop, unitVec_length, unitVec_length])
  intro i _
  rw [drop_getD, unitVec_getD', unitVec_getD']
  exact if_congr (and_congr (by omega) (by omega)) rfl rfl

theorem drop_unitVec_lt {c N j : Nat} (h : j < c) : (unitVec N j).drop c = List.replicate (N - c) 0 := by
  apply ext_getD (by rw [List.length_drop, unitVec_length, List.length_replicate])
  intro i hi
  rw [List.length_drop, unitVec_length] at hi
  rw [drop_getD, unitVec_getD', List.getD_replicate _ hi, if_neg (by omega)]

/-- `f` sends zero vectors to vectors whose coordinates all vanish (nothing is asked of their length) -/
def ZeroPres (f : V → V) : Prop := ∀ n i : Nat, (f (List.replicate n 0)).getD i 0 = 0

theorem Hom.zeroPres {f : V → V} (h : Hom f) : ZeroPres f := by
  intro n i
  have h0 := h 0 (List.replicate n 0)
  rw [List.map_replicate, mul_zero] at h0
  have := List.getD_map (f (List.replicate n 0)) (0 : ℝ) (n := i) fun v => 0 * v
  rw [← h0, mul_zero] at this
  rw [this, zero_mul]

theorem den_zeroPres (E : Env) (o : Op) : ZeroPres (den E o) :=
  Hom.zeroPres ((homLaw E (leafHom E)).1 o)

theorem denT_zeroPres (E : Env) (o : Op) : ZeroPres (denT E o) :=
  Hom.zeroPres ((homLaw E (leafHom E)).2 o)

/-- a list of blocks: number of rows, number of columns, entries (indexed by naturals; only the entries
`i < rows`, `j < cols` matter) -/
abbrev Blocks := List (Nat × Nat × (Nat → Nat → ℝ))

/-- **the block-diagonal matrix**: entry `(i, j)` is the entry of block `k` when `i` lies in row band `k` and `j` in
column band `k`, and `0` otherwise -/
def blockDiagEntry : Blocks → Nat → Nat → ℝ
  | [], _, _ => 0
  | (r, c, M) :: bs, i, j =>
    if i < r then (if j < c then M i j else 0)
    else (if j < c then 0 else blockDiagEntry bs (i - r) (j - c))

/-- **horizontal concatenation** (the numbers of rows are not looked at) -/
def blockRowEntry : Blocks → Nat → Nat → ℝ
  | [], _, _ => 0
  | (_, c, M) :: bs, i, j => if j < c then M i j else blockRowEntry bs i (j - c)

/-- **vertical stacking** (the numbers of columns are not looked at) -/
def blockColEntry : Blocks → Nat → Nat → ℝ
  | [], _, _ => 0
  | (r, _, M) :: bs, i, j => if i < r then M i j else blockColEntry bs (i - r) j

/-- the offset of band `k`: the sum of the sizes of the bands before it -/
def offset (ns : List Nat) (k : Nat) : Nat := (ns.take k).sum

/-- `i` lies in band `k` of the partition of `0 … ns.sum - 1` into consecutive bands of sizes `ns` -/
def InBand (ns : List Nat) (k i : Nat) : Prop := offset ns k ≤ i ∧ i < offset ns k + ns.getD k 0

@[simp] theorem offset_zero (ns : List Nat) : offset ns 0 = 0 := rfl

@[simp] theorem offset_cons_succ (n : Nat) (ns : List Nat) (k : Nat) :
    offset (n :: ns) (k + 1) = n + offset ns k := by
  simp [offset]

theorem inBand_cons_zero (n : Nat) (ns : List Nat) (i : Nat) : InBand (n :: ns) 0 i ↔ i < n := by
  show 0 ≤ i ∧ i < 0 + n ↔ i < n
  rw [Nat.zero_add]
  exact and_iff_right (Nat.zero_le i)

theorem inBand_cons_succ (n : Nat) (ns : List Nat) (k i : Nat) :
    InBand (n :: ns) (k + 1) i ↔ n ≤ i ∧ InBand ns k (i - n) := by
  simp only [InBand, offset_cons_succ, List.getD_cons_succ]
  omega

theorem InBand.lt_length {ns : List Nat} {k i : Nat} (h : InBand ns k i) : k < ns.length := by
  by_contra hk
  have := List.getD_eq_default ns 0 (Nat.le_of_not_lt hk)
  unfold InBand at h
  omega

theorem exists_inBand : ∀ (ns : List Nat) (i : Nat), i < ns.sum → ∃ k, InBand ns k i
  | [], i, h => by simp at h
  | n :: ns, i, h => by
    by_cases hi : i < n
    · exact ⟨0, (inBand_cons_zero n ns i).mpr hi⟩
    · obtain ⟨k, hk⟩ := exists_inBand ns (i - n) (by simp only [List.sum_cons] at h; omega)
      exact ⟨k + 1, (inBand_cons_succ n ns k i).mpr ⟨by omega, hk⟩⟩

theorem inBand_unique : ∀ (ns : List Nat) (k k' i : Nat), InBand ns k i → InBand ns k' i → k = k'
  | [], k, _, _, h, _ => absurd h.lt_length (by simp)
  | n :: ns, 0, 0, _, _, _ => rfl
  | n :: ns, 0, k' + 1, i, h, h' => by
    rw [inBand_cons_zero] at h; rw [inBand_cons_succ] at h'; omega
  | n :: ns, k + 1, 0, i, h, h' => by
    rw [inBand_cons_zero] at h'; rw [inBand_cons_succ] at h; omega
  | n :: ns, k + 1, k' + 1, i, h, h' => by
    rw [inBand_cons_succ] at h h'
    rw [inBand_unique ns k k' (i - n) h.2 h'.2]

theorem InBand.lt_sum : ∀ {ns : List Nat} {k i : Nat}, InBand ns k i → i < ns.sum
  | [], _, _, h => absurd h.lt_length (by simp)
  | n :: ns, 0, i, h => by
    rw [inBand_cons_zero] at h; simp only [List.sum_cons]; omega
  | n :: ns, k + 1, i, h => by
    rw [inBand_cons_succ] at h
    have := h.2.lt_sum
    simp only [List.sum_cons]; omega

/-- the blocks are given as a family `l.map fun a => (r a, c a, e a)`, the form of `blockMats` and `blockMatsT` -/
theorem blockDiagEntry_band {α : Type} (r c : α → Nat) (e : α → Nat → Nat → ℝ) :
    ∀ (l : List α) (k : Nat) (hk : k < l.length) (i j : Nat), InBand (l.map r) k i → InBand (l.map c) k j →
    blockDiagEntry (l.map fun a => (r a, c a, e a)) i j = e l[k] (i - offset (l.map r) k) (j - offset (l.map c) k)
  | a :: l, 0, _, i, j, hi, hj => by
    rw [List.map_cons, blockDiagEntry, if_pos ((inBand_cons_zero ..).mp hi), if_pos ((inBand_cons_zero ..).mp hj)]
    rfl
  | a :: l, k + 1, hk, i, j, hi, hj => by
    obtain ⟨hi1, hi2⟩ := (inBand_cons_succ ..).mp hi
    obtain ⟨hj1, hj2⟩ := (inBand_cons_succ ..).mp hj
    rw [List.map_cons, blockDiagEntry, if_neg (Nat.not_lt.mpr hi1), if_neg (Nat.not_lt.mpr hj1),
      blockDiagEntry_band r c e l k (Nat.lt_of_succ_lt_succ hk) _ _ hi2 hj2, Nat.sub_sub, Nat.sub_sub]
    rfl

theorem blockDiagEntry_off {α : Type} (r c : α → Nat) (e : α → Nat → Nat → ℝ) :
    ∀ (l : List α) (k k' : Nat) (i j : Nat), k ≠ k' → InBand (l.map r) k i → InBand (l.map c) k' j →
    blockDiagEntry (l.map fun a => (r a, c a, e a)) i j = 0
  | [], _, _, _, _, _, hi, _ => absurd hi.lt_length (Nat.not_lt_zero _)
  | a :: l, 0, 0, _, _, hne, _, _ => absurd rfl hne
  | a :: l, 0, k' + 1, i, j, _, hi, hj => by
    rw [List.map_cons, blockDiagEntry, if_pos ((inBand_cons_zero ..).mp hi),
      if_neg (Nat.not_lt.mpr ((inBand_cons_succ ..).mp hj).1)]
  | a :: l, k + 1, 0, i, j, _, hi, hj => by
    rw [List.map_cons, blockDiagEntry, if_neg (Nat.not_lt.mpr ((inBand_cons_succ ..).mp hi).1),
      if_pos ((inBand_cons_zero ..).mp hj)]
  | a :: l, k + 1, k' + 1, i, j, hne, hi, hj => by
    obtain ⟨hi1, hi2⟩ := (inBand_cons_succ ..).mp hi
    obtain ⟨hj1, hj2⟩ := (inBand_cons_succ ..).mp hj
    rw [List.map_cons, blockDiagEntry, if_neg (Nat.not_lt.mpr hi1), if_neg (Nat.not_lt.mpr hj1)]
    exact blockDiagEntry_off r c e l k k' _ _ (fun h => hne (congrArg _ h)) hi2 hj2

theorem blockRowEntry_band {α : Type} (r c : α → Nat) (e : α → Nat → Nat → ℝ) :
    ∀ (l : List α) (k : Nat) (hk : k < l.length) (i j : Nat), InBand (l.map c) k j →
    blockRowEntry (l.map fun a => (r a, c a, e a)) i j = e l[k] i (j - offset (l.map c) k)
  | a :: l, 0, _, i, j, hj => by
    rw [List.map_cons, blockRowEntry, if_pos ((inBand_cons_zero ..).mp hj)]
    rfl
  | a :: l, k + 1, hk, i, j, hj => by
    obtain ⟨hj1, hj2⟩ := (inBand_cons_succ ..).mp hj
    rw [List.map_cons, blockRowEntry, if_neg (Nat.not_lt.mpr hj1),
      blockRowEntry_band r c e l k (Nat.lt_of_succ_lt_succ hk) _ _ hj2, Nat.sub_sub]
    rfl

def transposeBlocks (bs : Blocks) : Blocks := bs.map fun b => (b.2.1, b.1, fun i j => b.2.2 j i)

theorem blockDiagEntry_transpose : ∀ (bs : Blocks) (i j : Nat),
    blockDiagEntry (transposeBlocks bs) i j = blockDiagEntry bs j i
  | [], _, _ => rfl
  | (r, c, M) :: bs, i, j => by
    simp only [transposeBlocks, List.map_cons, blockDiagEntry]
    have := blockDiagEntry_transpose bs (i - c) (j - r)
    simp only [transposeBlocks] at this
    rw [this]
    by_cases hi : i < c <;> by_cases hj : j < r <;> simp [hi, hj]

theorem blockColEntry_transpose : ∀ (bs : Blocks) (i j : Nat),
    blockColEntry (transposeBlocks bs) i j = blockRowEntry bs j i
  | [], _, _ => rfl
  | (r, c, M) :: bs, i, j => by
    rw [blockRowEntry, ← blockColEntry_transpose bs (i - c) j]
    rfl

theorem blockRowEntry_transpose : ∀ (bs : Blocks) (i j : Nat),
    blockRowEntry (transposeBlocks bs) i j = blockColEntry bs j i
  | [], _, _ => rfl
  | (r, c, M) :: bs, i, j => by
    rw [blockColEntry, ← blockRowEntry_transpose bs i (j - r)]
    rfl

theorem blockColEntry_band {α : Type} (r c : α → Nat) (e : α → Nat → Nat → ℝ) (l : List α) (k : Nat)
    (hk : k < l.length) (i j : Nat) (hi : InBand (l.map r) k i) :
    blockColEntry (l.map fun a => (r a, c a, e a)) i j = e l[k] (i - offset (l.map r) k) j := by
  rw [← blockRowEntry_transpose, transposeBlocks, List.map_map]
  exact blockRowEntry_band c r (fun a i j => e a j i) l k hk j i hi

/-- entry `(i, j)` of the matrix of a map on `ℝᶜ`: coordinate `i` of the image of the `j`-th unit vector -/
def fEntry (f : V → V) (c : Nat) (i j : Nat) : ℝ := (f (unitVec c j)).getD i 0

theorem fEntry_of_le {f : V → V} (hf : ZeroPres f) {c j : Nat} (h : c ≤ j) (i : Nat) : fEntry f c i j = 0 := by
  rw [fEntry, unitVec_of_le h, hf]

section Matrices
open Matrix

/-- entry `(i, j)` of the dense matrix of `o` (at its declared input size), indexed by naturals: coordinate `i` of
`o` applied to the `j`-th unit vector.  It is `asMatrix E hE o (inSize o) m i j` for every `m` (`asMatrix_eq_entry`);
it vanishes for `j ≥ inSize o`, and for `i ≥ outSize o` when `o` is structurally well formed. -/
noncomputable def entry (E : Env) (o : Op) (i j : Nat) : ℝ := fEntry (den E o) (inSize o) i j

/-- the same for the transpose `denT` (input of the declared OUTPUT size of `o`) -/
noncomputable def entryT (E : Env) (o : Op) (i j : Nat) : ℝ := fEntry (denT E o) (outSize o) i j

theorem asMatrix_eq_entry (E : Env) (hE : EnvAdd E) (o : Op) (m : Nat) (i : Fin m) (j : Fin (inSize o)) :
    asMatrix E hE o (inSize o) m i j = entry E o i j := asMatrix_apply E hE o _ _ i j

theorem asMatrixT_apply (E : Env) (hE : EnvAdd E) (o : Op) (m n : Nat) (i : Fin n) (j : Fin m) :
    asMatrixT E hE o m n i j = (denT E o (unitVec m j)).getD i 0 := by
  rw [asMatrixT_eq E hE 0, asMatrix_apply, den_wrap_T (k := .transpose) nofun nofun]

theorem asMatrixT_eq_entryT (E : Env) (hE : EnvAdd E) (o : Op) (n : Nat) (i : Fin n) (j : Fin (outSize o)) :
    asMatrixT E hE o (outSize o) n i j = entryT E o i j := asMatrixT_apply E hE o _ _ i j

theorem entry_of_le (E : Env) (o : Op) {j : Nat} (h : inSize o ≤ j) (i : Nat) : entry E o i j = 0 :=
  fEntry_of_le (den_zeroPres E o) h i

/-- **the matrices of the blocks**: `(rows, cols, entries) = (outSize o, inSize o, entries of as_matrix(o))` -/
noncomputable def blockMats (E : Env) (ops : List Op) : Blocks :=
  ops.map fun o => (outSize o, inSize o, entry E o)

/-- the matrices of the transposed blocks: `(inSize o, outSize o, entries of as_matrix(o.T))` -/
noncomputable def blockMatsT (E : Env) (ops : List Op) : Blocks :=
  ops.map fun o => (inSize o, outSize o, entryT E o)

theorem getD_fit_append (n : Nat) (x y : V) (i : Nat) :
    (fit n x ++ y).getD i 0 = if i < n then x.getD i 0 else y.getD (i - n) 0 := by
  by_cases hi : i < n
  · rw [if_pos hi, List.getD_append _ _ _ _ (by rw [fit_length]; exact hi), fit_getD _ _ _ hi]
  · rw [if_neg hi, List.getD_append_right _ _ _ _ (by rw [fit_length]; exact Nat.le_of_not_lt hi), fit_length]

/-- no hypothesis on the sizes of the results of the blocks (each is cut to its declared number of rows), nor on `N`
(a short input is padded, a long one truncated) -/
theorem diagApp_entry (E : Env) : ∀ (ops : List Op) (N i j : Nat), j < N →
    (diagApp E ops (unitVec N j)).getD i 0 = blockDiagEntry (blockMats E ops) i j
  | [], _, _, _, _ => rfl
  | o :: os, N, i, j, hj => by
    have hz : ZeroPres (diagApp E os) := den_zeroPres E (.cont 0 .blockDiag [] os)
    rw [diagApp, getD_fit_append, headChunk_unitVec _ hj, blockMats, List.map_cons, blockDiagEntry]
    by_cases hjc : j < inSize o
    · rw [if_pos hjc, if_pos hjc, drop_unitVec_lt hjc, hz]
      rfl
    · rw [if_neg hjc, if_neg hjc, drop_unitVec_ge (Nat.not_lt.mp hjc),
        diagApp_entry E os (N - inSize o) (i - outSize o) (j - inSize o) (by omega)]
      exact if_congr Iff.rfl (entry_of_le E o (Nat.not_lt.mp hjc) i) rfl

theorem rowApp_entry (E : Env) : ∀ (ops : List Op) (N i j : Nat), j < N →
    (rowApp E ops (unitVec N j)).getD i 0 = blockRowEntry (blockMats E ops) i j
  | [], _, _, _, _ => rfl
  | o :: os, N, i, j, hj => by
    have hz : ZeroPres (rowApp E os) := den_zeroPres E (.cont 0 .blockRow [] os)
    rw [rowApp, blockMats, List.map_cons, blockRowEntry, headChunk_unitVec _ hj, getD_vadd]
    by_cases hjc : j < inSize o
    · rw [if_pos hjc, drop_unitVec_lt hjc, hz, add_zero]; rfl
    · rw [if_neg hjc, drop_unitVec_ge (Nat.not_lt.mp hjc),
        show (den E o (unitVec (inSize o) j)).getD i 0 = 0 from entry_of_le E o (Nat.not_lt.mp hjc) i, zero_add]
      exact rowApp_entry E os (N - inSize o) i (j - inSize o) (by omega)

theorem colApp_entry (E : Env) : ∀ (ops : List Op) (N : Nat), (∀ o ∈ ops, inSize o = N) → ∀ (i j : Nat),
    (colApp E ops (unitVec N j)).getD i 0 = blockColEntry (blockMats E ops) i j
  | [], _, _, _, _ => rfl
  | o :: os, N, h, i, j => by
    obtain rfl : inSize o = N := h o List.mem_cons_self
    rw [colApp, getD_fit_append, colApp_entry E os _ (fun b hb => h b (List.mem_cons_of_mem _ hb))]
    rfl

/-- the blocks `TransposeOperator(o)`: their `den` is `denT` of the blocks, rows and columns swapped, so that the
transposed recursions are the recursions of these blocks -/
def trOps (ops : List Op) : List Op := ops.map (.wrap 0 .transpose)

theorem diagAppT_eq (E : Env) : ∀ ops : List Op, diagAppT E ops = diagApp E (trOps ops)
  | [] => rfl
  | o :: os => funext fun y => by rw [diagAppT, diagAppT_eq E os]; rfl

theorem rowAppT_eq (E : Env) : ∀ ops : List Op, rowAppT E ops = rowApp E (trOps ops)
  | [] => rfl
  | o :: os => funext fun y => by rw [rowAppT, rowAppT_eq E os]; rfl

theorem colAppT_eq (E : Env) : ∀ ops : List Op, colAppT E ops = colApp E (trOps ops)
  | [] => rfl
  | o :: os => funext fun y => by rw [colAppT, colAppT_eq E os]; rfl

theorem blockMats_trOps (E : Env) (ops : List Op) : blockMats E (trOps ops) = blockMatsT E ops := by
  rw [blockMats, trOps, List.map_map]; rfl

theorem InBand.sub_lt {f : Op → Nat} {ops : List Op} {k i : Nat} (h : InBand (ops.map f) k i)
    (hk : k < ops.length) : i - offset (ops.map f) k < f ops[k] := by
  have : (ops.map f).getD k 0 = f ops[k] := by
    rw [List.getD_eq_getElem _ _ (by simpa using hk), List.getElem_map]
  unfold InBand at h
  omega

theorem inSize_blockDiag (u : Nat) (td : TreeDef) (ops : List Op) :
    inSize (.cont u .blockDiag td ops) = (ops.map inSize).sum := nest_inSList_size td ops

theorem inSize_blockRow (u : Nat) (td : TreeDef) (ops : List Op) :
    inSize (.cont u .blockRow td ops) = (ops.map inSize).sum := nest_inSList_size td ops

theorem outSize_blockDiag (u : Nat) (td : TreeDef) (ops : List Op) :
    outSize (.cont u .blockDiag td ops) = (ops.map outSize).sum := by
  rw [outSize, Op.outS, nest_size, outSList_sizes]

theorem outSize_blockCol (u : Nat) (td : TreeDef) (ops : List Op) :
    outSize (.cont u .blockCol td ops) = (ops.map outSize).sum := by
  rw [outSize, Op.outS, nest_size, outSList_sizes]

theorem outSize_of_mem_blockRow (u : Nat) (td : TreeDef) (ops : List Op)
    (hok : StructOK (.cont u .blockRow td ops)) : ∀ o ∈ ops, outSize o = outSize (.cont u .blockRow td ops) := by
  intro o ho
  have h := ((StructOK_cont_iff u .blockRow td ops).mp hok).2.2.2
  simp only at h
  rw [outSize, outSize, h o ho, Op.outS]

theorem inSize_of_mem_blockCol (u : Nat) (td : TreeDef) (ops : List Op)
    (hok : StructOK (.cont u .blockCol td ops)) : ∀ o ∈ ops, inSize o = inSize (.cont u .blockCol td ops) := by
  intro o ho
  have h := ((StructOK_cont_iff u .blockCol td ops).mp hok).2.2.2
  simp only at h
  rw [inSize, inSize, h o ho, Op.inS]

/-- **C10, block diagonal: `as_matrix()` of `BlockDiagonalOperator(blocks)` is the block-diagonal matrix of the
matrices of the blocks.**  No hypothesis: `n` and `m` are free (the declared sizes are `inSize_blockDiag`,
`outSize_blockDiag`), the blocks need not be well formed (each is cut to its declared output size). -/
theorem asMatrix_blockDiag (E : Env) (hE : EnvAdd E) (u : Nat) (td : TreeDef) (ops : List Op) (n m : Nat)
    (i : Fin m) (j : Fin n) :
    asMatrix E hE (.cont u .blockDiag td ops) n m i j = blockDiagEntry (blockMats E ops) i j := by
  rw [asMatrix_apply, den]
  exact diagApp_entry E ops n i j j.2

/-- **by bands**: for `i` in row band `k` and `j` in column band `k` the entry is the entry of `as_matrix()` of block
`k` at `(i - rowOffset k, j - colOffset k)`, the offsets being the partial sums of the output / input sizes -/
theorem asMatrix_blockDiag_band (E : Env) (hE : EnvAdd E) (u : Nat) (td : TreeDef) (ops : List Op) (n m : Nat)
    (i : Fin m) (j : Fin n) (k : Nat) (hk : k < ops.length)
    (hi : InBand (ops.map outSize) k i) (hj : InBand (ops.map inSize) k j) :
    asMatrix E hE (.cont u .blockDiag td ops) n m i j =
      asMatrix E hE ops[k] (inSize ops[k]) (outSize ops[k])
        ⟨i - offset (ops.map outSize) k, hi.sub_lt hk⟩ ⟨j - offset (ops.map inSize) k, hj.sub_lt hk⟩ := by
  rw [asMatrix_blockDiag, asMatrix_eq_entry]
  exact blockDiagEntry_band outSize inSize (entry E) ops k hk i j hi hj

/-- … and `0` when the bands differ -/
theorem asMatrix_blockDiag_off (E : Env) (hE : EnvAdd E) (u : Nat) (td : TreeDef) (ops : List Op) (n m : Nat)
    (i : Fin m) (j : Fin n) (k k' : Nat) (hne : k ≠ k')
    (hi : InBand (ops.map outSize) k i) (hj : InBand (ops.map inSize) k' j) :
    asMatrix E hE (.cont u .blockDiag td ops) n m i j = 0 := by
  rw [asMatrix_blockDiag]
  exact blockDiagEntry_off outSize inSize (entry E) ops k k' i j hne hi hj

/-- **C10, block row: `as_matrix()` of `BlockRowOperator(blocks)` is the horizontal concatenation of the matrices of
the blocks.**  No hypothesis (for a well-formed block row every block has `outSize` = the output size of the row,
`outSize_of_mem_blockRow`). -/
theorem asMatrix_blockRow (E : Env) (hE : EnvAdd E) (u : Nat) (td : TreeDef) (ops : List Op) (n m : Nat)
    (i : Fin m) (j : Fin n) :
    asMatrix E hE (.cont u .blockRow td ops) n m i j = blockRowEntry (blockMats E ops) i j := by
  rw [asMatrix_apply, den]
  exact rowApp_entry E ops n i j j.2

/-- **by bands**: for `j` in column band `k`, entry `(i, j)` is entry `(i, j - colOffset k)` of `as_matrix()` of
block `k` (all blocks have `m` rows) -/
theorem asMatrix_blockRow_band (E : Env) (hE : EnvAdd E) (u : Nat) (td : TreeDef) (ops : List Op) (n m : Nat)
    (i : Fin m) (j : Fin n) (k : Nat) (hk : k < ops.length) (hj : InBand (ops.map inSize) k j) :
    asMatrix E hE (.cont u .blockRow td ops) n m i j =
      asMatrix E hE ops[k] (inSize ops[k]) m i ⟨j - offset (ops.map inSize) k, hj.sub_lt hk⟩ := by
  rw [asMatrix_blockRow, asMatrix_eq_entry]
  exact blockRowEntry_band outSize inSize (entry E) ops k hk i j hj

/-- **C10, block column: `as_matrix()` of `BlockColumnOperator(blocks)` is the vertical stacking of the matrices of
the blocks.**  The blocks all take inputs of size `n` (what the constructor checks; `inSize_of_mem_blockCol`). -/
theorem asMatrix_blockCol (E : Env) (hE : EnvAdd E) (u : Nat) (td : TreeDef) (ops : List Op) (n m : Nat)
    (hcol : ∀ o ∈ ops, inSize o = n) (i : Fin m) (j : Fin n) :
    asMatrix E hE (.cont u .blockCol td ops) n m i j = blockColEntry (blockMats E ops) i j := by
  rw [asMatrix_apply, den]
  exact colApp_entry E ops n hcol i j

/-- **by bands**: for `i` in row band `k`, entry `(i, j)` is entry `(i - rowOffset k, j)` of `as_matrix()` of
block `k` -/
theorem asMatrix_blockCol_band (E : Env) (hE : EnvAdd E) (u : Nat) (td : TreeDef) (ops : List Op) (n m : Nat)
    (hcol : ∀ o ∈ ops, inSize o = n) (i : Fin m) (j : Fin n) (k : Nat) (hk : k < ops.length)
    (hi : InBand (ops.map outSize) k i) :
    asMatrix E hE (.cont u .blockCol td ops) n m i j =
      asMatrix E hE ops[k] n (outSize ops[k]) ⟨i - offset (ops.map outSize) k, hi.sub_lt hk⟩ j := by
  have hn : inSize ops[k] = n := hcol _ (List.getElem_mem hk)
  subst hn
  rw [asMatrix_blockCol E hE u td ops _ m hcol, asMatrix_eq_entry]
  exact blockColEntry_band outSize inSize (entry E) ops k hk i j hi

theorem asMatrix_blockDiag_ok (E : Env) (hE : EnvAdd E) (u : Nat) (td : TreeDef) (ops : List Op)
    (i : Fin (outSize (.cont u .blockDiag td ops))) (j : Fin (inSize (.cont u .blockDiag td ops))) :
    asMatrix E hE (.cont u .blockDiag td ops) _ _ i j = blockDiagEntry (blockMats E ops) i j :=
  asMatrix_blockDiag E hE u td ops _ _ i j

theorem asMatrix_blockRow_ok (E : Env) (hE : EnvAdd E) (u : Nat) (td : TreeDef) (ops : List Op)
    (i : Fin (outSize (.cont u .blockRow td ops))) (j : Fin (inSize (.cont u .blockRow td ops))) :
    asMatrix E hE (.cont u .blockRow td ops) _ _ i j = blockRowEntry (blockMats E ops) i j :=
  asMatrix_blockRow E hE u td ops _ _ i j

theorem asMatrix_blockCol_ok (E : Env) (hE : EnvAdd E) (u : Nat) (td : TreeDef) (ops : List Op)
    (hok : StructOK (.cont u .blockCol td ops))
    (i : Fin (outSize (.cont u .blockCol td ops))) (j : Fin (inSize (.cont u .blockCol td ops))) :
    asMatrix E hE (.cont u .blockCol td ops) _ _ i j = blockColEntry (blockMats E ops) i j :=
  asMatrix_blockCol E hE u td ops _ _ (inSize_of_mem_blockCol u td ops hok) i j

/-- **C10: `BlockDiagonalOperator(blocks).mv(x)` is the block-diagonal matrix of the blocks' matrices times the
flattened `x`** -/
theorem den_blockDiag_eq_mulVec (E : Env) (hE : EnvAdd E) (u : Nat) (td : TreeDef) (ops : List Op)
    (hok : StructOK (.cont u .blockDiag td ops)) (n : Nat) (v : Fin n → ℝ) :
    den E (.cont u .blockDiag td ops) (List.ofFn v) =
      List.ofFn ((Matrix.of fun (i : Fin (outSize (.cont u .blockDiag td ops))) (j : Fin n) =>
        blockDiagEntry (blockMats E ops) i j) *ᵥ v) := by
  rw [den_eq_asMatrix_mulVec E hE _ hok n _ rfl v]
  exact congrArg (fun M => List.ofFn (M *ᵥ v)) (Matrix.ext fun i j => asMatrix_blockDiag E hE u td ops n _ i j)

/-- **C10: `BlockRowOperator(blocks).mv(x)` is the horizontal concatenation of the blocks' matrices times the
flattened `x`** -/
theorem den_blockRow_eq_mulVec (E : Env) (hE : EnvAdd E) (u : Nat) (td : TreeDef) (ops : List Op)
    (hok : StructOK (.cont u .blockRow td ops)) (n : Nat) (v : Fin n → ℝ) :
    den E (.cont u .blockRow td ops) (List.ofFn v) =
      List.ofFn ((Matrix.of fun (i : Fin (outSize (.cont u .blockRow td ops))) (j : Fin n) =>
        blockRowEntry (blockMats E ops) i j) *ᵥ v) := by
  rw [den_eq_asMatrix_mulVec E hE _ hok n _ rfl v]
  exact congrArg (fun M => List.ofFn (M *ᵥ v)) (Matrix.ext fun i j => asMatrix_blockRow E hE u td ops n _ i j)

/-- **C10: `BlockColumnOperator(blocks).mv(x)` is the vertical stacking of the blocks' matrices times the
flattened `x`** -/
theorem den_blockCol_eq_mulVec (E : Env) (hE : EnvAdd E) (u : Nat) (td : TreeDef) (ops : List Op)
    (hok : StructOK (.cont u .blockCol td ops)) (v : Fin (inSize (.cont u .blockCol td ops)) → ℝ) :
    den E (.cont u .blockCol td ops) (List.ofFn v) =
      List.ofFn ((Matrix.of fun (i : Fin (outSize (.cont u .blockCol td ops)))
          (j : Fin (inSize (.cont u .blockCol td ops))) => blockColEntry (blockMats E ops) i j) *ᵥ v) := by
  rw [den_eq_asMatrix_mulVec E hE _ hok _ _ rfl v]
  exact congrArg (fun M => List.ofFn (M *ᵥ v))
    (Matrix.ext fun i j => asMatrix_blockCol E hE u td ops _ _ (inSize_of_mem_blockCol u td ops hok) i j)

/-! ### transposes

`denT E o` is what `o.T.mv` computes; its dense matrix is `asMatrixT E hE o m n`, which is the dense matrix of
`TransposeOperator(o)` (`asMatrixT_eq`).  Directly on `denT`, with NO adjointness hypothesis: the matrix of the
transpose of a block row is the block column of the matrices of the transposed blocks, and so on. -/

/-- **the transpose of a block row is the block column of the transposed blocks** (matrices; the blocks all have
`m` rows, so their transposes all have `m` columns) -/
theorem asMatrixT_blockRow (E : Env) (hE : EnvAdd E) (u : Nat) (td : TreeDef) (ops : List Op) (m n : Nat)
    (hrow : ∀ o ∈ ops, outSize o = m) (i : Fin n) (j : Fin m) :
    asMatrixT E hE (.cont u .blockRow td ops) m n i j = blockColEntry (blockMatsT E ops) i j := by
  rw [asMatrixT_apply, denT, colAppT_eq, ← blockMats_trOps]
  exact colApp_entry E (trOps ops) m (List.forall_mem_map.mpr hrow) i j

/-- **the transpose of a block column is the block row of the transposed blocks** -/
theorem asMatrixT_blockCol (E : Env) (hE : EnvAdd E) (u : Nat) (td : TreeDef) (ops : List Op) (m n : Nat)
    (i : Fin n) (j : Fin m) :
    asMatrixT E hE (.cont u .blockCol td ops) m n i j = blockRowEntry (blockMatsT E ops) i j := by
  rw [asMatrixT_apply, denT, rowAppT_eq, ← blockMats_trOps]
  exact rowApp_entry E (trOps ops) m i j j.2

/-- **the transpose of a block diagonal is the block diagonal of the transposed blocks** -/
theorem asMatrixT_blockDiag (E : Env) (hE : EnvAdd E) (u : Nat) (td : TreeDef) (ops : List Op) (m n : Nat)
    (i : Fin n) (j : Fin m) :
    asMatrixT E hE (.cont u .blockDiag td ops) m n i j = blockDiagEntry (blockMatsT E ops) i j := by
  rw [asMatrixT_apply, denT, diagAppT_eq, ← blockMats_trOps]
  exact diagApp_entry E (trOps ops) m i j j.2

/-- the same three statements for the object `TransposeOperator(·)` -/
theorem asMatrix_transpose_blockRow (E : Env) (hE : EnvAdd E) (u u' : Nat) (td : TreeDef) (ops : List Op)
    (m n : Nat) (hrow : ∀ o ∈ ops, outSize o = m) (i : Fin n) (j : Fin m) :
    asMatrix E hE (.wrap u' .transpose (.cont u .blockRow td ops)) m n i j =
      blockColEntry (blockMatsT E ops) i j := by
  rw [← asMatrixT_eq]; exact asMatrixT_blockRow E hE u td ops m n hrow i j

theorem asMatrix_transpose_blockCol (E : Env) (hE : EnvAdd E) (u u' : Nat) (td : TreeDef) (ops : List Op)
    (m n : Nat) (i : Fin n) (j : Fin m) :
    asMatrix E hE (.wrap u' .transpose (.cont u .blockCol td ops)) m n i j =
      blockRowEntry (blockMatsT E ops) i j := by
  rw [← asMatrixT_eq]; exact asMatrixT_blockCol E hE u td ops m n i j

theorem asMatrix_transpose_blockDiag (E : Env) (hE : EnvAdd E) (u u' : Nat) (td : TreeDef) (ops : List Op)
    (m n : Nat) (i : Fin n) (j : Fin m) :
    asMatrix E hE (.wrap u' .transpose (.cont u .blockDiag td ops)) m n i j =
      blockDiagEntry (blockMatsT E ops) i j := by
  rw [← asMatrixT_eq]; exact asMatrixT_blockDiag E hE u td ops m n i j

theorem asMatrixT_blockRow_band (E : Env) (hE : EnvAdd E) (u : Nat) (td : TreeDef) (ops : List Op) (m n : Nat)
    (hrow : ∀ o ∈ ops, outSize o = m) (i : Fin n) (j : Fin m) (k : Nat) (hk : k < ops.length)
    (hi : InBand (ops.map inSize) k i) :
    asMatrixT E hE (.cont u .blockRow td ops) m n i j =
      asMatrixT E hE ops[k] m (inSize ops[k]) ⟨i - offset (ops.map inSize) k, hi.sub_lt hk⟩ j := by
  have hm : outSize ops[k] = m := hrow _ (List.getElem_mem hk)
  subst hm
  rw [asMatrixT_blockRow E hE u td ops _ n hrow, asMatrixT_eq_entryT]
  exact blockColEntry_band inSize outSize (entryT E) ops k hk i j hi

theorem asMatrixT_blockCol_band (E : Env) (hE : EnvAdd E) (u : Nat) (td : TreeDef) (ops : List Op) (m n : Nat)
    (i : Fin n) (j : Fin m) (k : Nat) (hk : k < ops.length) (hj : InBand (ops.map outSize) k j) :
    asMatrixT E hE (.cont u .blockCol td ops) m n i j =
      asMatrixT E hE ops[k] (outSize ops[k]) n i ⟨j - offset (ops.map outSize) k, hj.sub_lt hk⟩ := by
  rw [asMatrixT_blockCol, asMatrixT_eq_entryT]
  exact blockRowEntry_band inSize outSize (entryT E) ops k hk i j hj

theorem asMatrixT_blockDiag_band (E : Env) (hE : EnvAdd E) (u : Nat) (td : TreeDef) (ops : List Op) (m n : Nat)
    (i : Fin n) (j : Fin m) (k : Nat) (hk : k < ops.length)
    (hi : InBand (ops.map inSize) k i) (hj : InBand (ops.map outSize) k j) :
    asMatrixT E hE (.cont u .blockDiag td ops) m n i j =
      asMatrixT E hE ops[k] (outSize ops[k]) (inSize ops[k])
        ⟨i - offset (ops.map inSize) k, hi.sub_lt hk⟩ ⟨j - offset (ops.map outSize) k, hj.sub_lt hk⟩ := by
  rw [asMatrixT_blockDiag, asMatrixT_eq_entryT]
  exact blockDiagEntry_band inSize outSize (entryT E) ops k hk i j hi hj

/-- for a valid block whose uninterpreted leaves have adjoints, the matrix of `denT` is the transpose of the matrix
of `den` — entry by entry, for ALL naturals (both vanish out of range) -/
theorem entryT_eq_entry (E : Env) (hE : EnvAdd E) (o : Op) (hA : EnvAdjOn E o) (hv : Valid o) (i j : Nat) :
    entryT E o i j = entry E o j i := by
  by_cases hi : i < inSize o
  · by_cases hj : j < outSize o
    · have h := congrFun (congrFun (asMatrixT_transpose E hE o hA hv) ⟨i, hi⟩) ⟨j, hj⟩
      rwa [Matrix.transpose_apply, asMatrixT_eq_entryT, asMatrix_eq_entry] at h
    · rw [show entryT E o i j = 0 from fEntry_of_le (denT_zeroPres E o) (Nat.not_lt.mp hj) i]
      exact (List.getD_eq_default _ _ (by rw [den_length E o hv.structOK]; exact Nat.not_lt.mp hj)).symm
  · rw [entry_of_le E o (Nat.not_lt.mp hi)]
    exact List.getD_eq_default _ _ (by rw [denT_length E o hv.structOK]; exact Nat.not_lt.mp hi)

theorem blockMatsT_eq_transposeBlocks (E : Env) (hE : EnvAdd E) (ops : List Op)
    (hA : ∀ o ∈ ops, EnvAdjOn E o) (hv : ∀ o ∈ ops, Valid o) :
    blockMatsT E ops = transposeBlocks (blockMats E ops) := by
  simp only [blockMatsT, transposeBlocks, blockMats, List.map_map]
  apply List.map_congr_left
  intro o ho
  simp only [Function.comp, Prod.mk.injEq, true_and]
  funext i j
  exact entryT_eq_entry E hE o (hA o ho) (hv o ho) i j

/-- hence, blockwise (independently of `asMatrix_transpose`, which goes through the adjointness of the container):
**the matrix of the transpose of a block row / column / diagonal is the transpose of its matrix**: it is the block
column / row / diagonal of the transposes of the blocks' matrices -/
theorem asMatrixT_blockRow_eq_transpose (E : Env) (hE : EnvAdd E) (u : Nat) (td : TreeDef) (ops : List Op)
    (hA : ∀ o ∈ ops, EnvAdjOn E o) (hv : ∀ o ∈ ops, Valid o) (m n : Nat) (hrow : ∀ o ∈ ops, outSize o = m) :
    asMatrixT E hE (.cont u .blockRow td ops) m n = (asMatrix E hE (.cont u .blockRow td ops) n m)ᵀ := by
  ext i j
  rw [asMatrixT_blockRow E hE u td ops m n hrow, blockMatsT_eq_transposeBlocks E hE ops hA hv,
    blockColEntry_transpose, Matrix.transpose_apply, asMatrix_blockRow]

theorem asMatrixT_blockCol_eq_transpose (E : Env) (hE : EnvAdd E) (u : Nat) (td : TreeDef) (ops : List Op)
    (hA : ∀ o ∈ ops, EnvAdjOn E o) (hv : ∀ o ∈ ops, Valid o) (m n : Nat) (hcol : ∀ o ∈ ops, inSize o = n) :
    asMatrixT E hE (.cont u .blockCol td ops) m n = (asMatrix E hE (.cont u .blockCol td ops) n m)ᵀ := by
  ext i j
  rw [asMatrixT_blockCol, blockMatsT_eq_transposeBlocks E hE ops hA hv, blockRowEntry_transpose,
    Matrix.transpose_apply, asMatrix_blockCol E hE u td ops n m hcol]

theorem asMatrixT_blockDiag_eq_transpose (E : Env) (hE : EnvAdd E) (u : Nat) (td : TreeDef) (ops : List Op)
    (hA : ∀ o ∈ ops, EnvAdjOn E o) (hv : ∀ o ∈ ops, Valid o) (m n : Nat) :
    asMatrixT E hE (.cont u .blockDiag td ops) m n = (asMatrix E hE (.cont u .blockDiag td ops) n m)ᵀ := by
  ext i j
  rw [asMatrixT_blockDiag, blockMatsT_eq_transposeBlocks E hE ops hA hv, blockDiagEntry_transpose,
    Matrix.transpose_apply, asMatrix_blockDiag]

/-! #### the FORM `op.T` that the model computes (`transposeOp`)

`transposeOp (.cont u .blockRow td ops) = .ok (.cont 0 .blockCol td ts)` with `transposeList ops = .ok ts`
(`C10.transpose_form`), and `ts[k]` denotes `denT E ops[k]` (`TRel`, established by `tAtList`). -/

theorem blockMats_of_TRel (E : Env) (ops ts : List Op) (hrel : List.Forall₂ (TRel E) ops ts) :
    blockMats E ts = blockMatsT E ops := by
  induction hrel with
  | nil => rfl
  | @cons o t os ts' hr _ ih =>
    have hio : inSize t = outSize o := congrArg Struct.size hr.2.1
    have hoi : outSize t = inSize o := congrArg Struct.size hr.2.2
    have he : entry E t = entryT E o := by
      funext i j
      rw [entry, entryT, fEntry, fEntry, hio, hr.1 _ (unitVec_length _ _)]
    simp only [blockMats, blockMatsT, List.map_cons, hio, hoi, he] at ih ⊢
    rw [ih]

/-- the hypotheses under which `transposeList` produces related forms (`tAtList`), packaged for a container -/
theorem transposeOp_block_forms (E : Env) (u : Nat) (k : ContCls) (td : TreeDef) (ops : List Op) (t : Op)
    (hS : EnvSymOn E (.cont u k td ops)) (hok : StructOK (.cont u k td ops)) (hf : TFormOK (.cont u k td ops))
    (hw : (Op.cont u k td ops).WFT) (h : transposeOp (.cont u k td ops) = .ok t) :
    ∃ ts, t = .cont 0 k.dual td ts ∧ List.Forall₂ (TRel E) ops ts := by
  obtain ⟨ts, hts, rfl⟩ := transposeOp_cont_ok h
  obtain ⟨_, hoks, _⟩ := (StructOK_cont_iff u k td ops).mp hok
  have hf' : TFormOKList ops := by simpa only [TFormOK] using hf
  have hw' : WFTList ops := by simpa only [Op.WFT] using hw
  have hS' : AllLeavesList (fun u c p => c = .toeplitz → toepK p.vals = none → LeafSymAt E u p) ops := by
    simpa only [EnvSymOn, AllLeaves] using hS
  exact ⟨ts, rfl, tAtList E ops ts hS' hoks hf' hw' hts⟩

/-- **C10, transposes, closed**: for a well-formed block row `R` whose dense leaves have a shared block array, `R.T`
(the form the model computes) is a block column `.cont 0 .blockCol td ts` whose dense matrix is the vertical stacking of the matrices
of the transposes of the blocks of `R` -/
theorem asMatrix_transposeOp_blockRow (E : Env) (hE : EnvAdd E) (u : Nat) (td : TreeDef) (ops : List Op) (t : Op)
    (hS : EnvSymOn E (.cont u .blockRow td ops)) (hok : StructOK (.cont u .blockRow td ops))
    (hf : TFormOK (.cont u .blockRow td ops)) (hw : (Op.cont u .blockRow td ops).WFT)
    (h : transposeOp (.cont u .blockRow td ops) = .ok t)
    (i : Fin (inSize (.cont u .blockRow td ops))) (j : Fin (outSize (.cont u .blockRow td ops))) :
    asMatrix E hE t (outSize (.cont u .blockRow td ops)) (inSize (.cont u .blockRow td ops)) i j =
      blockColEntry (blockMatsT E ops) i j := by
  obtain ⟨ts, rfl, hrel⟩ := transposeOp_block_forms E u .blockRow td ops t hS hok hf hw h
  rw [← blockMats_of_TRel E ops ts hrel]
  refine asMatrix_blockCol E hE 0 td ts _ _ (fun t ht => ?_) i j
  -- the forms `ts[k]` take inputs of the output size of the row, like the blocks they transpose
  obtain ⟨k, hk, rfl⟩ := List.getElem_of_mem ht
  have hr := (List.forall₂_iff_get.mp hrel).2 k (hrel.length_eq ▸ hk) hk
  exact (congrArg Struct.size hr.2.1).trans (outSize_of_mem_blockRow u td ops hok _ (List.get_mem _ _))

theorem asMatrix_transposeOp_blockCol (E : Env) (hE : EnvAdd E) (u : Nat) (td : TreeDef) (ops : List Op) (t : Op)
    (hS : EnvSymOn E (.cont u .blockCol td ops)) (hok : StructOK (.cont u .blockCol td ops))
    (hf : TFormOK (.cont u .blockCol td ops)) (hw : (Op.cont u .blockCol td ops).WFT)
    (h : transposeOp (.cont u .blockCol td ops) = .ok t)
    (i : Fin (inSize (.cont u .blockCol td ops))) (j : Fin (outSize (.cont u .blockCol td ops))) :
    asMatrix E hE t (outSize (.cont u .blockCol td ops)) (inSize (.cont u .blockCol td ops)) i j =
      blockRowEntry (blockMatsT E ops) i j := by
  obtain ⟨ts, rfl, hrel⟩ := transposeOp_block_forms E u .blockCol td ops t hS hok hf hw h
  rw [← blockMats_of_TRel E ops ts hrel]
  exact asMatrix_blockRow E hE 0 td ts _ _ i j

theorem asMatrix_transposeOp_blockDiag (E : Env) (hE : EnvAdd E) (u : Nat) (td : TreeDef) (ops : List Op) (t : Op)
    (hS : EnvSymOn E (.cont u .blockDiag td ops)) (hok : StructOK (.cont u .blockDiag td ops))
    (hf : TFormOK (.cont u .blockDiag td ops)) (hw : (Op.cont u .blockDiag td ops).WFT)
    (h : transposeOp (.cont u .blockDiag td ops) = .ok t)
    (i : Fin (inSize (.cont u .blockDiag td ops))) (j : Fin (outSize (.cont u .blockDiag td ops))) :
    asMatrix E hE t (outSize (.cont u .blockDiag td ops)) (inSize (.cont u .blockDiag td ops)) i j =
      blockDiagEntry (blockMatsT E ops) i j := by
  obtain ⟨ts, rfl, hrel⟩ := transposeOp_block_forms E u .blockDiag td ops t hS hok hf hw h
  rw [← blockMats_of_TRel E ops ts hrel]
  exact asMatrix_blockDiag E hE 0 td ts _ _ i j

end Matrices

/-! ### the same through Mathlib's `finSigmaFinEquiv` and `Matrix.blockDiagonal'`

The flattened index `finSigmaFinEquiv ⟨k, a⟩ : Fin (∑ k, size k)` is "position `a` of band `k`"; Mathlib's
`Matrix.blockDiagonal'` is the block-diagonal matrix indexed by such pairs. -/

section Sigma
open Matrix

theorem offset_eq_finSum (ns : List Nat) : ∀ (k : Nat) (hk : k ≤ ns.length),
    offset ns k = ∑ i : Fin k, ns[i.val]'(by omega)
  | 0, _ => by simp
  | k + 1, hk => by
    rw [Fin.sum_univ_castSucc]
    simp only [Fin.val_castSucc, Fin.val_last]
    rw [← offset_eq_finSum ns k (by omega)]
    exact List.sum_take_succ ns k (by omega)

theorem finSum_eq_sum_map (ops : List Op) (f : Op → Nat) :
    ∑ k : Fin ops.length, f ops[k] = (ops.map f).sum := by
  have h := offset_eq_finSum (ops.map f) ops.length (by simp)
  rw [offset, List.take_of_length_le (by simp)] at h
  rw [h]
  apply Fintype.sum_equiv (finCongr (by simp))
  intro k
  simp

/-- `finSigmaFinEquiv ⟨k, a⟩` is position `a` of band `k` (`s` stands for the flattened index, which is slow to
elaborate, so that it is written once) -/
theorem finSigma_band (ops : List Op) (f : Op → Nat) (k : Fin ops.length) (a : Fin (f ops[k])) (s : Nat)
    (hs : s = (finSigmaFinEquiv (n := fun k : Fin ops.length => f ops[k]) ⟨k, a⟩ : Fin _)) :
    InBand (ops.map f) k s ∧ s - offset (ops.map f) k = a := by
  have hk : k < (ops.map f).length := by rw [List.length_map]; exact k.2
  have hv : s = offset (ops.map f) k + a := by
    rw [hs, finSigmaFinEquiv_apply, offset_eq_finSum (ops.map f) k hk.le]
    simp only [List.getElem_map]
    rfl
  have hlt : (a : Nat) < (ops.map f).getD k 0 := by
    rw [List.getD_eq_getElem _ _ hk, List.getElem_map]; exact a.2
  subst hv
  exact ⟨⟨Nat.le_add_right _ _, Nat.add_lt_add_left hlt _⟩, Nat.add_sub_cancel_left ..⟩

/-- **`as_matrix()` of a block diagonal is `Matrix.blockDiagonal'` of the `as_matrix()` of the blocks**, the pairs
(band, position) being flattened by `finSigmaFinEquiv` (the sizes `∑ k, inSize ops[k]`, `∑ k, outSize ops[k]` are
the declared ones: `finSum_eq_sum_map`, `inSize_blockDiag`, `outSize_blockDiag`) -/
theorem asMatrix_blockDiag_eq_blockDiagonal' (E : Env) (hE : EnvAdd E) (u : Nat) (td : TreeDef) (ops : List Op) :
    asMatrix E hE (.cont u .blockDiag td ops) (∑ k : Fin ops.length, inSize ops[k])
        (∑ k : Fin ops.length, outSize ops[k]) =
      Matrix.reindex finSigmaFinEquiv finSigmaFinEquiv
        (Matrix.blockDiagonal' fun k : Fin ops.length => asMatrix E hE ops[k] (inSize ops[k]) (outSize ops[k])) := by
  ext i j
  obtain ⟨⟨k, a⟩, rfl⟩ := finSigmaFinEquiv.surjective i
  obtain ⟨⟨k', b⟩, rfl⟩ := finSigmaFinEquiv.surjective j
  obtain ⟨ha, ha'⟩ := finSigma_band ops outSize k a _ rfl
  obtain ⟨hb, hb'⟩ := finSigma_band ops inSize k' b _ rfl
  rw [Matrix.reindex_apply, Matrix.submatrix_apply, Equiv.symm_apply_apply, Equiv.symm_apply_apply,
    Matrix.blockDiagonal'_apply]
  by_cases h : k = k'
  · subst h
    rw [dif_pos rfl, asMatrix_blockDiag_band E hE u td ops _ _ _ _ k k.2 ha hb]
    congr 1
    · exact Fin.ext ha'
    · exact Fin.ext hb'
  · rw [dif_neg h]
    exact asMatrix_blockDiag_off E hE u td ops _ _ _ _ k k' (fun e => h (Fin.ext e)) ha hb

/-- **block row**: column `(k, b)` is column `b` of block `k` -/
theorem asMatrix_blockRow_sigma (E : Env) (hE : EnvAdd E) (u : Nat) (td : TreeDef) (ops : List Op) (m : Nat)
    (i : Fin m) (q : (k : Fin ops.length) × Fin (inSize ops[k])) :
    asMatrix E hE (.cont u .blockRow td ops) (∑ k : Fin ops.length, inSize ops[k]) m i (finSigmaFinEquiv q) =
      asMatrix E hE ops[q.1] (inSize ops[q.1]) m i q.2 := by
  obtain ⟨k, b⟩ := q
  obtain ⟨hb, hb'⟩ := finSigma_band ops inSize k b _ rfl
  rw [asMatrix_blockRow_band E hE u td ops _ m i _ k k.2 hb]
  congr 1
  exact Fin.ext hb'

/-- **block column**: row `(k, a)` is row `a` of block `k` -/
theorem asMatrix_blockCol_sigma (E : Env) (hE : EnvAdd E) (u : Nat) (td : TreeDef) (ops : List Op) (n : Nat)
    (hcol : ∀ o ∈ ops, inSize o = n) (p : (k : Fin ops.length) × Fin (outSize ops[k])) (j : Fin n) :
    asMatrix E hE (.cont u .blockCol td ops) n (∑ k : Fin ops.length, outSize ops[k]) (finSigmaFinEquiv p) j =
      asMatrix E hE ops[p.1] n (outSize ops[p.1]) p.2 j := by
  obtain ⟨k, a⟩ := p
  obtain ⟨ha, ha'⟩ := finSigma_band ops outSize k a _ rfl
  rw [asMatrix_blockCol_band E hE u td ops n _ hcol _ j k k.2 ha]
  congr 1
  exact Fin.ext ha'

end Sigma

/-! ### a concrete example: two blocks of different sizes in a `dict` container

`A = IndexOperator([1, 1])` (a `2 × 3` matrix) and `D = DiagonalOperator([2, 3, 5])` (`3 × 3`), in the container
`{'a': ·, 'b': ·}`. -/

namespace BlockExamples
open Examples LinExamples Matrix

/-- the treedef of `{'a': *, 'b': *}` -/
def tdD : TreeDef := [.node "dict:a,b" 2, .leaf, .leaf]

def opA : Op := .leaf 4 .index idxP
def opD : Op := .leaf 5 .diagonal diagQ

/-- `BlockDiagonalOperator({'a': A, 'b': D})`: `ℝ⁶ → ℝ⁵` -/
def exDiag : Op := .cont 6 .blockDiag tdD [opA, opD]

/-- `BlockColumnOperator({'a': A, 'b': D})`: `ℝ³ → ℝ⁵` -/
def exCol : Op := .cont 7 .blockCol tdD [opA, opD]

theorem exDiag_sizes : inSize exDiag = 6 ∧ outSize exDiag = 5 := by decide

theorem exCol_sizes : inSize exCol = 3 ∧ outSize exCol = 5 := by decide

theorem exCol_ok : StructOK exCol := by
  simp only [exCol, StructOK, WTExpr, WTList, ContOK]
  refine ⟨by simp, ⟨trivial, trivial, trivial⟩, rfl, ?_⟩
  intro o ho
  simp only [List.mem_cons, List.not_mem_nil, or_false] at ho
  rcases ho with rfl | rfl <;> rfl

theorem entry_opA (E : Env) (i j : Nat) : entry E opA i j = (den E opA (unitVec 3 j)).getD i 0 := rfl

theorem entry_opD (E : Env) (i j : Nat) : entry E opD i j = (den E opD (unitVec 3 j)).getD i 0 := rfl

theorem unitVec_three (k : Nat) :
    unitVec 3 k = [if 0 = k then 1 else 0, if 1 = k then 1 else 0, if 2 = k then 1 else 0] := rfl

/-- the matrices of the two blocks in closed form; an entry at concrete indices then evaluates to a numeral by
`rfl` -/
theorem blockMats_opA_opD (E : Env) : blockMats E [opA, opD] =
    [(2, 3, fun i j => [if 1 = j then (1 : ℝ) else 0, if 1 = j then 1 else 0].getD i 0),
     (3, 3, fun i j => [if 0 = j then (2 : ℝ) else 0, if 1 = j then 3 else 0, if 2 = j then 5 else 0].getD i 0)] := by
  have hA : entry E opA = fun i j => [if 1 = j then (1 : ℝ) else 0, if 1 = j then 1 else 0].getD i 0 := by
    funext i j
    rw [entry_opA, unitVec_three, opA, den_idx]
  have hD : entry E opD =
      fun i j => [if 0 = j then (2 : ℝ) else 0, if 1 = j then 3 else 0, if 2 = j then 5 else 0].getD i 0 := by
    funext i j
    rw [entry_opD, unitVec_three, opD, den_diagQ]
    simp only [mul_ite, mul_one, mul_zero]
  rw [blockMats, List.map_cons, List.map_cons, List.map_nil, hA, hD]
  rfl

theorem asMatrix_opA (E : Env) (hE : EnvAdd E) : asMatrix E hE opA 3 2 = !![0, 1, 0; 0, 1, 0] := by
  ext i j
  rw [asMatrix_apply, unitVec_three, opA, den_idx]
  fin_cases i <;> fin_cases j <;> rfl

theorem asMatrix_opD (E : Env) (hE : EnvAdd E) : asMatrix E hE opD 3 3 = !![2, 0, 0; 0, 3, 0; 0, 0, 5] := by
  ext i j
  rw [asMatrix_apply, unitVec_three, opD, den_diagQ]
  simp only [mul_ite, mul_one, mul_zero]
  fin_cases i <;> fin_cases j <;> rfl

/-- **the dense matrix of the block diagonal, computed by the general theorem**:
```
  0 1 0 | 0 0 0
  0 1 0 | 0 0 0
  ------+------
  0 0 0 | 2 0 0
  0 0 0 | 0 3 0
  0 0 0 | 0 0 5
``` -/
theorem asMatrix_exDiag (E : Env) (hE : EnvAdd E) :
    asMatrix E hE exDiag 6 5 =
      !![0, 1, 0, 0, 0, 0;
         0, 1, 0, 0, 0, 0;
         0, 0, 0, 2, 0, 0;
         0, 0, 0, 0, 3, 0;
         0, 0, 0, 0, 0, 5] := by
  ext i j
  rw [exDiag, asMatrix_blockDiag, blockMats_opA_opD]
  fin_cases i <;> fin_cases j <;> rfl

/-- **the dense matrix of the block column**: `A` stacked over `D` -/
theorem asMatrix_exCol (E : Env) (hE : EnvAdd E) :
    asMatrix E hE exCol 3 5 =
      !![0, 1, 0;
         0, 1, 0;
         2, 0, 0;
         0, 3, 0;
         0, 0, 5] := by
  ext i j
  rw [exCol, asMatrix_blockCol E hE 7 tdD [opA, opD] 3 5 (by decide), blockMats_opA_opD]
  fin_cases i <;> fin_cases j <;> rfl

/-- by bands: entry `(3, 4)` of the block diagonal is entry `(1, 1)` of `D` (row band 1 starts at 2, column band 1
at 3) -/
example (E : Env) (hE : EnvAdd E) :
    asMatrix E hE exDiag 6 5 3 4 = asMatrix E hE opD 3 3 1 1 :=
  asMatrix_blockDiag_band E hE 6 tdD [opA, opD] 6 5 3 4 1 (by decide) (by unfold InBand; decide)
    (by unfold InBand; decide)

end BlockExamples

end ListSem
end Furax

