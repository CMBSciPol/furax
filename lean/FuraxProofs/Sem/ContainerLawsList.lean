/-
Container laws of the list denotation (FuraxProofs/Sem/ListSem.lean), given that operators return vectors of their
declared size (`LenLaw E`, which `ListSem.lenLaw` proves of every `E`): the four block products (row·diag→row, diag·col→col,
diag·diag→diag, row·col→add), congruence of the block operators and of sums, and a block diagonal of identity leaves.

`ProdRelL E` / `CongRelL E` are `ProdRel A` / `CongRel A` (FuraxProofs/Lemmas/RuleSound.lean, ReduceSound.lean)
with `A.den := den E` and `A.mem s x := x.length = s.size` (`ListSem.mem`).
-/
import FuraxProofs.Sem.ListSemBasic
import FuraxProofs.Lemmas.ReduceSound
namespace Furax
namespace ListSem
open Op

theorem headChunk_of_le {n : Nat} {x : V} (h : n ≤ x.length) : headChunk n x = x.take n :=
  fit_eq_self (by rw [List.length_take]; omega)

theorem nest_inSList_size (td : TreeDef) (ops : List Op) :
    (Struct.nest td (inSList ops)).size = (ops.map inSize).sum := by
  rw [nest_size, inSList_sizes]

theorem rowApp_cons_append (E : Env) (o : Op) (os : List Op) {a : V} (b : V) (h : a.length = inSize o) :
    rowApp E (o :: os) (a ++ b) = vadd (den E o a) (rowApp E os b) := by
  rw [rowApp, headChunk_append b h, List.drop_left' h]

theorem diagApp_cons_append (E : Env) (o : Op) (os : List Op) {a : V} (b : V) (h : a.length = inSize o) :
    diagApp E (o :: os) (a ++ b) = fit (outSize o) (den E o a) ++ diagApp E os b := by
  rw [diagApp, headChunk_append b h, List.drop_left' h]

/-- `ProdRel A` (FuraxProofs/Lemmas/RuleSound.lean) with `A.den := den E`, `A.mem := ListSem.mem`:
slot-wise, `ps[i]` has the structures and the denotation of `ls[i] ∘ rs[i]` -/
def ProdRelL (E : Env) : List Op → List Op → List Op → Prop
  | [], [], [] => True
  | l :: ls, r :: rs, p :: ps =>
    (Op.inS l = Op.outS r ∧ Op.inS p = Op.inS r ∧ Op.outS p = Op.outS l ∧
      ∀ x, mem (Op.inS r) x → den E p x = den E l (den E r x)) ∧ ProdRelL E ls rs ps
  | _, _, _ => False

/-- `CongRel A` (FuraxProofs/Lemmas/ReduceSound.lean) with `A.den := den E`, `A.mem := ListSem.mem` -/
def CongRelL (E : Env) : List Op → List Op → Prop
  | [], [] => True
  | o :: os, o' :: os' =>
    (Op.inS o' = Op.inS o ∧ Op.outS o' = Op.outS o ∧ ∀ x, mem (Op.inS o) x → den E o' x = den E o x) ∧
      CongRelL E os os'
  | _, _ => False

/-- induction on the slots of `ProdRelL`: the lists have the same length, and a slot gives the four facts -/
theorem ProdRelL.induction {E : Env} {motive : (ls rs ps : List Op) → ProdRelL E ls rs ps → Prop}
    (nil : motive [] [] [] trivial)
    (cons : ∀ {l r p ls rs ps} (hlr : Op.inS l = Op.outS r) (hpr : Op.inS p = Op.inS r)
      (hpl : Op.outS p = Op.outS l) (hd : ∀ x, mem (Op.inS r) x → den E p x = den E l (den E r x))
      (h : ProdRelL E ls rs ps), motive ls rs ps h →
      motive (l :: ls) (r :: rs) (p :: ps) ⟨⟨hlr, hpr, hpl, hd⟩, h⟩) :
    ∀ ls rs ps (h : ProdRelL E ls rs ps), motive ls rs ps h := by
  intro ls
  induction ls with
  | nil =>
    intro rs ps h
    cases rs <;> cases ps <;> first | exact nil | exact h.elim
  | cons l ls ih =>
    intro rs ps h
    cases rs with
    | nil => exact h.elim
    | cons r rs =>
      cases ps with
      | nil => exact h.elim
      | cons p ps => exact cons h.1.1 h.1.2.1 h.1.2.2.1 h.1.2.2.2 h.2 (ih rs ps h.2)

theorem CongRelL.induction {E : Env} {motive : (os os' : List Op) → CongRelL E os os' → Prop}
    (nil : motive [] [] trivial)
    (cons : ∀ {o o' os os'} (hi : Op.inS o' = Op.inS o) (ho : Op.outS o' = Op.outS o)
      (hd : ∀ x, mem (Op.inS o) x → den E o' x = den E o x) (h : CongRelL E os os'), motive os os' h →
      motive (o :: os) (o' :: os') ⟨⟨hi, ho, hd⟩, h⟩) :
    ∀ os os' (h : CongRelL E os os'), motive os os' h := by
  intro os
  induction os with
  | nil =>
    intro os' h
    cases os' with
    | nil => exact nil
    | cons _ _ => exact h.elim
  | cons o os ih =>
    intro os' h
    cases os' with
    | nil => exact h.elim
    | cons o' os' => exact cons h.1.1 h.1.2.1 h.1.2.2 h.2 (ih os' h.2)

/-- `ProdRelL` is literally `ProdRel` of any arithmetic semantics whose `den`/`mem` are those of the lists -/
theorem ProdRelL_iff (E : Env) (A : ArithSem V) (hden : A.den = den E) (hmem : ∀ s x, A.mem s x ↔ mem s x)
    (ls rs ps : List Op) : ProdRel A ls rs ps ↔ ProdRelL E ls rs ps := by
  induction ls generalizing rs ps with
  | nil => cases rs <;> cases ps <;> simp [ProdRel, ProdRelL]
  | cons l ls ih =>
    cases rs with
    | nil => simp [ProdRel, ProdRelL]
    | cons r rs =>
      cases ps with
      | nil => simp [ProdRel, ProdRelL]
      | cons p ps => simp only [ProdRel, ProdRelL, ih, hden, hmem]

theorem CongRelL_iff (E : Env) (A : ArithSem V) (hden : A.den = den E) (hmem : ∀ s x, A.mem s x ↔ mem s x)
    (os os' : List Op) : CongRel A os os' ↔ CongRelL E os os' := by
  induction os generalizing os' with
  | nil => cases os' <;> simp [CongRel, CongRelL]
  | cons o os ih =>
    cases os' with
    | nil => simp [CongRel, CongRelL]
    | cons o' os' => simp only [CongRel, CongRelL, ih, hden, hmem]

/-! ### block products, on lists of operands

In each slot the right operand returns a vector of its declared length (`LenLaw`), which is the input length of
the left operand, so the left container splits the result of the right one at the slot boundaries. -/

section
variable (E : Env)

/-- row · diag → row -/
theorem row_diag_list (hlen : LenLaw E) (ls rs ps : List Op) (h : ProdRelL E ls rs ps)
    (hr : ∀ o ∈ rs, StructOK o) (x : V) :
    rowApp E ps x = rowApp E ls (diagApp E rs x) := by
  induction ls, rs, ps, h using ProdRelL.induction generalizing x with
  | nil => rfl
  | @cons l r p _ rs _ hlr hpr _ hd _ ih =>
    have hrl := hlen.1 r (hr r List.mem_cons_self) (headChunk (inSize r) x)
    have hli : outSize r = inSize l := congrArg Struct.size hlr.symm
    have hpi : inSize p = inSize r := congrArg Struct.size hpr
    have hR : diagApp E (r :: rs) x = den E r (headChunk (inSize r) x) ++ diagApp E rs (x.drop (inSize r)) := by
      rw [diagApp, fit_eq_self hrl]
    rw [hR, rowApp_cons_append E l _ _ (hrl.trans hli), rowApp, hpi,
      hd (headChunk (inSize r) x) (headChunk_length _ _), ih (fun o ho => hr o (List.mem_cons_of_mem _ ho))]

/-- diag · diag → diag -/
theorem diag_diag_list (hlen : LenLaw E) (ls rs ps : List Op) (h : ProdRelL E ls rs ps)
    (hr : ∀ o ∈ rs, StructOK o) (x : V) :
    diagApp E ps x = diagApp E ls (diagApp E rs x) := by
  induction ls, rs, ps, h using ProdRelL.induction generalizing x with
  | nil => rfl
  | @cons l r p _ rs _ hlr hpr hpl hd _ ih =>
    have hrl := hlen.1 r (hr r List.mem_cons_self) (headChunk (inSize r) x)
    have hli : outSize r = inSize l := congrArg Struct.size hlr.symm
    have hpi : inSize p = inSize r := congrArg Struct.size hpr
    have hpo : outSize p = outSize l := congrArg Struct.size hpl
    have hR : diagApp E (r :: rs) x = den E r (headChunk (inSize r) x) ++ diagApp E rs (x.drop (inSize r)) := by
      rw [diagApp, fit_eq_self hrl]
    rw [hR, diagApp_cons_append E l _ _ (hrl.trans hli), diagApp, hpi, hpo,
      hd (headChunk (inSize r) x) (headChunk_length _ _), ih (fun o ho => hr o (List.mem_cons_of_mem _ ho))]

/-- diag · col → col; every operand of the column takes the whole input -/
theorem diag_col_list (hlen : LenLaw E) (ls rs ps : List Op) (h : ProdRelL E ls rs ps)
    (hr : ∀ o ∈ rs, StructOK o) (x : V) (hx : ∀ o ∈ rs, x.length = inSize o) :
    colApp E ps x = diagApp E ls (colApp E rs x) := by
  induction ls, rs, ps, h using ProdRelL.induction with
  | nil => rfl
  | @cons l r p _ rs _ hlr _ hpl hd _ ih =>
    have hrl := hlen.1 r (hr r List.mem_cons_self) x
    have hli : outSize r = inSize l := congrArg Struct.size hlr.symm
    have hpo : outSize p = outSize l := congrArg Struct.size hpl
    have hR : colApp E (r :: rs) x = den E r x ++ colApp E rs x := by rw [colApp, fit_eq_self hrl]
    rw [hR, diagApp_cons_append E l _ _ (hrl.trans hli), colApp, hpo, hd x (hx r List.mem_cons_self),
      ih (fun o ho => hr o (List.mem_cons_of_mem _ ho)) (fun o ho => hx o (List.mem_cons_of_mem _ ho))]

/-- row · col → add -/
theorem row_col_list (hlen : LenLaw E) (ls rs ps : List Op) (h : ProdRelL E ls rs ps)
    (hr : ∀ o ∈ rs, StructOK o) (x : V) (hx : ∀ o ∈ rs, x.length = inSize o) :
    sumApp E ps x = rowApp E ls (colApp E rs x) := by
  induction ls, rs, ps, h using ProdRelL.induction with
  | nil => rfl
  | @cons l r p _ rs _ hlr _ _ hd _ ih =>
    have hrl := hlen.1 r (hr r List.mem_cons_self) x
    have hli : outSize r = inSize l := congrArg Struct.size hlr.symm
    have hR : colApp E (r :: rs) x = den E r x ++ colApp E rs x := by rw [colApp, fit_eq_self hrl]
    rw [hR, rowApp_cons_append E l _ _ (hrl.trans hli), sumApp, hd x (hx r List.mem_cons_self),
      ih (fun o ho => hr o (List.mem_cons_of_mem _ ho)) (fun o ho => hx o (List.mem_cons_of_mem _ ho))]

/-- the operands of a well-formed block column (or sum) all take vectors of the container's input size -/
theorem col_input_sizes (ops : List Op) (h : ∀ o ∈ ops, Op.inS o = inSHead ops) (x : V)
    (hx : x.length = (inSHead ops).size) : ∀ o ∈ ops, x.length = inSize o := by
  intro o ho
  rw [hx, inSize, h o ho]

/-- **The four block rules** (`RuleLaws.block_law` for the list denotation): the container of the slot-wise
products denotes the product of the containers.  Only the right operands need to be structurally well formed
(their results must have the declared length for the left container to split them correctly). -/
theorem block_law_list (hlen : LenLaw E) (lk rk res : ContCls) (ht : BlockTriple lk rk res)
    (ul ur u : Nat) (td : TreeDef) (lops rops prods : List Op)
    (_hlok : ContOK lk td lops) (hrok : ContOK rk td rops) (_hne : lops ≠ [])
    (hrel : ProdRelL E lops rops prods)
    (hrw : ∀ o ∈ rops, StructOK o)
    (_hlr : Op.inS (.cont ul lk td lops) = Op.outS (.cont ur rk td rops))
    (x : V) (hx : mem (Op.inS (.cont ur rk td rops)) x) :
    den E (.cont u res td prods) x = den E (.cont ul lk td lops) (den E (.cont ur rk td rops) x) := by
  rcases ht with ⟨rfl, rfl, rfl⟩ | ⟨rfl, rfl, rfl⟩ | ⟨rfl, rfl, rfl⟩ | ⟨rfl, rfl, rfl⟩
  · exact row_diag_list E hlen lops rops prods hrel hrw x
  · exact diag_col_list E hlen lops rops prods hrel hrw x (col_input_sizes rops hrok.2 x hx)
  · exact diag_diag_list E hlen lops rops prods hrel hrw x
  · exact row_col_list E hlen lops rops prods hrel hrw x (col_input_sizes rops hrok.2 x hx)

theorem rowApp_congr (os os' : List Op) (h : CongRelL E os os') (x : V) :
    rowApp E os' x = rowApp E os x := by
  induction os, os', h using CongRelL.induction generalizing x with
  | nil => rfl
  | @cons o o' _ _ hi _ hd _ ih =>
    have hii : inSize o' = inSize o := congrArg Struct.size hi
    rw [rowApp, rowApp, hii, hd (headChunk (inSize o) x) (headChunk_length _ _), ih]

theorem diagApp_congr (os os' : List Op) (h : CongRelL E os os') (x : V) :
    diagApp E os' x = diagApp E os x := by
  induction os, os', h using CongRelL.induction generalizing x with
  | nil => rfl
  | @cons o o' _ _ hi ho hd _ ih =>
    have hii : inSize o' = inSize o := congrArg Struct.size hi
    have hoo : outSize o' = outSize o := congrArg Struct.size ho
    rw [diagApp, diagApp, hii, hoo, hd (headChunk (inSize o) x) (headChunk_length _ _), ih]

theorem colApp_congr (os os' : List Op) (h : CongRelL E os os') (x : V)
    (hx : ∀ o ∈ os, x.length = inSize o) : colApp E os' x = colApp E os x := by
  induction os, os', h using CongRelL.induction with
  | nil => rfl
  | @cons o o' _ _ _ ho hd _ ih =>
    have hoo : outSize o' = outSize o := congrArg Struct.size ho
    rw [colApp, colApp, hoo, hd x (hx o List.mem_cons_self), ih (fun o ho => hx o (List.mem_cons_of_mem _ ho))]

theorem sumApp_congr (os os' : List Op) (h : CongRelL E os os') (x : V)
    (hx : ∀ o ∈ os, x.length = inSize o) : sumApp E os' x = sumApp E os x := by
  induction os, os', h using CongRelL.induction with
  | nil => rfl
  | @cons o o' _ _ _ _ hd _ ih =>
    rw [sumApp, sumApp, hd x (hx o List.mem_cons_self), ih (fun o ho => hx o (List.mem_cons_of_mem _ ho))]

/-- **Congruence of the block operators** (`ContainerLaws.cont_congr` for the list denotation): replacing every
block by one with the same structures and the same denotation on its input space does not change the
denotation, nor does the Python identity of the object.  Neither `LenLaw` nor the well-formedness of the operands
is needed. -/
theorem cont_congr_list (u u' : Nat) (k : ContCls) (td : TreeDef) (ops ops' : List Op) (hk : k ≠ .add)
    (hok : ContOK k td ops) (hrel : CongRelL E ops ops')
    (x : V) (hx : mem (Op.inS (.cont u k td ops)) x) :
    den E (.cont u' k td ops') x = den E (.cont u k td ops) x := by
  cases k with
  | add => exact absurd rfl hk
  | blockRow => exact rowApp_congr E ops ops' hrel x
  | blockDiag => exact diagApp_congr E ops ops' hrel x
  | blockCol => exact colApp_congr E ops ops' hrel x (col_input_sizes ops hok.2 x hx)

/-- the same for sums (the framework derives it from `ArithSem.add_law`) -/
theorem add_congr_list (u u' : Nat) (td : TreeDef) (ops ops' : List Op)
    (hok : ContOK .add td ops) (hrel : CongRelL E ops ops')
    (x : V) (hx : mem (Op.inS (.cont u .add td ops)) x) :
    den E (.cont u' .add td ops') x = den E (.cont u .add td ops) x :=
  sumApp_congr E ops ops' hrel x (col_input_sizes ops (fun o ho => (hok.2 o ho).1) x hx)

theorem den_identity (u : Nat) (p : Params) (x : V) (hx : x.length = p.inS.size) :
    den E (.leaf u .identity p) x = x :=
  Laws.identity_law E _ rfl x hx

theorem diagApp_identities (ops : List Op) (hid : ∀ o ∈ ops, o.isIdentity = true) (x : V)
    (hx : x.length = (ops.map inSize).sum) : diagApp E ops x = x := by
  induction ops generalizing x with
  | nil => rw [List.length_eq_zero_iff.mp hx]; rfl
  | cons o os ih =>
    rw [List.map_cons, List.sum_cons] at hx
    have hid' := hid o List.mem_cons_self
    have hc : (headChunk (inSize o) x).length = inSize o := headChunk_length _ _
    have hsq : outSize o = inSize o := congrArg Struct.size (OpSem.identity_square o hid').symm
    rw [diagApp, Laws.identity_law E o hid' _ hc, hsq, fit_eq_self hc, headChunk_of_le (by omega),
      ih (fun o ho => hid o (List.mem_cons_of_mem _ ho)) _ (by rw [List.length_drop]; omega),
      List.take_append_drop]

/-- **`BlockDiagonalOperator.reduce`** (`ContainerLaws.blockdiag_identities` for the list denotation): a block
diagonal of identity leaves is the identity on vectors of the input size. -/
theorem blockdiag_identities_list (u : Nat) (td : TreeDef) (ops : List Op)
    (hid : ∀ o ∈ ops, o.isIdentity = true)
    (x : V) (hx : mem (Struct.nest td (inSList ops)) x) :
    den E (.cont u .blockDiag td ops) x = x :=
  diagApp_identities E ops hid x (by rw [← nest_inSList_size td ops]; exact hx)

end

end ListSem
end Furax
