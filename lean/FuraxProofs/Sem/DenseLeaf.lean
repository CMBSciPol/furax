/-
The dense einsum leaf (`DenseBlockDiagonalOperator`, src/furax/_base/dense.py) as a map on flat real vectors, in the
vocabulary of the closed list denotation: ONE block array shared by all the leaves (`Params.vals`), the executable
kernel `Einsum.einsum2` (FuraxModel/EinsumEval.lean) applied to every leaf, the results concatenated.  The
definitions (`denseKernel`, `denseLeaf`, `dualParams`, `denseLeafT`) are in FuraxProofs/Sem/ListSem.lean; the leaf
laws of the denotation (LeafHom, ListModel, AdjointList, LinearList) use this file.

`DenseCert p` / `denseOK p` is the validity predicate: the subscripts parse, the block term has no blank, the
transposer accepts them, the output letters are distinct, and every leaf fits its term EXACTLY (`LeafFits`: the input
and output leaves carry the whole ellipsis shape `es`, the blocks a suffix `eB` of it; no size-1 axis is stretched).

Proved here: lengths and the declared output structure; linearity, for EVERY `p`; `denseLeafT p` is the adjoint of
`denseLeaf p`, the form `transposeOp` builds is the dense leaf of `dualParams p`, which is valid again, and
transposing twice gives back the same map; the executable check `denseCheck` of FuraxModel/DenseCheck.lean
(compiled into the driver: `(valid OP)`) DECIDES `denseOK` (`fitsB_complete`: the witnesses of `LeafFits` are
determined by the shapes).  The dense matrix is in FuraxProofs/Sem/DenseMatrix.lean, the statements by property and
the concrete instances in FuraxProofs/Props/C14Closed.lean.  The parser reads the printed subscripts back
(`Einsum.parseSubscripts_readback`): no hypothesis on `String.splitOn` is needed.
-/
import FuraxProofs.Sem.ListSemBasic
import FuraxProofs.Sem.DotList
import FuraxProofs.Sem.AddList
import FuraxProofs.Props.C14Eval
import FuraxProofs.Lemmas.SplitOnReadBack
import FuraxModel.DenseCheck
namespace Furax
namespace ListSem
open Op Einsum

/-- the form model of `.T` on a dense leaf -/
theorem transposeOp_dense (u : Nat) (p : Params) :
    transposeOp (.leaf u .dense p) = (dualParams p).map fun p' => .leaf 0 .dense p' := by
  unfold transposeOp dualParams
  simp only [isSymmetricLeaf]
  cases transposedSubscripts p.str <;> rfl

/-- `dualParams` from the three terms: the string is what `_get_transposed_subscripts` prints for them -/
theorem dualParams_of (p : Params) (l r o s' : String) (hp : parseSubscripts p.str = .ok (l, r, o))
    (ht : (transposeCore (· == '.') l.toList r.toList o.toList).map
      (fun l' => String.ofList l' ++ "," ++ r ++ "->" ++ o) = .ok s') :
    dualParams p = .ok { p with inS := p.outS, outS := p.inS, str := s' } := by
  unfold dualParams transposedSubscripts
  rw [hp]
  cases h : transposeCore (· == '.') l.toList r.toList o.toList with
  | error e => rw [h] at ht; cases ht
  | ok l' => rw [h] at ht; cases ht; simp only [bind, Except.bind, h, pure, Except.pure]

theorem denseLeafT_of_dual {p p' : Params} (h : dualParams p = .ok p') : denseLeafT p = denseLeaf p' := by
  unfold denseLeafT
  rw [h]

theorem einsum2_wf {α : Type} [Zero α] [_root_.Add α] [Mul α] (subs : String) (B x out : Tensor α)
    (h : einsum2 subs B x = .ok out) : out.data.length = prodNat out.shape := by
  rw [einsum2, einsum2With_eq] at h
  obtain ⟨p, -, h⟩ := except_bind_eq_ok h
  obtain ⟨-, rfl⟩ := einsumCore_ok_inv h
  rw [coreOut, List.length_map, multiIndices_length]

/-- on operands of shape `sh` the data of `einsum2` are those of ONE `coreOut` (the labelling is made from the ranks,
acceptance depends on the shapes), or nothing -/
theorem exData_einsum2_cases (subs : String) (B : Tensor ℝ) (sh : List ℕ) :
    (∀ d, exData (einsum2 subs B ⟨sh, d⟩) = []) ∨
      ∃ Lb Rb Ob : List Lbl, ∀ d, exData (einsum2 subs B ⟨sh, d⟩) = (coreOut Lb Rb Ob B ⟨sh, d⟩).data := by
  simp only [einsum2, einsum2With_eq]
  cases planOf .numpy subs B.shape.length sh.length with
  | error e => exact .inl fun _ => rfl
  | ok p =>
    cases hok : coreOK p.Lb p.Rb p.Ob B.shape sh
    · exact .inl fun d => congrArg exData (einsumCore_of_not_ok (x := ⟨sh, d⟩) hok)
    · exact .inr ⟨p.Lb, p.Rb, p.Ob, fun d => congrArg exData ((einsumCore_eq _ _ _ B ⟨sh, d⟩).trans (if_pos hok))⟩

theorem denseKernel_add (subs : String) (vals : Tensor Rat) (li lo : LeafS) :
    Add (denseKernel subs vals li lo) := by
  intro x y
  have hl : (fit li.size y).length = (fit li.size x).length := by rw [fit_length, fit_length]
  unfold denseKernel
  rw [fit_vadd, vadd_eq_zipWith _ _ hl.symm]
  obtain he | ⟨Lb, Rb, Ob, hc⟩ := exData_einsum2_cases subs (castT vals) li.shape
  · rw [he, he, he]; rfl
  · rw [hc, hc, hc]
    exact (congrArg Tensor.data (coreOut_tadd Lb Rb Ob _ ⟨li.shape, fit li.size x⟩ ⟨li.shape, fit li.size y⟩ rfl hl)).trans
      (vadd_eq_zipWith _ _ (by simp only [coreOut, List.length_map])).symm

theorem denseKernel_hom (subs : String) (vals : Tensor Rat) (li lo : LeafS) :
    Hom (denseKernel subs vals li lo) := by
  intro a x
  unfold denseKernel
  rw [fit_map]
  obtain he | ⟨Lb, Rb, Ob, hc⟩ := exData_einsum2_cases subs (castT vals) li.shape
  · rw [he, he]; rfl
  · rw [hc, hc]
    exact congrArg Tensor.data (coreOut_tsmul Lb Rb Ob _ ⟨_, _⟩ a)

/-- **(b) `mv` is additive**, on all inputs (`vadd` pads the shorter vector) — no validity hypothesis -/
theorem denseLeaf_add (p : Params) : Add (denseLeaf p) :=
  perLeaf_vadd _ (denseKernel_add p.str p.vals) _ _

/-- **(b) `mv` is homogeneous** — no validity hypothesis -/
theorem denseLeaf_hom (p : Params) : Hom (denseLeaf p) := fun a x =>
  perLeaf_map _ a (fun li lo x => denseKernel_hom p.str p.vals li lo a x) _ _ x

theorem denseLeafT_add (p : Params) : Add (denseLeafT p) := by
  unfold denseLeafT
  cases dualParams p with
  | error e => intro x y; rfl
  | ok p' => exact denseLeaf_add p'

theorem denseLeafT_hom (p : Params) : Hom (denseLeafT p) := by
  unfold denseLeafT
  cases dualParams p with
  | error e => intro a x; rfl
  | ok p' => exact denseLeaf_hom p'

/-- **one leaf fits the three terms exactly**: the letters have the sizes `d`; the input leaf `li` and the output leaf
`lo` carry the whole ellipsis shape `es` between their letters, the blocks a suffix `eB` of it (all of it, part of it,
or nothing) — no size-1 axis is stretched, the blocks are never broadcast against the input along an axis the input
does not have.  `es = []` when the output has no ellipsis, `eB = []` when the blocks have none. -/
def LeafFits (tl tr tO : Term) (bshape : List Nat) (li lo : LeafS) : Prop :=
  ∃ (d : Char → ℕ) (es eB : List ℕ), eB <:+ es ∧ (tl.ell = false → eB = []) ∧ (tO.ell = true ∨ es = []) ∧
    bshape = tl.pre.map d ++ eB ++ tl.post.map d ∧
    li.shape = tr.pre.map d ++ es ++ tr.post.map d ∧
    lo.shape = tO.pre.map d ++ es ++ tO.post.map d

/-- **a certificate of validity of a dense leaf** (data: the three terms as strings and parsed, the rewritten block
term) -/
structure DenseCert (p : Params) where
  l : String
  r : String
  o : String
  tl : Term
  tr : Term
  tO : Term
  l' : List Char
  /-- `_parse_subscripts` accepts the string -/
  parse : parseSubscripts p.str = .ok (l, r, o)
  /-- the three terms are einsum terms -/
  pl : parseTerm l.toList = .ok tl
  pr : parseTerm r.toList = .ok tr
  po : parseTerm o.toList = .ok tO
  /-- the block term has no blank (the Python constructor removes them) -/
  chars : ∀ c ∈ l.toList, isLetter c = true ∨ c = '.'
  /-- `_get_transposed_subscripts` accepts the three terms -/
  transp : transposeCore (· == '.') l.toList r.toList o.toList = .ok l'
  /-- einsum refuses a repeated output letter -/
  nodup : tO.letters.Nodup
  /-- every input leaf, with the output leaf declared for it, fits the terms exactly -/
  fits : List.Forall₂ (LeafFits tl tr tO p.vals.shape) p.inS.leaves p.outS.leaves

/-- **validity of a dense leaf** -/
def denseOK (p : Params) : Prop := Nonempty (DenseCert p)

theorem parseTermAux_chars (cs : List Char) (t0 t1 : Term) (h : parseTermAux cs t0 = .ok t1) :
    ∀ c ∈ cs, isLetter c = true ∨ c = ' ' ∨ c = '.' := by
  fun_induction parseTermAux cs t0 with
  | case1 t => exact fun c hc => nomatch hc
  | case2 a cs t ha ih => exact List.forall_mem_cons.mpr ⟨.inl ha, ih h⟩
  | case3 a cs t ha hsp ih => exact List.forall_mem_cons.mpr ⟨.inr (.inl (eq_of_beq hsp)), ih h⟩
  | case4 a t ha hsp hdot c1 c2 cs' hcond ih =>
    simp only [Bool.and_eq_true, beq_iff_eq] at hcond hdot
    exact List.forall_mem_cons.mpr ⟨.inr (.inr hdot), List.forall_mem_cons.mpr ⟨.inr (.inr hcond.1.1),
      List.forall_mem_cons.mpr ⟨.inr (.inr hcond.1.2), ih h⟩⟩⟩
  | case5 | case6 | case7 => cases h

theorem parseTerm_clean (cs : List Char) (t : Term) (h : parseTerm cs = .ok t) : ',' ∉ cs ∧ '-' ∉ cs := by
  constructor <;> intro hc <;> rcases parseTermAux_chars cs _ t h _ hc with h | h | h <;> revert h <;> decide

/-- the parser reads back the subscripts that `_get_transposed_subscripts` prints -/
theorem parseSubscripts_transposed (l r o : String) (tl tr tO : Term) (hpl : parseTerm l.toList = .ok tl)
    (hpr : parseTerm r.toList = .ok tr) (hpo : parseTerm o.toList = .ok tO)
    (hchars : ∀ c ∈ l.toList, isLetter c = true ∨ c = '.') (l' : List Char)
    (ht : transposeCore (· == '.') l.toList r.toList o.toList = .ok l') :
    parseSubscripts (String.ofList l' ++ "," ++ r ++ "->" ++ o) = .ok (String.ofList l', r, o) := by
  obtain ⟨s, t, -, -, -, -, -, -, -, hpl', -⟩ := transposeCore_terms _ _ _ _ _ _ _ hpl hpr hpo hchars ht
  have := parseSubscripts_readback l' r.toList o.toList (parseTerm_clean l' _ hpl').1 (parseTerm_clean _ tr hpr).1
    (parseTerm_clean _ tO hpo).1 (parseTerm_clean _ tr hpr).2 (parseTerm_clean _ tO hpo).2
  rwa [String.ofList_toList, String.ofList_toList] at this

namespace DenseCert
variable {p : Params} (C : DenseCert p)

/-- the rewritten subscripts -/
def str' : String := String.ofList C.l' ++ "," ++ C.r ++ "->" ++ C.o

theorem transposed : transposedSubscripts p.str = .ok C.str' := by
  unfold transposedSubscripts
  simp only [C.parse, C.transp, bind, Except.bind, pure, Except.pure, str']

/-- the parameters of the transposed leaf -/
def dual : Params := { p with inS := p.outS, outS := p.inS, str := C.str' }

theorem dualParams_eq : dualParams p = .ok C.dual := by
  unfold dualParams
  rw [C.transposed]
  rfl

theorem denseLeafT_eq : denseLeafT p = denseLeaf C.dual := denseLeafT_of_dual C.dualParams_eq

theorem parse' : parseSubscripts C.str' = .ok (String.ofList C.l', C.r, C.o) :=
  parseSubscripts_transposed C.l C.r C.o _ _ _ C.pl C.pr C.po C.chars _ C.transp

/-- the two letters that the rewriting exchanges -/
theorem terms : ∃ s t : Char, isLetter s = true ∧ isLetter t = true ∧ C.l' = C.l.toList.map (Equiv.swap s t) ∧
    parseTerm C.l' = .ok (C.tl.map (Equiv.swap s t)) ∧ C.tO = C.tr.map (Equiv.swap s t) := by
  obtain ⟨s, t, hs, ht, -, -, hl', -, -, hpl', htO⟩ :=
    transposeCore_terms _ _ _ _ _ _ _ C.pl C.pr C.po C.chars C.transp
  exact ⟨s, t, hs, ht, hl', hpl', htO⟩

end DenseCert

theorem forall₂_length {α β : Type} {R : α → β → Prop} {l₁ : List α} {l₂ : List β} (h : List.Forall₂ R l₁ l₂) :
    l₁.length = l₂.length := h.length_eq

/-- whatever `p`, as long as there are as many output leaves as input leaves -/
theorem denseLeaf_length_gen (p : Params) (h : p.inS.leaves.length = p.outS.leaves.length) (x : V) :
    (denseLeaf p x).length = p.outS.size :=
  perLeaf_length _ _ _ x h

/-- **(a)** `mv` returns one entry per element of the declared output structure -/
theorem denseLeaf_length (p : Params) (h : denseOK p) (x : V) : (denseLeaf p x).length = p.outS.size := by
  obtain ⟨C⟩ := h
  exact denseLeaf_length_gen p C.fits.length_eq x

theorem denseLeafT_length (p : Params) (h : denseOK p) (y : V) : (denseLeafT p y).length = p.inS.size := by
  obtain ⟨C⟩ := h
  rw [C.denseLeafT_eq]
  exact denseLeaf_length_gen C.dual C.fits.length_eq.symm y

/-- the two evaluations of `einsum2` on a leaf that fits, with everything the theorems below need -/
theorem DenseCert.eval {p : Params} (C : DenseCert p) (li lo : LeafS)
    (hf : LeafFits C.tl C.tr C.tO p.vals.shape li lo) (c d : V) (hc : c.length = li.size)
    (hd : d.length = lo.size) :
    ∃ out1 out2 : Tensor ℝ, einsum2 p.str (castT p.vals) ⟨li.shape, c⟩ = .ok out1 ∧
      einsum2 C.str' (castT p.vals) ⟨lo.shape, d⟩ = .ok out2 ∧
      out1.shape = lo.shape ∧ out2.shape = li.shape ∧ dot out1.data d = dot c out2.data := by
  obtain ⟨dd, es, eB, hBs, hBell, hoell, hB, hx, hy⟩ := hf
  obtain ⟨out1, out2, h1, h2, hs1, hs2, hdot⟩ :=
    einsumTerms_adjoint_ellipsis (α := ℝ) .numpy C.l.toList C.r.toList C.o.toList C.l' C.tl C.tr C.tO C.pl C.pr C.po
      C.chars C.transp C.nodup dd es eB hBs hBell hoell (castT p.vals) ⟨li.shape, c⟩ ⟨lo.shape, d⟩ hB hx hy hc hd
  refine ⟨out1, out2, ?_, ?_, hs1, hs2, hdot⟩
  · rw [C14.einsum2_eq_terms p.str C.l C.r C.o C.parse]; exact h1
  · rw [C14.einsum2_eq_terms C.str' _ C.r C.o C.parse', String.toList_ofList]; exact h2

/-- **(a) the declared output leaves are the shapes `Einsum.outShape` computes** -/
theorem denseOK_outShape (p : Params) (C : DenseCert p) :
    List.Forall₂ (fun li lo => outShape p.str p.vals.shape li.shape = .ok lo.shape) p.inS.leaves p.outS.leaves := by
  refine C.fits.imp fun li lo hf => ?_
  obtain ⟨out1, out2, h1, -, hs1, -, -⟩ :=
    C.eval li lo hf (List.replicate li.size 0) (List.replicate lo.size 0) (by simp) (by simp)
  have := einsum2_shape p.str (castT p.vals) (⟨li.shape, List.replicate li.size 0⟩ : Tensor ℝ)
  rw [h1] at this
  rw [← hs1]
  exact this.symm

/-- **(c) `denseLeafT p` is the adjoint of `denseLeaf p`** for the Euclidean pairing of flat vectors -/
theorem denseLeaf_adjoint (p : Params) (h : denseOK p) (x y : V) (hx : x.length = p.inS.size)
    (hy : y.length = p.outS.size) : dot (denseLeaf p x) y = dot x (denseLeafT p y) := by
  obtain ⟨C⟩ := h
  rw [C.denseLeafT_eq]
  refine perLeaf_adjoint (LeafFits C.tl C.tr C.tO p.vals.shape) (denseKernel p.str p.vals)
    (denseKernel C.str' p.vals) _ _ C.fits (fun li lo hf c d hc hd => ?_) x y hx hy
  obtain ⟨out1, out2, h1, h2, -, -, hdot⟩ := C.eval li lo hf c d hc hd
  unfold denseKernel
  rw [fit_eq_self hc, fit_eq_self hd, h1, h2]
  simp only [exData]
  rw [dot_fit_left _ _ _ (le_of_eq hd), dot_fit_right _ _ _ (le_of_eq hc)]
  exact hdot

/-- **(c) the form the model of `.T` builds is the dense leaf whose `mv` is `denseLeafT p`** -/
theorem transposeOp_dense_ok (u : Nat) (p : Params) (h : denseOK p) :
    ∃ p', transposeOp (.leaf u .dense p) = .ok (.leaf 0 .dense p') ∧ dualParams p = .ok p' ∧
      denseLeaf p' = denseLeafT p := by
  obtain ⟨C⟩ := h
  refine ⟨C.dual, ?_, C.dualParams_eq, C.denseLeafT_eq.symm⟩
  rw [transposeOp_dense, C.dualParams_eq]
  rfl

/-- **`_get_transposed_subscripts` is an involution**: it accepts the subscripts it produced and gives back the
original block term -/
theorem transposeCore_dual {ι : Type} [DecidableEq ι] (isDot : ι → Bool) (L R O L' : List ι)
    (h : transposeCore isDot L R O = .ok L') : transposeCore isDot L' R O = .ok L := by
  obtain ⟨s, t, hs, ht, hr, hL'⟩ := (transposeCore_ok_iff isDot L R O L').1 h
  obtain ⟨-, hsL, -, hsO⟩ := contracted_singleton hs
  obtain ⟨-, htL, -, htR⟩ := freeBlock_singleton ht
  refine (transposeCore_ok_iff isDot L' R O L).2 ⟨s, t, ?_, ?_, hr, ?_⟩
  · rw [hL']
    exact contracted_swapAll isDot L R O s t hs htL htR
  · rw [hL', swapAll_eq_map_swap, Equiv.swap_comm, ← swapAll_eq_map_swap]
    exact contracted_swapAll isDot L O R t s ht hsL hsO
  · rw [hL', swapAll_swapAll]

theorem Term.map_map_swap (s t : Char) (T : Term) : (T.map (Equiv.swap s t)).map (Equiv.swap s t) = T := by
  cases T
  simp [Term.map, List.map_map, Function.comp_def]

/-- the shape a term describes is unchanged when its letters and the sizes are renamed together -/
theorem termShape_map_swap (s t : Char) (d : Char → ℕ) (T : Term) (e : List ℕ) :
    (T.map (Equiv.swap s t)).pre.map (d ∘ Equiv.swap s t) ++ e ++ (T.map (Equiv.swap s t)).post.map (d ∘ Equiv.swap s t)
      = T.pre.map d ++ e ++ T.post.map d := by
  simp [Term.map, List.map_map, Function.comp_def]

namespace DenseCert
variable {p : Params} (C : DenseCert p)

/-- **the certificate of the transposed leaf**, given the two letters that `transposeCore` exchanges -/
def dualCert (s t : Char) (hs : isLetter s = true) (ht : isLetter t = true)
    (hl' : C.l' = C.l.toList.map (Equiv.swap s t)) (hpl' : parseTerm C.l' = .ok (C.tl.map (Equiv.swap s t)))
    (htO : C.tO = C.tr.map (Equiv.swap s t)) : DenseCert C.dual where
  l := String.ofList C.l'
  r := C.r
  o := C.o
  tl := C.tl.map (Equiv.swap s t)
  tr := C.tr
  tO := C.tO
  l' := C.l.toList
  parse := C.parse'
  pl := by rw [String.toList_ofList]; exact hpl'
  pr := C.pr
  po := C.po
  chars := by
    intro c hc
    rw [String.toList_ofList, hl', List.mem_map] at hc
    obtain ⟨b, hb, rfl⟩ := hc
    have hπ := swap_letterPerm s t hs ht
    rcases C.chars b hb with h | h
    · exact .inl ((hπ.letter b).trans h)
    · rw [hπ.fix b (by rw [h]; decide)]
      exact .inr h
  transp := by rw [String.toList_ofList]; exact transposeCore_dual _ _ _ _ _ C.transp
  nodup := C.nodup
  fits := by
    have htr : C.tr = C.tO.map (Equiv.swap s t) := by rw [htO, Term.map_map_swap]
    refine C.fits.flip.imp fun lo li hf => ?_
    obtain ⟨d, es, eB, hBs, hBell, hoell, hB, hx, hy⟩ := hf
    refine ⟨d ∘ Equiv.swap s t, es, eB, hBs, hBell, hoell, ?_, ?_, ?_⟩
    · exact hB.trans (termShape_map_swap s t d C.tl eB).symm
    · rw [hy, htr]
      exact (termShape_map_swap s t d C.tO es).symm
    · rw [hx, htO]
      exact (termShape_map_swap s t d C.tr es).symm

end DenseCert

/-- **(c) the transposed leaf is valid** -/
theorem denseOK_dual (p p' : Params) (h : denseOK p) (hd : dualParams p = .ok p') : denseOK p' := by
  obtain ⟨C⟩ := h
  rw [C.dualParams_eq] at hd
  cases hd
  obtain ⟨s, t, hs, ht, hl', hpl', htO⟩ := C.terms
  exact ⟨C.dualCert s t hs ht hl' hpl' htO⟩

/-- `einsum2` depends on the string through the three terms only -/
theorem denseKernel_congr (s1 s2 : String) (t : String × String × String) (h1 : parseSubscripts s1 = .ok t)
    (h2 : parseSubscripts s2 = .ok t) (vals : Tensor Rat) : denseKernel s1 vals = denseKernel s2 vals := by
  obtain ⟨l, r, o⟩ := t
  funext li lo x
  unfold denseKernel
  rw [C14.einsum2_eq_terms s1 l r o h1, C14.einsum2_eq_terms s2 l r o h2]

/-- transposing twice changes only the subscripts, to a string with the same three terms.  (The string stays behind
the `∃`: comparing the parameters field by field would otherwise unfold string appends.) -/
theorem DenseCert.dual_dual {p : Params} (C : DenseCert p) :
    ∃ s, dualParams C.dual = .ok { p with str := s } ∧ parseSubscripts s = .ok (C.l, C.r, C.o) := by
  obtain ⟨s, t, hs, ht, hl', hpl', htO⟩ := C.terms
  have h := (C.dualCert s t hs ht hl' hpl' htO).parse'
  change parseSubscripts _ = .ok (String.ofList C.l.toList, C.r, C.o) at h
  rw [String.ofList_toList] at h
  exact ⟨_, (C.dualCert s t hs ht hl' hpl' htO).dualParams_eq, h⟩

/-- **(c) transposing twice gives back the same map**: `A.T.T` has the structures and the block array of `A`, and its
`mv` is the `mv` of `A` (its subscripts are the three terms of `A` printed again) -/
theorem denseLeaf_dual_dual (p : Params) (h : denseOK p) :
    ∃ p' p'', dualParams p = .ok p' ∧ dualParams p' = .ok p'' ∧ denseLeaf p'' = denseLeaf p ∧
      p''.inS = p.inS ∧ p''.outS = p.outS ∧ p''.vals = p.vals ∧ denseLeafT p' = denseLeaf p := by
  obtain ⟨C⟩ := h
  obtain ⟨s, hd, hs⟩ := C.dual_dual
  have hdd : denseLeaf { p with str := s } = denseLeaf p :=
    congrArg (fun k => perLeaf k p.inS.leaves p.outS.leaves) (denseKernel_congr s p.str _ hs C.parse p.vals)
  refine ⟨C.dual, _, C.dualParams_eq, hd, hdd, rfl, rfl, rfl, ?_⟩
  unfold denseLeafT
  rw [hd]
  exact hdd

section Cast
variable {α β : Type} [Semiring α] [Semiring β] (φ : α →+* β)

theorem entryAt_map (t : Tensor α) (idx : List ℕ) : entryAt (t.map φ) idx = φ (entryAt t idx) := by
  unfold entryAt Tensor.map
  simp only
  rw [← map_zero φ, List.getD_map]

theorem coreEntry_mapHom {ι : Type} [DecidableEq ι] (Lb Rb Ob S : List ι) (ss : List ℕ) (B x : Tensor α)
    (oi : List ℕ) :
    coreEntry Lb Rb Ob S ss (B.map φ) (x.map φ) oi = φ (coreEntry Lb Rb Ob S ss B x oi) := by
  unfold coreEntry
  rw [map_list_sum, List.map_map]
  congr 1
  apply List.map_congr_left
  intro si _
  simp only [Function.comp, entryAt_map, map_mul]
  rfl

theorem einsumCore_mapHom {ι : Type} [DecidableEq ι] (Lb Rb Ob : List ι) (B x : Tensor α) :
    einsumCore Lb Rb Ob (B.map φ) (x.map φ) = (einsumCore Lb Rb Ob B x).map (Tensor.map φ) := by
  unfold einsumCore
  have hB : (B.map φ).shape = B.shape := rfl
  have hx : (x.map φ).shape = x.shape := rfl
  rw [hB, hx]
  split
  · simp only [Except.map, Tensor.map, List.map_map]
    congr 2
    apply List.map_congr_left
    intro oi _
    exact coreEntry_mapHom φ _ _ _ _ _ B x oi
  · rfl

theorem einsumTerms_mapHom (dia : Dialect) (l r o : List Char) (B x : Tensor α) :
    einsumTerms dia l r o (B.map φ) (x.map φ) = (einsumTerms dia l r o B x).map (Tensor.map φ) := by
  unfold einsumTerms
  have hB : (B.map φ).rank = B.rank := rfl
  have hx : (x.map φ).rank = x.rank := rfl
  rw [hB, hx]
  cases plan dia l r o B.rank x.rank with
  | error e => rfl
  | ok q => exact einsumCore_mapHom φ _ _ _ B x

end Cast

/-- **evaluating the kernel**: if the subscripts parse to `l,r->o` and the executable einsum over `ℚ` (which the Lean
kernel can run) returns `out` on a rational leaf `c`, the real kernel returns the cast of `out` -/
theorem denseKernel_eval (subs l r o : String) (hp : parseSubscripts subs = .ok (l, r, o)) (vals : Tensor Rat)
    (li lo : LeafS) (c : List Rat) (hc : c.length = li.size) (out : Tensor Rat)
    (h : einsumTerms .numpy l.toList r.toList o.toList vals ⟨li.shape, c⟩ = .ok out) :
    denseKernel subs vals li lo (c.map fun (q : Rat) => (q : ℝ)) = out.data.map fun (q : Rat) => (q : ℝ) := by
  unfold denseKernel
  rw [fit_eq_self (by simpa using hc), C14.einsum2_eq_terms subs l r o hp]
  have := einsumTerms_mapHom (Rat.castHom ℝ) .numpy l.toList r.toList o.toList vals ⟨li.shape, c⟩
  rw [h] at this
  exact congrArg exData this

/-- **evaluating `mv`** on a structure with one leaf: `x` is the cast of the rational leaf `c`, `y` the cast of the
values the executable einsum returns on `c`, fitted to the declared output leaf -/
theorem denseLeaf_eval {p : Params} {l r o : String} (hp : parseSubscripts p.str = .ok (l, r, o)) {li lo : LeafS}
    (hi : p.inS.leaves = [li]) (ho : p.outS.leaves = [lo]) (c : List Rat) (hc : c.length = li.size)
    (out : Tensor Rat) (h : einsumTerms .numpy l.toList r.toList o.toList p.vals ⟨li.shape, c⟩ = .ok out)
    {x y : V} (hx : x = c.map fun (q : Rat) => (q : ℝ))
    (hy : y = fit lo.size (out.data.map fun (q : Rat) => (q : ℝ))) : denseLeaf p x = y := by
  unfold denseLeaf
  rw [hx, hy, hi, ho, perLeaf_cons, perLeaf_nil_left, List.append_nil, headChunk_eq_fit,
    @fit_eq_self li.size (c.map _) (by rwa [List.length_map]),
    denseKernel_eval p.str l r o hp p.vals li lo c hc out h]

/-! ### the executable check of `denseOK` (FuraxModel/DenseCheck.lean: `fitsB`, `denseCheckTerms`, `denseCheck`) is
sound AND complete -/

/-- the model's `denseSharedb` (FuraxModel/DenseCheck.lean) is `denseShared` -/
theorem denseSharedb_eq (p : Params) : denseSharedb p = denseShared p := rfl

theorem fitsB_sound (tl tr tO : Term) (bshape : List ℕ) (li lo : LeafS) (h : fitsB tl tr tO bshape li lo = true) :
    LeafFits tl tr tO bshape li lo := by
  unfold fitsB at h
  simp only [Bool.and_eq_true, Bool.or_eq_true, beq_iff_eq, List.isSuffixOf_iff_suffix] at h
  obtain ⟨⟨⟨⟨⟨h1, h2⟩, h3⟩, h4⟩, h5⟩, h6⟩ := h
  refine ⟨_, _, _, h1, fun he => h2.resolve_left ?_, h3, h4, h5, h6⟩
  rw [he]
  exact Bool.false_ne_true

/-- the check is sound, given how the string splits -/
theorem denseOK_of_check (p : Params) (l r o : String) (hp : parseSubscripts p.str = .ok (l, r, o))
    (h : denseCheckTerms l.toList r.toList o.toList p = true) : denseOK p := by
  unfold denseCheckTerms at h
  split at h
  · rename_i tl tr tO l' hl hr ho ht
    simp only [Bool.and_eq_true, beq_iff_eq] at h
    obtain ⟨⟨⟨h1, h2⟩, h3⟩, h4⟩ := h
    refine ⟨{ l := l, r := r, o := o, tl := tl, tr := tr, tO := tO, l' := l', parse := hp, pl := hl, pr := hr,
              po := ho, chars := ?_, transp := ht, nodup := (nodupB_iff _).1 h2, fits := ?_ }⟩
    · intro c hc
      simpa using List.all_eq_true.1 h1 c hc
    · exact List.forall₂_iff_zip.2 ⟨h3, fun {a b} hab =>
        fitsB_sound tl tr tO p.vals.shape a b (List.all_eq_true.1 h4 (a, b) hab)⟩
  · cases h

theorem denseOK_of_denseCheck (p : Params) (h : denseCheck p = true) : denseOK p := by
  unfold denseCheck at h
  split at h
  · rename_i l r o hp
    exact denseOK_of_check p l r o hp h
  · cases h

/-- the check on the string is the check on the three terms the string splits into (the split itself does not reduce
in the Lean kernel; `parseSubscripts_readback` gives it) -/
theorem denseCheck_eq_terms (p : Params) (l r o : String) (hp : parseSubscripts p.str = .ok (l, r, o)) :
    denseCheck p = denseCheckTerms l.toList r.toList o.toList p := by
  unfold denseCheck
  rw [hp]

theorem denseReason_eq_terms (p : Params) (l r o : String) (hp : parseSubscripts p.str = .ok (l, r, o)) :
    denseReason p = denseReasonTerms l.toList r.toList o.toList p := by
  unfold denseReason
  rw [hp]

/-! #### completeness: the shapes determine the witnesses of `LeafFits` -/

theorem zip_map_append {α β : Type} (f : α → β) (r : List β) :
    ∀ l : List α, l.zip (l.map f ++ r) = l.map fun c => (c, f c)
  | [] => by simp
  | a :: l => by simp [zip_map_append f r l]

theorem ellShape_fit (d : Char → ℕ) (t : Term) (e : List ℕ) :
    ellShape t (t.pre.map d ++ e ++ t.post.map d) = e := by
  unfold ellShape Term.nLetters
  rw [List.append_assoc, List.drop_left' (by simp)]
  apply List.take_left'
  simp only [List.length_append, List.length_map]
  omega

theorem termPairs_fit (d : Char → ℕ) (t : Term) (e : List ℕ) :
    termPairs t (t.pre.map d ++ e ++ t.post.map d) = (t.pre ++ t.post).map fun c => (c, d c) := by
  unfold termPairs
  have h1 : (t.pre.map d ++ e ++ t.post.map d).length - t.post.length = (t.pre.map d ++ e).length := by
    simp only [List.length_append, List.length_map]
    omega
  rw [h1, List.drop_left, List.append_assoc, zip_map_append, zip_map_self, List.map_append]

theorem termShape_congr {D d : Char → ℕ} (t : Term) (e : List ℕ) (h : ∀ c ∈ t.pre ++ t.post, D c = d c) :
    t.pre.map D ++ e ++ t.post.map D = t.pre.map d ++ e ++ t.post.map d := by
  rw [List.map_congr_left fun c hc => h c (List.mem_append_left _ hc),
    List.map_congr_left fun c hc => h c (List.mem_append_right _ hc)]

/-- **`fitsB` is complete**: the witnesses of `LeafFits` are the ones `fitsB` computes -/
theorem fitsB_complete (tl tr tO : Term) (bshape : List ℕ) (li lo : LeafS) (h : LeafFits tl tr tO bshape li lo) :
    fitsB tl tr tO bshape li lo = true := by
  obtain ⟨d, es, eB, h1, h2, h3, hB, hx, hy⟩ := h
  have hes : ellShape tr li.shape = es := by rw [hx]; exact ellShape_fit d tr es
  have heB : ellShape tl bshape = eB := by rw [hB]; exact ellShape_fit d tl eB
  have key : ∀ c ∈ tl.pre ++ tl.post ++ (tr.pre ++ tr.post) ++ (tO.pre ++ tO.post),
      letterSizes (termPairs tl bshape ++ termPairs tr li.shape ++ termPairs tO lo.shape) c = d c := by
    rw [hB, hx, hy, termPairs_fit, termPairs_fit, termPairs_fit, ← List.map_append, ← List.map_append]
    exact fun c hc => congrArg (Option.getD · 0) (List.lookup_graph d hc)
  unfold fitsB
  simp only [hes, heB]
  rw [termShape_congr tl eB fun c hc => key c (List.mem_append_left _ (List.mem_append_left _ hc)),
    termShape_congr tr es fun c hc => key c (List.mem_append_left _ (List.mem_append_right _ hc)),
    termShape_congr tO es fun c hc => key c (List.mem_append_right _ hc)]
  simp only [Bool.and_eq_true, Bool.or_eq_true, beq_iff_eq, List.isSuffixOf_iff_suffix]
  refine ⟨⟨⟨⟨⟨h1, ?_⟩, h3⟩, hB⟩, hx⟩, hy⟩
  cases he : tl.ell
  · exact Or.inr (h2 he)
  · exact Or.inl rfl

theorem denseCheck_of_denseOK (p : Params) (h : denseOK p) : denseCheck p = true := by
  obtain ⟨C⟩ := h
  rw [denseCheck_eq_terms p C.l C.r C.o C.parse]
  unfold denseCheckTerms
  simp only [C.pl, C.pr, C.po, C.transp, Bool.and_eq_true, beq_iff_eq, List.all_eq_true]
  refine ⟨⟨⟨?_, (nodupB_iff _).2 C.nodup⟩, C.fits.length_eq⟩, ?_⟩
  · intro c hc
    simpa using C.chars c hc
  · rintro ⟨a, b⟩ hq
    exact fitsB_complete _ _ _ _ a b ((List.forall₂_iff_zip.1 C.fits).2 hq)

/-- **`denseCheck` decides `denseOK`** -/
theorem denseCheck_iff (p : Params) : denseCheck p = true ↔ denseOK p :=
  ⟨denseOK_of_denseCheck p, denseCheck_of_denseOK p⟩

instance (p : Params) : Decidable (denseOK p) := decidable_of_iff _ (denseCheck_iff p)

theorem ite_not_some_eq_none {α : Type} (b : Bool) (a : α) (x : Option α) :
    (if (!b) = true then some a else x) = none ↔ b = true ∧ x = none := by
  cases b <;> simp

/-- `denseReasonTerms` runs through the conjuncts of `denseCheckTerms` in order -/
theorem denseReasonTerms_none_iff (l r o : List Char) (p : Params) :
    denseReasonTerms l r o p = none ↔ denseCheckTerms l r o p = true := by
  unfold denseReasonTerms denseCheckTerms
  cases parseTerm l with
  | error _ => simp
  | ok tl =>
  cases parseTerm r with
  | error _ => simp
  | ok tr =>
  cases parseTerm o with
  | error _ => simp
  | ok tO =>
  simp only [ite_not_some_eq_none]
  cases transposeCore (· == '.') l r o with
  | error _ => simp
  | ok l' => simp only [bne, ite_not_some_eq_none, Bool.and_eq_true, and_assoc, and_true]

theorem denseReason_none_iff (p : Params) : denseReason p = none ↔ denseCheck p = true := by
  unfold denseReason denseCheck
  cases parseSubscripts p.str with
  | error e => simp
  | ok t => exact denseReasonTerms_none_iff _ _ _ p

end ListSem
end Furax
