/-
The dense matrix of the einsum leaf (FuraxProofs/Sem/DenseLeaf.lean), through the bridge to Mathlib's linear maps and
matrices of FuraxProofs/Sem/LinearList.lean (`linOf` / `matOf`, for standalone maps of flat vectors), and the closed
denotation of the leaf operator.  The statements about `denseMatrix` and `asMatrix` are in
FuraxProofs/Props/C14Closed.lean.
-/
import FuraxProofs.Sem.LinearList
import FuraxProofs.Sem.DenseLeaf
namespace Furax
namespace ListSem
open Op Einsum

section MatrixBridge
open Matrix

/-- the linear map `ℝⁿ → ℝᵐ` of an additive and homogeneous map of flat vectors (the standalone form of
`toLinearMapN`, FuraxProofs/Sem/LinearList.lean) -/
noncomputable def linOf (f : V → V) (hadd : Add f) (hhom : Hom f) (n m : Nat) :
    (Fin n → ℝ) →ₗ[ℝ] (Fin m → ℝ) where
  toFun v := toFn m (f (List.ofFn v))
  map_add' v w := by rw [ofFn_add, hadd, toFn_vadd]
  map_smul' a v := by
    rw [ofFn_smul, hhom, toFn_smul]
    rfl

/-- its matrix (`as_matrix()`) -/
noncomputable def matOf (f : V → V) (hadd : Add f) (hhom : Hom f) (n m : Nat) : Matrix (Fin m) (Fin n) ℝ :=
  LinearMap.toMatrix' (linOf f hadd hhom n m)

theorem matOf_apply (f : V → V) (hadd : Add f) (hhom : Hom f) (n m : Nat) (i : Fin m) (j : Fin n) :
    matOf f hadd hhom n m i j = (f (unitVec n j)).getD i 0 := by
  rw [matOf, C04.generic_as_matrix_columns]
  show toFn m (f (List.ofFn (Pi.single j (1 : ℝ)))) i = _
  rw [ofFn_single]
  rfl

theorem eq_matOf_mulVec (f : V → V) (hadd : Add f) (hhom : Hom f) (n m : Nat) (hlen : ∀ x, (f x).length = m)
    (v : Fin n → ℝ) : f (List.ofFn v) = List.ofFn (matOf f hadd hhom n m *ᵥ v) := by
  rw [matOf, C04.mv_eq_as_matrix_mulVec]
  exact (ofFn_toFn m _ (hlen _)).symm

theorem matOf_of_adjoint (f g : V → V) (hf : Add f) (hf' : Hom f) (hg : Add g) (hg' : Hom g) (n m : Nat)
    (h : ∀ (v : Fin n → ℝ) (w : Fin m → ℝ),
      dot (f (List.ofFn v)) (List.ofFn w) = dot (List.ofFn v) (g (List.ofFn w))) :
    matOf g hg hg' m n = (matOf f hf hf' n m)ᵀ := by
  ext j i
  rw [Matrix.transpose_apply, matOf, matOf, C04.generic_as_matrix_columns, C04.generic_as_matrix_columns]
  show toFn n (g (List.ofFn (Pi.single i (1 : ℝ)))) j = toFn m (f (List.ofFn (Pi.single j (1 : ℝ)))) i
  have := h (Pi.single j 1) (Pi.single i 1)
  rw [dot_ofFn_left, dot_comm, dot_ofFn_left, single_one_dotProduct, single_one_dotProduct] at this
  exact this.symm

/-- **the dense matrix of the einsum leaf**, `p.outS.size × p.inS.size` -/
noncomputable def denseMatrix (p : Params) : Matrix (Fin p.outS.size) (Fin p.inS.size) ℝ :=
  matOf (denseLeaf p) (denseLeaf_add p) (denseLeaf_hom p) p.inS.size p.outS.size

/-- the dense matrix of its transpose -/
noncomputable def denseMatrixT (p : Params) : Matrix (Fin p.inS.size) (Fin p.outS.size) ℝ :=
  matOf (denseLeafT p) (denseLeafT_add p) (denseLeafT_hom p) p.outS.size p.inS.size

theorem denseMatrixT_apply (p : Params) (i : Fin p.inS.size) (j : Fin p.outS.size) :
    denseMatrixT p i j = (denseLeafT p (unitVec p.outS.size j)).getD i 0 := matOf_apply ..

theorem denseLeafT_eq_mulVec (p : Params) (h : denseOK p) (w : Fin p.outS.size → ℝ) :
    denseLeafT p (List.ofFn w) = List.ofFn (denseMatrixT p *ᵥ w) :=
  eq_matOf_mulVec _ _ _ _ _ (denseLeafT_length p h) w

theorem den_dense (E : Env) (p : Params) (hs : denseShared p = true) (u : Nat) (x : V) :
    den E (.leaf u .dense p) x = fit p.outS.size (denseLeaf p (fit p.inS.size x)) := by
  simp [den, leafDen, squareLeaf, hs]

theorem denT_dense (E : Env) (p : Params) (hs : denseShared p = true) (u : Nat) (y : V) :
    denT E (.leaf u .dense p) y = fit p.inS.size (denseLeafT p (fit p.outS.size y)) := by
  simp [denT, leafDenT, squareLeaf, hs]

/-- a valid dense leaf with a shared block array is a valid expression for the closed adjoint theorems (C03), and
it needs NOTHING of the environment -/
theorem dense_validT (u : Nat) (p : Params) (hs : denseShared p = true) (h : denseOK p) :
    ValidT (.leaf u .dense p) ∧ (Op.leaf u .dense p).WFT ∧
      AllLeaves (fun _ c p => isEnvLeaf c p = false) (.leaf u .dense p) := by
  refine ⟨⟨⟨fun _ => h, by simp⟩, fun _ => hs⟩, ?_, ?_⟩
  · simp [Op.WFT, isSymmetricLeaf]
  · simp [AllLeaves, isEnvLeaf, hs]

end MatrixBridge

end ListSem
end Furax
