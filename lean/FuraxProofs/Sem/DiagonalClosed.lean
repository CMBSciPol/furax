/-
The entries of the ONE vector `diagVec p` a valid `DiagonalOperator` multiplies by (FuraxProofs/Sem/InverseList.lean),
leaf by leaf, through the closed form of `Diagonal.apply` (`apply_general`, FuraxProofs/Lemmas/DiagonalSpec.lean): an
accepted product obeys the closed form (`apply_ok_closed`); on a leaf of shape `sh`, with as many destination axes as
dimensions of the values, the strict product adds no dimension, and entry `q` of the values broadcast to the leaf is
`values[(multi-index of q)[axis_k] for k < rank(values), 0 where values.shape[k] = 1]` (`diag_leaf_closed`).
-/
import FuraxProofs.Sem.InverseList
import FuraxProofs.Sem.AxesClosed
namespace Furax
namespace ListSem
open Furax.Diagonal Furax.Axes

/-- **an accepted product obeys the general closed form** (`apply_general`), strict or not: every side condition of
`apply_general` holds, since its failure is refused -/
theorem apply_ok_closed {α : Type} [Inhabited α] [Mul α] (strict : Bool) (W x y0 : Tensor α) (axes : List Int)
    (hlen : axes.length = W.shape.length) (h : Diagonal.apply strict W (.seq axes) x = .ok y0) :
    W.shape ≠ [] ∧ (normalizedAxes axes x.shape.length).Nodup ∧
    y0.shape = outShape W.shape (destAxes (normalizedAxes axes x.shape.length))
      (padShape (leftDims (normalizedAxes axes x.shape.length))
        (rightDims (normalizedAxes axes x.shape.length) x.shape.length) x.shape) ∧
    y0.data.length = prodNat y0.shape ∧
    ∀ q, q < prodNat y0.shape →
      y0.data.getD q default =
        W.data.getD (ravelIdx W.shape ((List.range W.shape.length).map fun k =>
            if W.shape.getD k 0 = 1 then 0
            else (unravel y0.shape q).getD ((destAxes (normalizedAxes axes x.shape.length)).getD k 0) 0)) default
        * x.data.getD (ravelIdx x.shape ((List.range x.shape.length).map fun j =>
            if x.shape.getD j 0 = 1 then 0
            else (unravel y0.shape q).getD (leftDims (normalizedAxes axes x.shape.length) + j) 0)) default := by
  obtain ⟨hv, hnd, -⟩ := (apply_eq_ok_iff strict W (.seq axes) x y0).mp h
  set ax := normalizedAxes axes x.shape.length with hax
  have hax' : ax = normalizedAxes (normalizeSpec W.shape.length (.seq axes)) x.shape.length := rfl
  have hlen' : ax.length = W.shape.length := by rw [hax, normalizedAxes_length, hlen]
  -- incompatible dimensions are refused
  have hc : ∀ k, k < W.shape.length →
      bcompat (W.shape.getD k 0)
        ((padShape (leftDims ax) (rightDims ax x.shape.length) x.shape).getD ((destAxes ax).getD k 0) 0) := by
    intro k hk
    by_contra hn
    rw [apply_rejects_incompatible strict W x (.seq axes) ax hax' hv hlen' hnd k hk hn] at h
    cases h
  obtain ⟨y, hy, hys, hyl, hyd⟩ := apply_general strict W x (.seq axes) ax hax' hv hlen' hnd hc
  rw [h] at hy
  split at hy
  · cases hy
  · cases hy
    exact ⟨hv, hnd, hys, hyl, hyd⟩

/-- the destination of the `k`-th dimension of the values in a leaf of rank `n`: `axis_destination[k]`, counted from
the end of the leaf when negative -/
def destAxis (axes : List Int) (n k : Nat) : Nat := ((normalizedAxes axes n).getD k 0).toNat

/-- the multi-index into the values read at the multi-index `idx` of the leaf: coordinate `idx[destAxis k]` along
dimension `k` of the values, `0` where the values have length `1` (NumPy broadcasting) -/
def diagIndex (vshape : List Nat) (axes : List Int) (n : Nat) (idx : List Nat) : List Nat :=
  (List.range vshape.length).map fun k => if vshape.getD k 0 = 1 then 0 else idx.getD (destAxis axes n k) 0

/-- the side conditions under which the values of shape `vshape`, placed along `axes`, broadcast against a leaf of
shape `sh`: the values have positive rank, the normalised axes are distinct and within the rank of the leaf, and each
dimension of the values is `1` or the size of the leaf along its destination axis -/
structure DiagLeafFacts (vshape : List Nat) (axes : List Int) (sh : List Nat) : Prop where
  rank_pos : vshape ≠ []
  nodup : (normalizedAxes axes sh.length).Nodup
  inrange : ∀ a ∈ normalizedAxes axes sh.length, 0 ≤ a ∧ a < sh.length
  dims : ∀ k, k < vshape.length → vshape.getD k 0 = 1 ∨ vshape.getD k 0 = sh.getD (destAxis axes sh.length k) 0

/-- **the acceptance of the strict product on ONE leaf (any data) implies the side conditions of the closed form**,
and the values broadcast to the leaf are read at `diagIndex` -/
theorem diag_leaf_closed (W : Tensor ℝ) (axes : List Int) (sh : List Nat) (c0 : V) (y0 : Tensor ℝ)
    (hlen : axes.length = W.shape.length)
    (h : Diagonal.apply true W (.seq axes) ⟨sh, c0⟩ = .ok y0) :
    DiagLeafFacts W.shape axes sh ∧
    ∀ q, q < prodNat sh →
      (leafDiag W axes sh).getD q 0
        = W.data.getD (ravelIdx W.shape (diagIndex W.shape axes sh.length (unravel sh q))) 0 := by
  -- the product is accepted on the leaf of ones, and gives the broadcast values themselves
  obtain ⟨-, hform, -⟩ := diag_leaf_form W axes sh c0 y0 h
  have hone := hform id rfl (List.replicate (prodNat sh) 1) (List.length_replicate ..)
  rw [tensor_map_id, List.map_id] at hone
  obtain ⟨hv, hnd, hys, -, hyd⟩ := apply_ok_closed true W ⟨sh, List.replicate (prodNat sh) 1⟩ _ axes hlen hone
  set ax := normalizedAxes axes sh.length with hax
  have hlen' : ax.length = W.shape.length := by rw [hax, normalizedAxes_length, hlen]
  change sh = outShape W.shape (destAxes ax) (padShape (leftDims ax) (rightDims ax sh.length) sh) at hys
  -- the result has the rank of the leaf: no dimension is added
  obtain ⟨hL, hR⟩ : leftDims ax = 0 ∧ rightDims ax sh.length = 0 := by
    have := congrArg List.length hys
    rw [outShape_length, padShape_length] at this
    omega
  have hdest : ∀ k, k < W.shape.length → (destAxes ax).getD k 0 = destAxis axes sh.length k :=
    fun k hk => destAxes_getD ax hL k (hlen' ▸ hk)
  rw [hL, hR, padShape_zero] at hys
  -- the result has the shape of the leaf: the dimensions are 1, or the leaf's
  obtain ⟨order, -, S⟩ := reshapeDiagonal_ok W ax sh.length hlen' hnd
  rw [hL, hR, Nat.zero_add, Nat.add_zero] at S
  have hdims : ∀ k, k < W.shape.length →
      W.shape.getD k 0 = 1 ∨ W.shape.getD k 0 = sh.getD (destAxis axes sh.length k) 0 := by
    intro k hk
    have e := S.out_shape_dest sh rfl k hk
    rw [S.out_shape_explicit sh rfl, ← hys, hdest k hk] at e
    unfold bdim at e
    split at e
    · exact .inl ‹_›
    · exact .inr e.symm
  refine ⟨⟨hv, hnd, fun a ha => ⟨leftDims_zero ax hL a ha, rightDims_zero ax sh.length hR a ha⟩, hdims⟩,
    fun q hq => ?_⟩
  obtain ⟨v1, v2⟩ := ma_unravel_valid sh q hq
  have e := hyd q hq
  -- the left-hand side is the broadcast value times one; on the right the leaf of ones is read at `q`
  change (List.zipWith (· * ·) (leafDiag W axes sh) (List.replicate (prodNat sh) 1)).getD q 0
    = W.data.getD _ 0 * (List.replicate (prodNat sh) (1 : ℝ)).getD (ravelIdx sh ((List.range sh.length).map fun j =>
        if sh.getD j 0 = 1 then 0 else (unravel sh q).getD (leftDims ax + j) 0)) 0 at e
  rw [hL] at e
  simp only [Nat.zero_add] at e
  rw [getD_zipWith_mul,
    bcast_read_self sh _ v1, v2, List.getD_replicate _ hq, mul_one, mul_one] at e
  rw [e]
  congr 2
  exact List.map_congr_left fun k hk => by rw [hdest k (List.mem_range.mp hk)]

theorem diagVec_getD (p : Params) (h : diagonalOK p) (k q : Nat) (hk : k < p.inS.leaves.length)
    (hq : q < (p.inS.leaves.getD k default).size) :
    (diagVec p).getD (offset (p.inS.leaves.map LeafS.size) k + q) 0
      = (leafDiag (castT p.vals) (p.ints.getD 0 []) (p.inS.leaves.getD k default).shape).getD q 0 := by
  refine flatten_map_getD_offset (fun l : LeafS => leafDiag (castT p.vals) (p.ints.getD 0 []) l.shape) LeafS.size
    p.inS.leaves (fun l hl => ?_) k q hk hq
  obtain ⟨y, hy, -⟩ := h l hl []
  exact (diag_leaf_form _ _ l.shape [] y hy).1

theorem castT_getD (t : Tensor Rat) (i : Nat) : (castT t).data.getD i 0 = ((t.data.getD i 0 : Rat) : ℝ) := by
  have := List.getD_map t.data (0 : Rat) (n := i) (fun q : Rat => (q : ℝ))
  rwa [Rat.cast_zero] at this

end ListSem
end Furax
