/-
The Euclidean pairing `dot` of flat real vectors; leaf-wise maps that are adjoint leaf by leaf are adjoint
(`perLeaf_adjoint`).  Coordinates: `toFn n x : Fin n → ℝ` turns the pairing into Mathlib's `dotProduct`
(`dot_eq_dotProduct`), and a matrix acts on flat vectors by `mulVecL`; its transpose is its adjoint
(`mulVecL_adjoint`), a two-sided inverse matrix inverts it (`isInvOn_mulVecL`).
-/
import FuraxProofs.Sem.ListSemBasic
import FuraxProofs.Sem.ContainerLawsList
import Mathlib.Tactic.Ring
import Mathlib.Data.List.GetD
import Mathlib.Data.Matrix.Mul
namespace Furax
namespace ListSem
open Op

/-- the Euclidean pairing of two flat vectors (the longer one is truncated) -/
def dot (x y : List ℝ) : ℝ := (List.zipWith (· * ·) x y).sum

@[simp] theorem dot_nil_left (y : V) : dot [] y = 0 := by simp [dot]
@[simp] theorem dot_nil_right (x : V) : dot x [] = 0 := by simp [dot]

theorem dot_cons (a b : ℝ) (x y : V) : dot (a :: x) (b :: y) = a * b + dot x y := by
  simp [dot]

theorem dot_comm (x y : V) : dot x y = dot y x := by
  induction x generalizing y with
  | nil => simp
  | cons a x ih =>
    cases y with
    | nil => simp
    | cons b y => rw [dot_cons, dot_cons, ih, mul_comm]

theorem dot_append {a c : V} (b d : V) (h : a.length = c.length) :
    dot (a ++ b) (c ++ d) = dot a c + dot b d := by
  induction a generalizing c with
  | nil =>
    cases c with
    | nil => simp
    | cons _ _ => simp at h
  | cons u a ih =>
    cases c with
    | nil => simp at h
    | cons v c =>
      simp only [List.cons_append, dot_cons]
      rw [ih (by simpa using h)]
      ring

theorem dot_vadd_left (a b y : V) : dot (vadd a b) y = dot a y + dot b y := by
  induction a generalizing b y with
  | nil => simp
  | cons u a ih =>
    cases b with
    | nil => simp
    | cons v b =>
      cases y with
      | nil => simp
      | cons w y =>
        rw [vadd_cons, dot_cons, dot_cons, dot_cons, ih]
        ring

theorem dot_vadd_right (x a b : V) : dot x (vadd a b) = dot x a + dot x b := by
  rw [dot_comm, dot_vadd_left, dot_comm a, dot_comm b]

theorem dot_replicate_zero_left (n : Nat) (y : V) : dot (List.replicate n 0) y = 0 := by
  induction n generalizing y with
  | zero => simp
  | succ n ih =>
    cases y with
    | nil => simp
    | cons b y => rw [List.replicate_succ, dot_cons, ih]; ring

theorem dot_replicate_zero_right (n : Nat) (x : V) : dot x (List.replicate n 0) = 0 := by
  rw [dot_comm, dot_replicate_zero_left]

/-- normalising the length of the left argument to (at least) the length of the right one changes nothing -/
theorem dot_fit_left (n : Nat) (x y : V) (h : y.length ≤ n) : dot (fit n x) y = dot x y := by
  induction n generalizing x y with
  | zero =>
    have : y = [] := List.length_eq_zero_iff.mp (by omega)
    subst this; simp
  | succ n ih =>
    cases y with
    | nil => simp
    | cons b y =>
      cases x with
      | nil =>
        rw [fit_nil, dot_replicate_zero_left]; simp
      | cons a x =>
        rw [fit_succ_cons, dot_cons, dot_cons, ih x y (by simpa using h)]

theorem dot_fit_right (n : Nat) (x y : V) (h : x.length ≤ n) : dot x (fit n y) = dot x y := by
  rw [dot_comm, dot_fit_left n y x h, dot_comm]

theorem dot_vsmul_left (a : Rat) (x y : V) : dot (vsmul a x) y = (a : ℝ) * dot x y := by
  induction x generalizing y with
  | nil => simp [vsmul]
  | cons u x ih =>
    cases y with
    | nil => simp
    | cons v y =>
      have : vsmul a (u :: x) = ((a : ℝ) * u) :: vsmul a x := rfl
      rw [this, dot_cons, dot_cons, ih]
      ring

theorem dot_vsmul_right (a : Rat) (x y : V) : dot x (vsmul a y) = (a : ℝ) * dot x y := by
  rw [dot_comm, dot_vsmul_left, dot_comm]

/-- multiplication by fixed weights is self-adjoint (whatever the lengths) -/
theorem dot_zipWith_mul (w x y : V) :
    dot (List.zipWith (· * ·) w x) y = dot x (List.zipWith (· * ·) w y) := by
  induction w generalizing x y with
  | nil => simp
  | cons a w ih =>
    cases x with
    | nil => simp
    | cons b x =>
      cases y with
      | nil => simp
      | cons c y =>
        simp only [List.zipWith_cons_cons, dot_cons, ih]
        ring

theorem dot_take_drop (n : Nat) (x : V) (a b : V) (ha : a.length = n) (hx : n ≤ x.length) :
    dot x (a ++ b) = dot (x.take n) a + dot (x.drop n) b := by
  conv => lhs; rw [← List.take_append_drop n x]
  exact dot_append _ _ (by rw [List.length_take, ha, Nat.min_eq_left hx])

/-- entry-wise, for flat real vectors of any lengths (beyond the shorter one both sides are `0`) -/
theorem getD_zipWith_mul : ∀ (u w : V) (c : Nat),
    (List.zipWith (· * ·) u w).getD c 0 = u.getD c 0 * w.getD c 0
  | [], _, _ => by rw [List.zipWith_nil_left, List.getD_nil, zero_mul]
  | _ :: _, [], _ => by rw [List.zipWith_nil_right, List.getD_nil, mul_zero]
  | _ :: _, _ :: _, 0 => rfl
  | _ :: u, _ :: w, c + 1 => getD_zipWith_mul u w c

/-- vectors made of blocks of matching lengths are zipped block by block -/
theorem zipWith_flatten_map {α β γ ι : Type} (f : α → β → γ) (l : List ι) (F : ι → List α) (G : ι → List β)
    (h : ∀ c ∈ l, (F c).length = (G c).length) :
    List.zipWith f (l.map F).flatten (l.map G).flatten = (l.map fun c => List.zipWith f (F c) (G c)).flatten := by
  induction l with
  | nil => rfl
  | cons c l ih =>
    obtain ⟨hc, h⟩ := List.forall_mem_cons.mp h
    rw [List.map_cons, List.map_cons, List.map_cons, List.flatten_cons, List.flatten_cons, List.flatten_cons,
      List.zipWith_append hc, ih h]

/-- the pairing in the form of `scatter_adjoint` -/
theorem dot_eq_zip (x y : V) : dot x y = ((x.zip y).map fun p => p.1 * p.2).sum := by
  unfold dot
  rw [List.map_zip_eq_zipWith]
  rfl

theorem perLeaf_adjoint (R : LeafS → LeafS → Prop) (f g : LeafS → LeafS → V → V) (ins outs : List LeafS)
    (h : List.Forall₂ R ins outs)
    (hR : ∀ li lo, R li lo → ∀ c d : V, c.length = li.size → d.length = lo.size →
      dot (fit lo.size (f li lo c)) d = dot c (fit li.size (g lo li d))) :
    ∀ x y : V, x.length = (ins.map LeafS.size).sum → y.length = (outs.map LeafS.size).sum →
      dot (perLeaf f ins outs x) y = dot x (perLeaf g outs ins y) := by
  induction h with
  | nil => intro x y _ _; simp [perLeaf_nil_left]
  | @cons li lo ins outs hr _ ih =>
    intro x y hx hy
    rw [List.map_cons, List.sum_cons] at hx hy
    have hlx : li.size ≤ x.length := hx ▸ Nat.le_add_right _ _
    have hly : lo.size ≤ y.length := hy ▸ Nat.le_add_right _ _
    rw [perLeaf_cons, perLeaf_cons, dot_comm, dot_take_drop lo.size y _ _ (fit_length _ _) hly,
      dot_take_drop li.size x _ _ (fit_length _ _) hlx, dot_comm (y.take _), dot_comm (y.drop _),
      ih (x.drop li.size) (y.drop lo.size) (by rw [List.length_drop, hx, Nat.add_sub_cancel_left])
        (by rw [List.length_drop, hy, Nat.add_sub_cancel_left]),
      headChunk_of_le hlx, headChunk_of_le hly,
      hR li lo hr (x.take li.size) (y.take lo.size) (by rw [List.length_take, Nat.min_eq_left hlx])
        (by rw [List.length_take, Nat.min_eq_left hly])]

section Coordinates
open Matrix

/-- the coordinates of a flat vector -/
def toFn (n : Nat) (x : V) : Fin n → ℝ := fun i => x.getD i 0

theorem ofFn_toFn (n : Nat) (x : V) (hx : x.length = n) : List.ofFn (toFn n x) = x := by
  apply List.ext_getElem
  · simp [hx]
  · intro i h1 h2
    rw [List.getElem_ofFn]
    exact List.getD_eq_getElem _ _ h2

theorem toFn_ofFn (n : Nat) (v : Fin n → ℝ) : toFn n (List.ofFn v) = v := by
  funext i
  unfold toFn
  rw [List.getD_eq_getElem _ _ (by simp), List.getElem_ofFn]

theorem toFn_smul (n : Nat) (a : ℝ) (x : V) : toFn n (x.map fun v => a * v) = a • toFn n x := by
  funext i
  have h : (x.map fun v => a * v).getD i (a * 0) = a * x.getD i 0 := List.getD_map ..
  rwa [mul_zero] at h

/-- the pairing with a vector of length `n`, entry by entry (a shorter `y` is padded with zeros, a longer one
truncated) -/
theorem dot_eq_sum_range : ∀ (n : Nat) (x y : V), x.length = n →
    dot x y = ∑ q ∈ Finset.range n, x.getD q 0 * y.getD q 0
  | 0, x, _, hx => by rw [List.length_eq_zero_iff.mp hx, dot_nil_left, Finset.sum_range_zero]
  | n + 1, a :: x, [], _ => by
    rw [dot_nil_right]
    exact (Finset.sum_eq_zero fun q _ => mul_zero _).symm
  | n + 1, a :: x, b :: y, hx => by
    rw [dot_cons, dot_eq_sum_range n x y (Nat.succ.inj hx), Finset.sum_range_succ', add_comm]
    rfl

theorem dot_eq_dotProduct (n : Nat) (x y : V) (hx : x.length = n) : dot x y = toFn n x ⬝ᵥ toFn n y := by
  rw [dot_eq_sum_range n x y hx]
  exact (Fin.sum_univ_eq_sum_range (fun q => x.getD q 0 * y.getD q 0) n).symm

theorem dot_ofFn_left (m : Nat) (v : Fin m → ℝ) (y : V) : dot (List.ofFn v) y = v ⬝ᵥ toFn m y := by
  rw [dot_eq_dotProduct m _ y List.length_ofFn, toFn_ofFn]

/-- the matrix `M` acting on flat vectors (an input is read through its first `n` coordinates) -/
noncomputable def mulVecL {m n : Nat} (M : Matrix (Fin m) (Fin n) ℝ) (x : V) : V := List.ofFn (M *ᵥ toFn n x)

variable {m n : Nat} (M : Matrix (Fin m) (Fin n) ℝ)

@[simp] theorem mulVecL_length (x : V) : (mulVecL M x).length = m := List.length_ofFn

theorem toFn_mulVecL (x : V) : toFn m (mulVecL M x) = M *ᵥ toFn n x := toFn_ofFn m _

theorem mulVecL_smul (a : ℝ) (x : V) : mulVecL M (x.map fun v => a * v) = (mulVecL M x).map fun v => a * v := by
  rw [mulVecL, toFn_smul, Matrix.mulVec_smul, mulVecL, List.map_ofFn]
  rfl

theorem mulVecL_mulVecL {l : Nat} (N : Matrix (Fin n) (Fin l) ℝ) (x : V) :
    mulVecL M (mulVecL N x) = mulVecL (M * N) x := by
  rw [mulVecL, toFn_mulVecL, Matrix.mulVec_mulVec, mulVecL]

theorem mulVecL_one (x : V) (hx : x.length = n) : mulVecL (1 : Matrix (Fin n) (Fin n) ℝ) x = x := by
  rw [mulVecL, Matrix.one_mulVec, ofFn_toFn n x hx]

theorem mulVecL_adjoint (x y : V) : dot (mulVecL M x) y = dot x (mulVecL Mᵀ y) := by
  rw [mulVecL, mulVecL, dot_ofFn_left, dot_comm, dot_ofFn_left, dotProduct_comm, Matrix.dotProduct_mulVec,
    Matrix.mulVec_transpose]

theorem isInvOn_mulVecL {M N : Matrix (Fin n) (Fin n) ℝ} (hMN : M * N = 1) (hNM : N * M = 1) :
    IsInvOn n (mulVecL M) (mulVecL N) :=
  ⟨fun x hx => ⟨mulVecL_length N x, by rw [mulVecL_mulVecL, hMN, mulVecL_one x hx],
    by rw [mulVecL_mulVecL, hNM, mulVecL_one x hx]⟩, fun a x _ => mulVecL_smul N a x⟩

end Coordinates

end ListSem
end Furax
