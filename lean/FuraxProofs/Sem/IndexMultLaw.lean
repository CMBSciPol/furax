/-
The `TransposeIndexRule` law of the list denotation (FuraxProofs/Sem/ListSem.lean):
`indexᵀ ∘ index` is the diagonal operator of the coverage counts.

A. the position map `Index.indexPositions` of an index tuple with ONE integer array (any rank) on any axis, the
   other entries being full slices `:` or one ellipsis, in closed form, and how often it selects each input position;
B. from a specification of the position map of one leaf (`PosSpec`) to the law on the whole pytree;
C. the fragment `indexMultOK`, the law on it, and `indexMultOK` from the hypotheses of `RuleLaws.index_mult`.
What is assumed beyond the conditions the rule checks is well-formedness: the array has `prod sh` values, the leaves
have at least as many dimensions as the tuple has non-ellipsis entries, and the output structure is the structure of
the indexing result.
-/
import FuraxProofs.Sem.ListSemBasic
import FuraxProofs.Lemmas.GatherScatter
import FuraxProofs.Lemmas.DiagonalSpec
import FuraxProofs.Lemmas.AxesBasic
import FuraxProofs.Lemmas.ToeplitzSums
namespace Furax
namespace ListSem
open Op Index Axes

/-! ## A. the position map of an index tuple with one integer array -/

/-! ### `indexPositions`, cut into named pieces -/

def hasArrOf (sels : List Sel) : Bool :=
  sels.any fun s => match s with | .adv .. => true | _ => false

def normE (i : Int) (d : Nat) : Except PyErr Nat :=
  let j := if i < 0 then i + d else i
  if j < 0 ∨ j ≥ d then .error .indexError else .ok j.toNat

def advShapesOf (sels : List Sel) (hasArr : Bool) : List (List Nat) :=
  sels.filterMap fun s => match s with
    | .adv sh _ => some sh
    | .int _ => if hasArr then some [] else none
    | _ => none

def bshapeOf (advShapes : List (List Nat)) : Except PyErr (List Nat) :=
  advShapes.foldlM (fun (acc : List Nat) sh => match broadcastShapes acc sh with
      | some r => .ok r | none => .error .indexError) ([] : List Nat)

def advPosOf (sels : List Sel) (hasArr : Bool) : List Nat :=
  (List.range sels.length).filter fun k => (sels.getD k (.int 0)).isAdv hasArr

def flagsOf (idx : List IdxEntry) (hasArr : Bool) : List Bool :=
  idx.map fun e => match e with
    | .iarr .. | .barr .. => true
    | .int _ => hasArr
    | _ => false

def adjacentOf (flags : List Bool) : Bool :=
  let firstF := flags.idxOf true
  let lastF := flags.length - 1 - flags.reverse.idxOf true
  (List.range flags.length).all fun k => !(firstF ≤ k && k ≤ lastF) || flags.getD k false

def sliceDescsOf (sels : List Sel) : List (Nat × Nat) :=
  (List.range sels.length).filterMap fun k =>
    match sels.getD k (.int 0) with | .slice l => some (k, l.length) | _ => none

def descsOf (hasArr adjacent : Bool) (firstAdv : Nat) (sliceDescs : List (Nat × Nat)) (B : List Nat) :
    List (Option Nat × Nat) :=
  let bDescs : List (Option Nat × Nat) := B.map fun d => (none, d)
  if !hasArr then sliceDescs.map fun p => (some p.1, p.2)
  else if adjacent then
    (sliceDescs.filter (·.1 < firstAdv)).map (fun p => (some p.1, p.2)) ++ bDescs ++
    (sliceDescs.filter (·.1 > firstAdv)).map (fun p => (some p.1, p.2))
  else bDescs ++ sliceDescs.map fun p => (some p.1, p.2)

def bIdxOf (descs : List (Option Nat × Nat)) (oi : List Nat) : List Nat :=
  (List.range descs.length).filterMap fun j =>
    match descs.getD j (none, 0) with | (none, _) => some (oi.getD j 0) | _ => none

def inIdxOf (sels : List Sel) (dims : List Nat) (descs : List (Option Nat × Nat)) (oi bIdx : List Nat) :
    Except PyErr (List Nat) :=
  (List.range sels.length).mapM fun e =>
    match sels.getD e (.int 0) with
    | .int i => normE i (dims.getD e 0)
    | .slice l =>
      let j := (List.range descs.length).find? fun j => (descs.getD j (none, 0)).1 == some e
      .ok (l.getD (oi.getD (j.getD 0) 0) 0)
    | .adv sh vals =>
      normE (vals.getD (ravelIdx sh (bcastIndex sh bIdx)) 0) (dims.getD e 0)

def indexPositions' (shape : List Nat) (idx : List IdxEntry) : Except PyErr (List Nat × List Nat) := do
  let sels ← toSels shape idx
  let hasArr := hasArrOf sels
  let B ← bshapeOf (advShapesOf sels hasArr)
  let descs := descsOf hasArr (adjacentOf (flagsOf idx hasArr)) ((advPosOf sels hasArr).headD 0)
    (sliceDescsOf sels) B
  let outShape := descs.map (·.2)
  let positions ← (List.range (prodNat outShape)).mapM fun k => do
    let oi := unravel outShape k
    let inIdx ← inIdxOf sels shape descs oi (bIdxOf descs oi)
    pure (ravelIdx shape inIdx)
  pure (outShape, positions)

theorem indexPositions_eq' (shape : List Nat) (idx : List IdxEntry) :
    indexPositions shape idx = indexPositions' shape idx := rfl

theorem except_mapM_ok {ε β γ : Type} (f : β → Except ε γ) (g : β → γ) (l : List β)
    (h : ∀ b ∈ l, f b = .ok (g b)) : l.mapM f = .ok (l.map g) := by
  induction l with
  | nil => rfl
  | cons b bs ih =>
    rw [List.mapM_cons, h b List.mem_cons_self, ih (fun c hc => h c (List.mem_cons_of_mem _ hc))]
    rfl

theorem filterMap_eq_map_of {β γ : Type} (f : β → Option γ) (g : β → γ) (l : List β)
    (h : ∀ b ∈ l, f b = some (g b)) : l.filterMap f = l.map g := by
  induction l with
  | nil => rfl
  | cons b bs ih =>
    rw [List.filterMap_cons, h b List.mem_cons_self, ih (fun c hc => h c (List.mem_cons_of_mem _ hc))]
    rfl

theorem filterMap_eq_nil_of {β γ : Type} (f : β → Option γ) (l : List β)
    (h : ∀ b ∈ l, f b = none) : l.filterMap f = [] :=
  List.filterMap_eq_nil_iff.mpr h

theorem range_split (a c : Nat) :
    List.range (a + 1 + c) = List.range a ++ a :: (List.range c).map (fun k => a + 1 + k) := by
  rw [List.range_add, List.range_succ, List.append_assoc]
  rfl

theorem range3 (a r c : Nat) :
    List.range (a + (r + c))
      = List.range a ++ ((List.range r).map (fun t => a + t) ++ (List.range c).map (fun t => a + (r + t))) := by
  rw [List.range_add, List.range_add, List.map_append, List.map_map]
  rfl

section getD
variable {α : Type} (l₁ l₂ : List α) (d : α) {n : Nat} (h : l₁.length = n)
include h

theorem getD_append_lt {k : Nat} (hk : k < n) : (l₁ ++ l₂).getD k d = l₁.getD k d :=
  List.getD_append _ _ _ _ (h ▸ hk)

theorem getD_append_add (k : Nat) : (l₁ ++ l₂).getD (n + k) d = l₂.getD k d := by
  subst h
  rw [List.getD_append_right _ _ _ _ (Nat.le_add_right _ _), Nat.add_sub_cancel_left]

theorem getD_append_length : (l₁ ++ l₂).getD n d = l₂.getD 0 d :=
  getD_append_add l₁ l₂ d h 0

end getD

theorem getD_map_lt {α β : Type} (f : α → β) (l : List α) (d' : α) (d : β) {k : Nat} (hk : k < l.length) :
    (l.map f).getD k d = f (l.getD k d') := by
  rw [List.getD_eq_getElem _ _ (by rw [List.length_map]; exact hk), List.getD_eq_getElem _ _ hk, List.getElem_map]

theorem range_getD_self (d x : Nat) (h : x < d) : (List.range d).getD x 0 = x := by
  rw [List.getD_eq_getElem _ _ (by rw [List.length_range]; exact h), List.getElem_range]

theorem mapM_range_three {ε : Type} (f : Nat → Except ε Nat) (oa oc : List Nat) (x : Nat) {a c : Nat}
    (ha : oa.length = a) (hc : oc.length = c) (h1 : ∀ e, e < a → f e = .ok (oa.getD e 0)) (h2 : f a = .ok x)
    (h3 : ∀ t, t < c → f (a + 1 + t) = .ok (oc.getD t 0)) :
    (List.range (a + 1 + c)).mapM f = .ok (oa ++ x :: oc) := by
  rw [range_split, List.mapM_append, List.mapM_cons, h2, List.mapM_map,
    except_mapM_ok _ (fun e => oa.getD e 0) _ (fun e he => h1 e (List.mem_range.mp he)),
    except_mapM_ok (f ∘ fun k => a + 1 + k) (fun t => oc.getD t 0) _ (fun t ht => h3 t (List.mem_range.mp ht)),
    ← ha, ← hc, ma_map_getD_range, ma_map_getD_range]
  rfl

theorem pos_of_lt_mul {k P M R : Nat} (h : k < P * (M * R)) : 0 < P ∧ 0 < M ∧ 0 < R ∧ 0 < M * R :=
  have hMR : 0 < M * R := Nat.pos_of_mul_pos_left (Nat.zero_lt_of_lt h)
  ⟨Nat.pos_of_mul_pos_right (Nat.zero_lt_of_lt h), Nat.pos_of_mul_pos_right hMR, Nat.pos_of_mul_pos_left hMR, hMR⟩

theorem prodNat_append3 (A B C : List Nat) : prodNat (A ++ (B ++ C)) = prodNat A * (prodNat B * prodNat C) := by
  rw [prodNat_append, prodNat_append]

theorem unravel_append (A B : List Nat) (k : Nat) :
    unravel (A ++ B) k = unravel A (k / prodNat B) ++ unravel B k := by
  induction A with
  | nil => rw [ma_unravel_nil]; rfl
  | cons d A ih =>
    rw [List.cons_append, ma_unravel_cons, ma_unravel_cons, ih, prodNat_append, Nat.div_div_eq_div_mul,
      Nat.mul_comm (prodNat B)]
    rfl

theorem ravelIdx_append (A B ia ib : List Nat) (ha : ia.length = A.length) (hb : ib.length = B.length) :
    ravelIdx (A ++ B) (ia ++ ib) = ravelIdx A ia * prodNat B + ravelIdx B ib := by
  unfold ravelIdx
  rw [List.zip_append ha.symm, List.foldl_append, ma_ravel_foldl, List.map_fst_zip (by omega)]

theorem unravel_valid_mod (B : List Nat) (k : Nat) (h : 0 < prodNat B) :
    List.Forall₂ (· < ·) (unravel B k) B ∧ ravelIdx B (unravel B k) = k % prodNat B := by
  rw [← ma_unravel_mod]
  exact ma_unravel_valid B _ (Nat.mod_lt _ h)

theorem find?_range_first (L j : Nat) (p : Nat → Bool) (hj : j < L) (hp : p j = true)
    (hnp : ∀ i, i < j → p i = false) : (List.range L).find? p = some j :=
  List.find?_range_eq_some.mpr ⟨hp, List.mem_range.mpr hj, fun i hi => by rw [hnp i hi]; rfl⟩

theorem normE_ok (n : Nat) (v : Int) (h : -(n : Int) ≤ v ∧ v < n) : normE v n = .ok (normIdx n v).toNat := by
  have hr := normIdx_range n v h
  show (if normIdx n v < 0 ∨ normIdx n v ≥ n then (.error .indexError : Except PyErr Nat)
    else .ok (normIdx n v).toNat) = _
  rw [if_neg (by omega)]

/-- one advanced entry, at position `a`: the slices before it, the broadcast dimensions, the slices after it -/
theorem descsOf_split (a : Nat) (L₁ L₂ : List (Nat × Nat)) (B : List Nat) (h₁ : ∀ x ∈ L₁, x.1 < a)
    (h₂ : ∀ x ∈ L₂, a < x.1) :
    descsOf true true a (L₁ ++ L₂) B
      = L₁.map (fun p => (some p.1, p.2)) ++ (B.map (fun d => (none, d)) ++ L₂.map fun p => (some p.1, p.2)) := by
  unfold descsOf
  simp only [Bool.not_true, Bool.false_eq_true, if_false, if_true]
  rw [List.filter_append, List.filter_append,
    List.filter_eq_self.mpr fun x hx => decide_eq_true (h₁ x hx),
    List.filter_eq_nil_iff.mpr fun x hx => by rw [decide_eq_true_eq]; exact Nat.lt_asymm (h₂ x hx),
    List.filter_eq_nil_iff.mpr fun x hx => by rw [decide_eq_true_eq]; exact Nat.lt_asymm (h₁ x hx),
    List.filter_eq_self.mpr fun x hx => decide_eq_true (h₂ x hx), List.append_nil, List.nil_append,
    List.append_assoc]

/-! ### the selectors of the fragment -/

def fullSel (d : Nat) : Sel := .slice (List.range d)

/-- full slices over the dimensions `A`, the integer array, full slices over the dimensions `C` -/
def selsOf (A sh : List Nat) (vals : List Int) (C : List Nat) : List Sel :=
  A.map fullSel ++ Sel.adv sh vals :: C.map fullSel

section sels
variable (A sh : List Nat) (vals : List Int) (C : List Nat)

theorem selsOf_length : (selsOf A sh vals C).length = A.length + 1 + C.length := by
  rw [selsOf, List.length_append, List.length_cons, List.length_map, List.length_map, ← Nat.add_assoc,
    Nat.add_right_comm]

theorem selsOf_getD_lt (k : Nat) (hk : k < A.length) :
    (selsOf A sh vals C).getD k (.int 0) = fullSel (A.getD k 0) := by
  rw [selsOf, getD_append_lt _ _ _ (List.length_map _) hk, getD_map_lt _ _ 0 _ hk]

theorem selsOf_getD_eq : (selsOf A sh vals C).getD A.length (.int 0) = .adv sh vals :=
  getD_append_length _ _ _ (List.length_map _)

theorem selsOf_getD_gt (k : Nat) (hk : k < C.length) :
    (selsOf A sh vals C).getD (A.length + 1 + k) (.int 0) = fullSel (C.getD k 0) := by
  rw [selsOf, Nat.add_assoc, getD_append_add _ _ _ (List.length_map _), Nat.add_comm 1, List.getD_cons_succ,
    getD_map_lt _ _ 0 _ hk]

theorem hasArrOf_selsOf : hasArrOf (selsOf A sh vals C) = true := by
  simp [hasArrOf, selsOf]

theorem advShapesOf_selsOf : advShapesOf (selsOf A sh vals C) true = [sh] := by
  have key : ∀ l : List Nat, (l.map fullSel).filterMap (fun s => match s with
      | .adv sh _ => some sh
      | .int _ => if true = true then some [] else none
      | _ => none) = [] := fun l =>
    filterMap_eq_nil_of _ _ fun b hb => by
      obtain ⟨d, _, rfl⟩ := List.mem_map.mp hb
      rfl
  unfold advShapesOf selsOf
  rw [List.filterMap_append, List.filterMap_cons, key A, key C]
  rfl

theorem broadcastShapes_nil (s : List Nat) : broadcastShapes [] s = some s := by
  unfold broadcastShapes
  simp only [List.length_nil, Nat.zero_max, Nat.sub_zero, List.append_nil, Nat.sub_self, List.replicate_zero,
    List.nil_append]
  rw [option_mapM_eq_some _ (fun p => p.2)]
  · rw [List.map_snd_zip (by simp)]
  · intro p hp
    have h1 : p.1 = 1 := List.eq_of_mem_replicate (List.of_mem_zip hp).1
    by_cases h : p.1 = p.2
    · simp [h]
    · simp [h1]

theorem bshapeOf_single : bshapeOf [sh] = .ok sh := by
  simp [bshapeOf, broadcastShapes_nil]

theorem advPosOf_selsOf : advPosOf (selsOf A sh vals C) true = [A.length] := by
  unfold advPosOf
  rw [selsOf_length, range_split, List.filter_append, List.filter_cons, selsOf_getD_eq, List.filter_map,
    List.filter_eq_nil_iff.mpr, List.filter_eq_nil_iff.mpr]
  · rfl
  · intro k hk
    rw [Function.comp_apply, selsOf_getD_gt A sh vals C k (List.mem_range.mp hk)]
    exact Bool.false_ne_true
  · intro k hk
    rw [selsOf_getD_lt A sh vals C k (List.mem_range.mp hk)]
    exact Bool.false_ne_true

theorem sliceDescsOf_selsOf :
    sliceDescsOf (selsOf A sh vals C)
      = (List.range A.length).map (fun k => (k, A.getD k 0))
        ++ (List.range C.length).map (fun k => (A.length + 1 + k, C.getD k 0)) := by
  unfold sliceDescsOf
  rw [selsOf_length, range_split, List.filterMap_append, List.filterMap_cons, selsOf_getD_eq]
  simp only
  rw [filterMap_eq_map_of _ (fun k => (k, A.getD k 0)) (List.range A.length),
    List.filterMap_map, filterMap_eq_map_of _ (fun k => (A.length + 1 + k, C.getD k 0)) (List.range C.length)]
  · intro k hk
    rw [Function.comp_apply, selsOf_getD_gt A sh vals C k (List.mem_range.mp hk)]
    simp only [fullSel, List.length_range]
  · intro k hk
    rw [selsOf_getD_lt A sh vals C k (List.mem_range.mp hk)]
    simp only [fullSel, List.length_range]

/-- the output dimension descriptors of the fragment -/
def descsSpec (A sh C : List Nat) : List (Option Nat × Nat) :=
  (List.range A.length).map (fun k => (some k, A.getD k 0)) ++ (sh.map (fun d => ((none : Option Nat), d))
    ++ (List.range C.length).map (fun k => (some (A.length + 1 + k), C.getD k 0)))

theorem descsOf_spec :
    descsOf true true A.length
      ((List.range A.length).map (fun k => (k, A.getD k 0))
        ++ (List.range C.length).map (fun k => (A.length + 1 + k, C.getD k 0))) sh = descsSpec A sh C := by
  rw [descsOf_split, List.map_map, List.map_map]
  · rfl
  · intro x hx
    obtain ⟨k, hk, rfl⟩ := List.mem_map.mp hx
    exact List.mem_range.mp hk
  · intro x hx
    obtain ⟨k, _, rfl⟩ := List.mem_map.mp hx
    exact Nat.lt_of_lt_of_le (Nat.lt_succ_self _) (Nat.le_add_right _ _)

theorem descsSpec_length : (descsSpec A sh C).length = A.length + (sh.length + C.length) := by
  simp only [descsSpec, List.length_append, List.length_map, List.length_range]

theorem descsSpec_shape : (descsSpec A sh C).map (·.2) = A ++ (sh ++ C) := by
  simp only [descsSpec, List.map_append, List.map_map, Function.comp_def]
  rw [ma_map_getD_range A, ma_map_getD_range C, List.map_id']

theorem descsSpec_getD_lt (j : Nat) (hj : j < A.length) :
    (descsSpec A sh C).getD j (none, 0) = (some j, A.getD j 0) := by
  rw [descsSpec, getD_append_lt _ _ _ (by rw [List.length_map, List.length_range]) hj, ma_getD_map_range _ _ _ hj]

theorem descsSpec_getD_mid (t : Nat) (ht : t < sh.length) :
    (descsSpec A sh C).getD (A.length + t) (none, 0) = (none, sh.getD t 0) := by
  rw [descsSpec, getD_append_add _ _ _ (by rw [List.length_map, List.length_range]),
    getD_append_lt _ _ _ (List.length_map _) ht, getD_map_lt _ _ 0 _ ht]

theorem descsSpec_getD_gt (t : Nat) (ht : t < C.length) :
    (descsSpec A sh C).getD (A.length + (sh.length + t)) (none, 0) = (some (A.length + 1 + t), C.getD t 0) := by
  rw [descsSpec, getD_append_add _ _ _ (by rw [List.length_map, List.length_range]),
    getD_append_add _ _ _ (List.length_map _), ma_getD_map_range _ _ _ ht]

theorem bIdxOf_spec (oa ob oc : List Nat) (ha : oa.length = A.length) (hb : ob.length = sh.length) :
    bIdxOf (descsSpec A sh C) (oa ++ (ob ++ oc)) = ob := by
  unfold bIdxOf
  rw [descsSpec_length, range3, List.filterMap_append, List.filterMap_append, List.filterMap_map,
    List.filterMap_map]
  rw [filterMap_eq_nil_of _ (List.range A.length), filterMap_eq_nil_of _ (List.range C.length),
    filterMap_eq_map_of _ (fun t => ob.getD t 0) (List.range sh.length), ← hb, ma_map_getD_range ob,
    List.nil_append, List.append_nil]
  · intro t ht
    have ht' := List.mem_range.mp ht
    rw [Function.comp_apply, descsSpec_getD_mid A sh C t ht', getD_append_add _ _ _ ha,
      getD_append_lt _ _ _ hb ht']
  · intro t ht
    rw [Function.comp_apply, descsSpec_getD_gt A sh C t (List.mem_range.mp ht)]
  · intro t ht
    rw [descsSpec_getD_lt A sh C t (List.mem_range.mp ht)]

/-- the output dimension that runs over slice selector number `e`, before the array … -/
theorem descsSpec_find_lt (e : Nat) (he : e < A.length) :
    (List.range (descsSpec A sh C).length).find? (fun j => ((descsSpec A sh C).getD j (none, 0)).1 == some e)
      = some e := by
  apply find?_range_first
  · rw [descsSpec_length]
    exact Nat.lt_add_right _ he
  · rw [descsSpec_getD_lt A sh C e he]
    exact beq_self_eq_true _
  · intro i hi
    rw [descsSpec_getD_lt A sh C i (Nat.lt_trans hi he)]
    exact beq_false_of_ne fun h => Nat.ne_of_lt hi (Option.some.inj h)

/-- … and after it: the dimensions of the array come in between -/
theorem descsSpec_find_gt (t : Nat) (ht : t < C.length) :
    (List.range (descsSpec A sh C).length).find?
        (fun j => ((descsSpec A sh C).getD j (none, 0)).1 == some (A.length + 1 + t))
      = some (A.length + (sh.length + t)) := by
  apply find?_range_first
  · rw [descsSpec_length]
    exact Nat.add_lt_add_left (Nat.add_lt_add_left ht _) _
  · rw [descsSpec_getD_gt A sh C t ht]
    exact beq_self_eq_true _
  · intro i hi
    rcases Nat.lt_or_ge i A.length with c1 | c1
    · rw [descsSpec_getD_lt A sh C i c1]
      exact beq_false_of_ne fun h => Nat.not_lt.mpr
        (Option.some.inj h ▸ Nat.le_trans (Nat.le_add_right _ 1) (Nat.le_add_right _ t)) c1
    · obtain ⟨s, rfl⟩ := Nat.exists_eq_add_of_le c1
      rcases Nat.lt_or_ge s sh.length with c2 | c2
      · rw [descsSpec_getD_mid A sh C s c2]
        rfl
      · obtain ⟨s', rfl⟩ := Nat.exists_eq_add_of_le c2
        have hs : s' < t := Nat.lt_of_add_lt_add_left (Nat.lt_of_add_lt_add_left hi)
        rw [descsSpec_getD_gt A sh C s' (Nat.lt_trans hs ht)]
        exact beq_false_of_ne fun h => Nat.ne_of_lt hs (Nat.add_left_cancel (Option.some.inj h))

theorem inIdxOf_spec (n : Nat) (oa ob oc bIdx : List Nat) (ha : oa.length = A.length)
    (hb : ob.length = sh.length) (hc : oc.length = C.length)
    (hva : ∀ j, j < A.length → oa.getD j 0 < A.getD j 0) (hvc : ∀ j, j < C.length → oc.getD j 0 < C.getD j 0)
    (hv : -(n : Int) ≤ vals.getD (ravelIdx sh (bcastIndex sh bIdx)) 0 ∧
      vals.getD (ravelIdx sh (bcastIndex sh bIdx)) 0 < n) :
    inIdxOf (selsOf A sh vals C) (A ++ n :: C) (descsSpec A sh C) (oa ++ (ob ++ oc)) bIdx
      = .ok (oa ++ (normIdx n (vals.getD (ravelIdx sh (bcastIndex sh bIdx)) 0)).toNat :: oc) := by
  unfold inIdxOf
  rw [selsOf_length]
  apply mapM_range_three _ _ _ _ ha hc
  · intro e he
    rw [selsOf_getD_lt A sh vals C e he]
    simp only [fullSel]
    rw [descsSpec_find_lt A sh C e he, Option.getD_some, getD_append_lt _ _ _ ha he,
      range_getD_self _ _ (hva e he)]
  · rw [selsOf_getD_eq]
    simp only
    rw [getD_append_length A (n :: C) 0 rfl, List.getD_cons_zero, normE_ok n _ hv]
  · intro t ht
    rw [selsOf_getD_gt A sh vals C t ht]
    simp only [fullSel]
    rw [descsSpec_find_gt A sh C t ht, Option.getD_some, getD_append_add _ _ _ ha, getD_append_add _ _ _ hb,
      range_getD_self _ _ (hvc t ht)]

end sels

/-! ### the position map in closed form -/

/-- the normalised index value number `b`, as a natural number -/
def nvf (n : Nat) (vals : List Int) (b : Nat) : Nat := (normIdx n (vals.getD b 0)).toNat

/-- flat input position selected by output element `k`: leading coordinates `k / (M R)`, array element
`k / R % M`, trailing coordinates `k % R` -/
def posFn (n : Nat) (C sh : List Nat) (vals : List Int) (k : Nat) : Nat :=
  (k / (prodNat sh * prodNat C) * n + nvf n vals (k / prodNat C % prodNat sh)) * prodNat C + k % prodNat C

theorem indexPositions_eval (A C sh : List Nat) (n : Nat) (vals : List Int) (idx : List IdxEntry)
    (hsels : toSels (A ++ n :: C) idx = .ok (selsOf A sh vals C))
    (hadj : adjacentOf (flagsOf idx true) = true)
    (hvals : ∀ i ∈ vals, -(n : Int) ≤ i ∧ i < n) (hlen : vals.length = prodNat sh) :
    indexPositions (A ++ n :: C) idx
      = .ok (A ++ (sh ++ C), (List.range (prodNat (A ++ (sh ++ C)))).map (posFn n C sh vals)) := by
  rw [indexPositions_eq']
  unfold indexPositions'
  rw [hsels]
  simp only [bind, Except.bind, hasArrOf_selsOf, advShapesOf_selsOf, bshapeOf_single, hadj, advPosOf_selsOf,
    List.headD_cons, sliceDescsOf_selsOf, descsOf_spec, descsSpec_shape]
  rw [except_mapM_ok _ (posFn n C sh vals)]
  · rfl
  · intro k hk
    have hk' : k < prodNat A * (prodNat sh * prodNat C) := prodNat_append3 A sh C ▸ List.mem_range.mp hk
    obtain ⟨hP, hM, hR, hMR⟩ := pos_of_lt_mul hk'
    have hoi : unravel (A ++ (sh ++ C)) k
        = unravel A (k / (prodNat sh * prodNat C)) ++ (unravel sh (k / prodNat C) ++ unravel C k) := by
      rw [unravel_append, unravel_append, prodNat_append]
    obtain ⟨la, va⟩ := (forall2_lt_iff _ _).mp (unravel_valid_mod A (k / (prodNat sh * prodNat C)) hP).1
    obtain ⟨lb, -⟩ := (forall2_lt_iff _ _).mp (unravel_valid_mod sh (k / prodNat C) hM).1
    obtain ⟨lc, vc⟩ := (forall2_lt_iff _ _).mp (unravel_valid_mod C k hR).1
    have hb : ravelIdx sh (bcastIndex sh (unravel sh (k / prodNat C))) = k / prodNat C % prodNat sh := by
      rw [Diagonal.bcastIndex_self _ _ (unravel_valid_mod sh _ hM).1, (unravel_valid_mod sh _ hM).2]
    simp only [hoi]
    rw [bIdxOf_spec A sh C _ _ _ la lb]
    rw [inIdxOf_spec A sh vals C n _ _ _ _ la lb lc va vc (by
      rw [hb]
      have hlt : k / prodNat C % prodNat sh < vals.length := by rw [hlen]; exact Nat.mod_lt _ hM
      rw [List.getD_eq_getElem _ _ hlt]
      exact hvals _ (List.getElem_mem _))]
    simp only [hb, pure, Except.pure]
    congr 1
    rw [ravelIdx_append A (n :: C) _ _ la (by simp [lc]), ma_ravelIdx_cons n C _ _ lc, prodNat_cons,
      (unravel_valid_mod A _ hP).2, (unravel_valid_mod C _ hR).2,
      Nat.mod_eq_of_lt ((Nat.div_lt_iff_lt_mul hMR).mpr hk')]
    unfold posFn nvf
    rw [Nat.add_mul, Nat.mul_assoc, Nat.add_assoc]

theorem countP_range_mul (p : Nat → Bool) (a b : Nat) :
    (List.range (a * b)).countP p
      = ((List.range a).map fun i => (List.range b).countP fun j => p (i * b + j)).sum := by
  induction a with
  | zero => simp
  | succ a ih =>
    rw [Nat.succ_mul, List.range_add, List.countP_append, ih, List.range_succ, List.map_append, List.sum_append,
      List.countP_map]
    simp [Function.comp_def]

theorem sum_map_ite_countP (l : List Nat) (p : Nat → Bool) (c : Nat) :
    (l.map fun i => if p i = true then c else 0).sum = l.countP p * c := by
  induction l with
  | nil => rw [List.map_nil, List.sum_nil, List.countP_nil, Nat.zero_mul]
  | cons x l ih =>
    rw [List.map_cons, List.sum_cons, List.countP_cons, ih, Nat.add_mul, Nat.add_comm]
    cases p x <;> simp

/-- a condition on the quotient and a condition on the remainder are counted independently -/
theorem countP_div_mod (p q : Nat → Bool) (a b : Nat) :
    (List.range (a * b)).countP (fun k => p (k / b) && q (k % b))
      = (List.range a).countP p * (List.range b).countP q := by
  rw [countP_range_mul, ← sum_map_ite_countP]
  congr 1
  apply List.map_congr_left
  intro i _
  rw [List.countP_congr (q := fun j => p i && q j)]
  · cases p i <;> simp
  · intro j hj
    rw [flat_div i (List.mem_range.mp hj), flat_mod i (List.mem_range.mp hj)]

theorem countP_beq_range (n q : Nat) (hq : q < n) : (List.range n).countP (· == q) = 1 := by
  rw [← List.count_eq_countP]
  exact List.count_eq_one_of_mem List.nodup_range (List.mem_range.mpr hq)

/-- Output element `k` selects input position `q = ((qi * n + v) * R + qj)` exactly when its leading coordinates
are `qi`, its trailing coordinates `qj`, and the array element it uses has value `v`; the three conditions are on
`k / (M * R)`, `k % (M * R) / R` and `k % (M * R) % R`, so that they are counted independently. -/
theorem count_posFn (n P M R : Nat) (f : Nat → Nat) (hf : ∀ b, b < M → f b < n) (qi v qj : Nat)
    (hqi : qi < P) (hv : v < n) (hqj : qj < R) :
    ((List.range (P * (M * R))).map fun k => (k / (M * R) * n + f (k / R % M)) * R + k % R).count
        ((qi * n + v) * R + qj)
      = (List.range M).countP fun b => f b == v := by
  rw [List.count_eq_countP, List.countP_map, List.countP_congr (q := fun k =>
      (k / (M * R) == qi) && ((fun j => (f (j / R) == v) && (j % R == qj)) (k % (M * R)))),
    countP_div_mod (· == qi) (fun j => (f (j / R) == v) && (j % R == qj)) P (M * R),
    countP_div_mod (fun b => f b == v) (· == qj) M R, countP_beq_range P qi hqi,
    countP_beq_range R qj hqj, Nat.one_mul, Nat.mul_one]
  intro k hk
  obtain ⟨-, hM, hR, -⟩ := pos_of_lt_mul (List.mem_range.mp hk)
  have hb : k / R % M < M := Nat.mod_lt _ hM
  have hj : k % R < R := Nat.mod_lt _ hR
  simp only [Function.comp_apply, Nat.mod_mul_left_div_self, Nat.mod_mul_left_mod, beq_iff_eq, Bool.and_eq_true]
  constructor
  · intro h
    obtain ⟨h1, h2⟩ := flat_inj hj hqj h
    obtain ⟨h3, h4⟩ := flat_inj (hf _ hb) hv h1
    exact ⟨h3, h4, h2⟩
  · rintro ⟨h1, h2, h3⟩
    rw [h1, h2, h3]

/-! ### `toSels` on the fragment: full slices, at most one ellipsis, one integer array -/

theorem pyRange_add (fuel s n : Nat) (h : n < fuel) :
    pyRange (s : Int) ((s + n : Nat) : Int) 1 fuel = List.range' s n := by
  induction n generalizing s fuel with
  | zero =>
    obtain ⟨fuel, rfl⟩ := Nat.exists_eq_succ_of_ne_zero (Nat.ne_of_gt h)
    rw [pyRange, if_pos Int.one_pos, Nat.add_zero, if_neg (Int.lt_irrefl _)]
    rfl
  | succ n ih =>
    obtain ⟨fuel, rfl⟩ := Nat.exists_eq_succ_of_ne_zero (Nat.ne_of_gt (Nat.zero_lt_of_lt h))
    rw [pyRange, if_pos Int.one_pos, if_pos (Int.ofNat_lt.mpr (Nat.lt_add_of_pos_right (Nat.succ_pos n))),
      ← Int.natCast_succ, Int.toNat_natCast, List.range'_succ, Nat.add_succ, ← Nat.succ_add,
      ih fuel (s + 1) (Nat.lt_of_succ_lt_succ h)]

theorem sliceIndices_full (len : Nat) : sliceIndices none none none len = .ok (List.range len) := by
  have h := pyRange_add (len + 1) 0 len (Nat.lt_succ_self _)
  rw [Nat.zero_add] at h
  rw [List.range_eq_range']
  exact congrArg Except.ok h

def fragEntry (e : IdxEntry) : Prop := e = .slice none none none ∨ e = .ellipsis ∨ ∃ sh v, e = .iarr sh v

def plainFull (e : IdxEntry) : Prop := e = .slice none none none ∨ e = .ellipsis

theorem fragEntry_of_plainFull {e : IdxEntry} (h : plainFull e) : fragEntry e :=
  h.elim Or.inl fun h => Or.inr (Or.inl h)

/-- what `toSels.go` produces on the fragment -/
def expandEntries (shape : List Nat) (fill : Nat) : List IdxEntry → Nat → List Sel
  | [], _ => []
  | .ellipsis :: r, dim =>
    (List.range fill).map (fun k => fullSel (shape.getD (dim + k) 0)) ++ expandEntries shape fill r (dim + fill)
  | .iarr sh v :: r, dim => .adv sh v :: expandEntries shape fill r (dim + 1)
  | _ :: r, dim => fullSel (shape.getD dim 0) :: expandEntries shape fill r (dim + 1)

theorem expand_nil (shape : List Nat) (fill dim : Nat) : expandEntries shape fill [] dim = [] := rfl
theorem expand_slice (shape : List Nat) (fill dim : Nat) (x y z : Option Int) (r : List IdxEntry) :
    expandEntries shape fill (.slice x y z :: r) dim
      = fullSel (shape.getD dim 0) :: expandEntries shape fill r (dim + 1) := rfl
theorem expand_ellipsis (shape : List Nat) (fill dim : Nat) (r : List IdxEntry) :
    expandEntries shape fill (.ellipsis :: r) dim
      = (List.range fill).map (fun k => fullSel (shape.getD (dim + k) 0))
        ++ expandEntries shape fill r (dim + fill) := rfl
theorem expand_iarr (shape : List Nat) (fill dim : Nat) (sh : List Nat) (v : List Int) (r : List IdxEntry) :
    expandEntries shape fill (.iarr sh v :: r) dim = .adv sh v :: expandEntries shape fill r (dim + 1) := rfl

theorem go_spec (shape : List Nat) (fill : Nat) (es : List IdxEntry) (dim : Nat) (acc : List Sel)
    (h : ∀ e ∈ es, fragEntry e) :
    toSels.go shape fill es dim acc = .ok (acc.reverse ++ expandEntries shape fill es dim) := by
  induction es generalizing dim acc with
  | nil => rw [toSels.go, expand_nil, List.append_nil]
  | cons e es ih =>
    have ih' := fun dim acc => ih dim acc (fun e he => h e (List.mem_cons_of_mem _ he))
    rcases h e List.mem_cons_self with rfl | rfl | ⟨sh, v, rfl⟩
    · rw [toSels.go, sliceIndices_full]
      simp only
      rw [ih', expand_slice, List.reverse_cons, List.append_assoc]
      rfl
    · rw [toSels.go, ih', expand_ellipsis, List.reverse_append, List.reverse_reverse, List.append_assoc]
      rfl
    · rw [toSels.go, ih', expand_iarr, List.reverse_cons, List.append_assoc]
      rfl

/-- `toSels` when it raises no error: the walk over the entries, an ellipsis appended if none is written -/
theorem toSels_eq_go (shape : List Nat) (idx : List IdxEntry) (hell : idx.count .ellipsis ≤ 1)
    (hused : (idx.map consumed).sum ≤ shape.length) :
    toSels shape idx = toSels.go shape (shape.length - (idx.map consumed).sum)
      (if idx.count .ellipsis = 0 then idx ++ [.ellipsis] else idx) 0 [] := by
  unfold toSels
  rw [← List.countP_eq_length_filter, ← List.count_eq_countP, if_neg (Nat.not_lt.mpr hell),
    if_neg (Nat.not_lt.mpr hused)]
  simp only [beq_iff_eq]

/-- number of input dimensions a list of plain entries spans -/
def widthOf (fill : Nat) (es : List IdxEntry) : Nat :=
  (es.map fun e => if e = .ellipsis then fill else 1).sum

theorem widthOf_slice (fill : Nat) (x y z : Option Int) (es : List IdxEntry) :
    widthOf fill (.slice x y z :: es) = 1 + widthOf fill es := rfl
theorem widthOf_ellipsis (fill : Nat) (es : List IdxEntry) :
    widthOf fill (.ellipsis :: es) = fill + widthOf fill es := rfl
theorem widthOf_append (fill : Nat) (a b : List IdxEntry) :
    widthOf fill (a ++ b) = widthOf fill a + widthOf fill b := by
  rw [widthOf, List.map_append, List.sum_append]
  rfl

theorem expand_plain_append (shape : List Nat) (fill : Nat) (es rest : List IdxEntry) (dim : Nat)
    (h : ∀ e ∈ es, plainFull e) :
    expandEntries shape fill (es ++ rest) dim
      = (List.range (widthOf fill es)).map (fun k => fullSel (shape.getD (dim + k) 0))
        ++ expandEntries shape fill rest (dim + widthOf fill es) := by
  induction es generalizing dim with
  | nil => rfl
  | cons e es ih =>
    have ih' := fun dim => ih dim (fun e he => h e (List.mem_cons_of_mem _ he))
    rcases h e List.mem_cons_self with rfl | rfl
    · rw [List.cons_append, expand_slice, ih', widthOf_slice, Diagonal.map_range_add]
      simp only [Nat.add_assoc]
      rfl
    · rw [List.cons_append, expand_ellipsis, ih', widthOf_ellipsis, Diagonal.map_range_add, List.append_assoc]
      simp only [Nat.add_assoc]

theorem expand_plain (shape : List Nat) (fill : Nat) (es : List IdxEntry) (dim : Nat)
    (h : ∀ e ∈ es, plainFull e) :
    expandEntries shape fill es dim
      = (List.range (widthOf fill es)).map (fun k => fullSel (shape.getD (dim + k) 0)) := by
  have := expand_plain_append shape fill es [] dim h
  rwa [List.append_nil, expand_nil, List.append_nil] at this

/-- on the fragment every entry but the ellipsis consumes one dimension -/
theorem consumed_sum (es : List IdxEntry) (h : ∀ e ∈ es, fragEntry e) :
    (es.map consumed).sum + es.count .ellipsis = es.length := by
  induction es with
  | nil => rfl
  | cons e es ih =>
    have he : consumed e + [e].count .ellipsis = 1 := by
      rcases h e List.mem_cons_self with rfl | rfl | ⟨sh, v, rfl⟩ <;> rfl
    rw [List.map_cons, List.sum_cons, List.length_cons, ← ih (fun e he => h e (List.mem_cons_of_mem _ he)),
      ← List.singleton_append (l := es), List.count_append]
    omega

theorem widthOf_eq (fill : Nat) (es : List IdxEntry) (h : ∀ e ∈ es, plainFull e) :
    widthOf fill es = (es.map consumed).sum + fill * es.count .ellipsis := by
  induction es with
  | nil => rfl
  | cons e es ih =>
    have := ih (fun e he => h e (List.mem_cons_of_mem _ he))
    rw [List.map_cons, List.sum_cons]
    rcases h e List.mem_cons_self with rfl | rfl
    · rw [widthOf_slice, this, List.count_cons_of_ne (by simp), ← Nat.add_assoc]
      rfl
    · rw [widthOf_ellipsis, this, List.count_cons_self, Nat.mul_succ]
      show _ = 0 + _ + _
      rw [Nat.zero_add, Nat.add_comm fill, Nat.add_assoc]

theorem widthOf_no_ellipsis (fill : Nat) (es : List IdxEntry) (h : ∀ e ∈ es, plainFull e)
    (h0 : es.count .ellipsis = 0) : widthOf fill es = es.length := by
  rw [widthOf_eq fill es h, ← consumed_sum es fun e he => fragEntry_of_plainFull (h e he), h0, Nat.mul_zero]

theorem map_getD_range_slice (shape : List Nat) (d w : Nat) (h : d + w ≤ shape.length) (f : Nat → Sel) :
    (List.range w).map (fun k => f (shape.getD (d + k) 0)) = ((shape.drop d).take w).map f := by
  apply List.ext_getElem
  · rw [List.length_map, List.length_range, List.length_map, List.length_take, List.length_drop]
    omega
  · intro i h1 h2
    rw [List.length_map, List.length_range] at h1
    rw [List.getElem_map, List.getElem_range, List.getElem_map, List.getElem_take, List.getElem_drop,
      List.getD_eq_getElem _ _ (by omega)]

theorem go_frag (shape : List Nat) (fill : Nat) (pre post' : List IdxEntry) (sh : List Nat) (vals : List Int)
    (hpre : ∀ e ∈ pre, plainFull e) (hpost : ∀ e ∈ post', plainFull e)
    (hw : widthOf fill pre + 1 + widthOf fill post' = shape.length) :
    toSels.go shape fill (pre ++ .iarr sh vals :: post') 0 []
      = .ok (selsOf (shape.take (widthOf fill pre)) sh vals (shape.drop (widthOf fill pre + 1))) := by
  rw [go_spec _ _ _ _ _ (List.forall_mem_append.mpr ⟨fun e h => fragEntry_of_plainFull (hpre e h),
      List.forall_mem_cons.mpr ⟨Or.inr (Or.inr ⟨_, _, rfl⟩), fun e h => fragEntry_of_plainFull (hpost e h)⟩⟩),
    expand_plain_append _ _ _ _ _ hpre, expand_iarr, expand_plain _ _ _ _ hpost,
    map_getD_range_slice shape 0 _ (by rw [← hw, Nat.zero_add, Nat.add_assoc]; exact Nat.le_add_right _ _),
    map_getD_range_slice shape _ _ (by rw [Nat.zero_add, hw]), Nat.zero_add, List.drop_zero,
    List.take_of_length_le (l := shape.drop (widthOf fill pre + 1))
      (by rw [List.length_drop, ← hw, Nat.add_sub_cancel_left])]
  rfl

/-- the number of dimensions the ellipsis (written or implied) stands for -/
def fillOf (shape : List Nat) (pre post : List IdxEntry) : Nat :=
  shape.length - (pre.length + 1 + post.length - (pre ++ post).count .ellipsis)

def arrayAxis (shape : List Nat) (pre post : List IdxEntry) : Nat := widthOf (fillOf shape pre post) pre

section frag
variable {pre post : List IdxEntry} (hpre : ∀ e ∈ pre, plainFull e) (hpost : ∀ e ∈ post, plainFull e)
include hpre hpost

/-- the number of dimensions the written entries take: one for the array, one for each slice -/
theorem used_frag : pre.length + 1 + post.length - (pre ++ post).count .ellipsis
    = ((pre ++ post).map consumed).sum + 1 := by
  rw [Nat.add_right_comm, ← List.length_append,
    ← consumed_sum _ (List.forall_mem_append.mpr ⟨fun e he => fragEntry_of_plainFull (hpre e he),
      fun e he => fragEntry_of_plainFull (hpost e he)⟩), Nat.add_right_comm, Nat.add_sub_cancel]

/-- the entries span all dimensions, once an implied ellipsis is counted -/
theorem width_frag (shape : List Nat) (hell : (pre ++ post).count .ellipsis ≤ 1)
    (hused : pre.length + 1 + post.length - (pre ++ post).count .ellipsis ≤ shape.length) :
    widthOf (fillOf shape pre post) pre + 1 + widthOf (fillOf shape pre post) post
      + (if (pre ++ post).count .ellipsis = 0 then fillOf shape pre post else 0) = shape.length := by
  have hf : fillOf shape pre post = shape.length - (((pre ++ post).map consumed).sum + 1) := by
    rw [fillOf, used_frag hpre hpost]
  rw [used_frag hpre hpost] at hused
  rw [Nat.add_right_comm _ 1, ← widthOf_append, widthOf_eq _ _ (List.forall_mem_append.mpr ⟨hpre, hpost⟩)]
  rcases Nat.le_one_iff_eq_zero_or_eq_one.mp hell with h | h
  · rw [h, if_pos rfl, Nat.mul_zero, Nat.add_zero, hf, Nat.add_sub_cancel' hused]
  · rw [h, if_neg Nat.one_ne_zero, Nat.mul_one, Nat.add_zero, Nat.add_right_comm, hf, Nat.add_sub_cancel' hused]

theorem width_pre_lt (shape : List Nat) (hell : (pre ++ post).count .ellipsis ≤ 1)
    (hused : pre.length + 1 + post.length - (pre ++ post).count .ellipsis ≤ shape.length) :
    arrayAxis shape pre post < shape.length := by
  unfold arrayAxis
  rw [← width_frag hpre hpost shape hell hused, Nat.add_assoc, Nat.add_assoc]
  exact Nat.lt_add_of_pos_right (Nat.add_pos_left Nat.one_pos _)

end frag

theorem count_ellipsis_iarr (pre post : List IdxEntry) (sh : List Nat) (vals : List Int) :
    (pre ++ .iarr sh vals :: post).count .ellipsis = (pre ++ post).count .ellipsis := by
  rw [List.count_append, List.count_append, List.count_cons_of_ne (by simp)]

theorem toSels_frag (shape : List Nat) (pre post : List IdxEntry) (sh : List Nat) (vals : List Int)
    (hpre : ∀ e ∈ pre, plainFull e) (hpost : ∀ e ∈ post, plainFull e)
    (hell : (pre ++ post).count .ellipsis ≤ 1)
    (hused : pre.length + 1 + post.length - (pre ++ post).count .ellipsis ≤ shape.length) :
    toSels shape (pre ++ .iarr sh vals :: post)
      = .ok (selsOf (shape.take (arrayAxis shape pre post)) sh vals (shape.drop (arrayAxis shape pre post + 1))) := by
  have hw := width_frag hpre hpost shape hell hused
  have hc := count_ellipsis_iarr pre post sh vals
  have hs : ((pre ++ .iarr sh vals :: post).map consumed).sum
      = pre.length + 1 + post.length - (pre ++ post).count .ellipsis := by
    rw [used_frag hpre hpost, List.map_append, List.map_append, List.sum_append, List.sum_append, List.map_cons,
      List.sum_cons, Nat.add_assoc, Nat.add_comm _ 1]
    rfl
  rw [toSels_eq_go _ _ (hc ▸ hell) (hs ▸ hused), hc, hs]
  show toSels.go shape (fillOf shape pre post) _ 0 [] = _
  by_cases h0 : (pre ++ post).count .ellipsis = 0
  · rw [if_pos h0] at hw ⊢
    rw [List.append_assoc, List.cons_append]
    exact go_frag shape _ pre (post ++ [.ellipsis]) sh vals hpre
      (List.forall_mem_append.mpr ⟨hpost, fun e he => Or.inr (List.mem_singleton.mp he)⟩)
      (by rw [widthOf_append, ← Nat.add_assoc]; exact hw)
  · rw [if_neg h0] at hw ⊢
    exact go_frag shape _ pre post sh vals hpre hpost hw

/-! ## B. from a position specification to the law -/

/-- what the position map of one leaf has to satisfy: it is computed without error, has one entry per element of
the result shape, stays inside the leaf, and the number of times a flat position `q` of the leaf is selected is
the multiplicity of `q`'s coordinate along axis `a` among the (normalised) index values -/
structure PosSpec (shape : List Nat) (idx : List IdxEntry) (a sizeMax : Nat) (vals : List Int)
    (osh pos : List Nat) : Prop where
  ok : indexPositions shape idx = .ok (osh, pos)
  len : pos.length = prodNat osh
  lt : ∀ q ∈ pos, q < prodNat shape
  count : ∀ q, q < prodNat shape →
    pos.count q = (mult sizeMax vals).getD ((unravel shape q).getD a 0) 0

/-- the values of the diagonal operator the rule builds -/
def covVals (sizeMax : Nat) (vals : List Int) : Tensor Rat :=
  ⟨[sizeMax], (ruleCoverage sizeMax vals).map (fun (c : Nat) => (c : Rat))⟩

/-- `axis` is Python-style axis number `a` of an array of rank `n` -/
def AxisIs (n : Nat) (axis : Int) (a : Nat) : Prop :=
  a < n ∧ ((0 ≤ axis ∧ axis = a) ∨ (axis < 0 ∧ (n : Int) + axis = a))

theorem axisIs_iff (n : Nat) (axis : Int) (a : Nat) :
    AxisIs n axis a ↔ a < n ∧ (if axis < 0 then axis + n else axis) = a := by
  unfold AxisIs
  split <;> omega

theorem pyGet?_eq_some_iff {α : Type} (l : List α) (i : Int) (x : α) :
    pyGet? l i = some x ↔ ∃ t, AxisIs l.length i t ∧ l[t]? = some x := by
  simp only [axisIs_iff]
  unfold pyGet?
  generalize (if i < 0 then i + (l.length : Int) else i) = j
  constructor
  · intro h
    have hj : ¬ j < 0 := fun hj => by simp [hj] at h
    rw [if_neg hj] at h
    exact ⟨j.toNat, ⟨(List.getElem?_eq_some_iff.mp h).1, (Int.toNat_of_nonneg (Int.not_lt.mp hj)).symm⟩, h⟩
  · rintro ⟨t, ⟨_, rfl⟩, h⟩
    rw [if_neg (Int.not_lt.mpr (Int.natCast_nonneg t)), Int.toNat_natCast]
    exact h

/-- A rank-one diagonal along one axis: the strict broadcasting product succeeds, keeps the shape, and multiplies
the element at flat position `q` by the value at `q`'s coordinate along that axis. -/
theorem diag_axis_apply (v : Tensor ℝ) (shape : List Nat) (a m : Nat) (axis : Int) (hv : v.shape = [m])
    (hax : AxisIs shape.length axis a) (hsz : shape.getD a 0 = m) (c : V) :
    ∃ y, Diagonal.apply true v (.seq [axis]) (⟨shape, c⟩ : Tensor ℝ) = .ok y ∧ y.shape = shape ∧
      y.data.length = prodNat shape ∧
      ∀ q, q < prodNat shape → y.data.getD q 0 = v.data.getD ((unravel shape q).getD a 0) 0 * c.getD q 0 := by
  obtain ⟨ha, haxis⟩ := hax
  have hnorm : Diagonal.normalizedAxes [axis] shape.length = [(a : Int)] := by
    show [if axis ≥ 0 then axis else (shape.length : Int) + axis] = _
    rcases haxis with ⟨h0, h1⟩ | ⟨h0, h1⟩
    · rw [if_pos h0, h1]
    · rw [if_neg (Int.not_le.mpr h0), h1]
  obtain ⟨y, hy, hys, hyl, hyd⟩ := Diagonal.apply_inrange_signed true v (⟨shape, c⟩ : Tensor ℝ) [axis]
    (by rw [hv]; exact List.cons_ne_nil _ _) (by rw [hv]; rfl) (by rw [hnorm]; exact List.nodup_singleton _)
    (by
      intro b hb
      rw [List.mem_singleton.mp hb]
      show -(shape.length : Int) ≤ axis ∧ axis < shape.length
      omega)
    (by
      rw [hv, hnorm]
      intro k hk
      rw [Nat.lt_one_iff.mp hk]
      exact hsz.symm)
  refine ⟨y, hy, hys, hyl, fun q hq => ?_⟩
  have e : ravelIdx [m] (Diagonal.valuesIndex [(a : Int)] (unravel shape q)) = (unravel shape q).getD a 0 := by
    show 0 * m + (unravel shape q).getD (a : Int).toNat 0 = _
    rw [Nat.zero_mul, Nat.zero_add, Int.toNat_natCast]
  rw [← e, ← hv, ← hnorm]
  exact hyd q hq

theorem covVals_getD (sizeMax : Nat) (vals : List Int) (hvals : ∀ i ∈ vals, -(sizeMax : Int) ≤ i ∧ i < sizeMax)
    (i : Nat) (hi : i < sizeMax) :
    (castT (covVals sizeMax vals)).data.getD i 0 = (((mult sizeMax vals).getD i 0 : Nat) : ℝ) := by
  have hi' : i < (mult sizeMax vals).length := by simpa [mult] using hi
  simp only [castT, covVals, Tensor.map]
  rw [ruleCoverage_eq_mult sizeMax vals hvals, List.getD_eq_getElem _ _ (by simpa using hi'),
    List.getD_eq_getElem _ _ hi']
  simp

section law
variable {shape : List Nat} {idx : List IdxEntry} {a sizeMax : Nat} {vals : List Int} {osh pos : List Nat}
  (S : PosSpec shape idx a sizeMax vals osh pos) (axis : Int)
  (hax : AxisIs shape.length axis a) (hsz : shape.getD a 0 = sizeMax)
  (hvals : ∀ i ∈ vals, -(sizeMax : Int) ≤ i ∧ i < sizeMax)
include S hax hsz hvals

theorem leaf_law (li li' lo : LeafS) (hli : li.shape = shape) (hlo : lo.shape = osh)
    (c : V) (hc : c.length = prodNat shape) :
    scatterLeaf idx lo li (fit lo.size (gatherLeaf idx li lo c))
      = diagLeaf true (covVals sizeMax vals) [axis] li li' c := by
  have hN : li.size = prodNat shape := by rw [LeafS.size, hli]
  have hL : lo.size = pos.length := by rw [LeafS.size, hlo, S.len]
  obtain ⟨y, hy, _, hyl, hyd⟩ := diag_axis_apply (castT (covVals sizeMax vals)) shape a sizeMax axis rfl hax hsz c
  unfold scatterLeaf gatherLeaf diagLeaf
  rw [hli, S.ok]
  simp only
  rw [fit_eq_self (by rw [gather_length, hL]), hN, scatter_gather_mult (α := ℝ) (prodNat shape) pos c S.lt hc, hy]
  show _ = y.data
  rw [eq_range_map_getD (prodNat shape) y.data hyl]
  apply List.map_congr_left
  intro q hq
  have hq' : q < prodNat shape := List.mem_range.mp hq
  have hcoord : (unravel shape q).getD a 0 < shape.getD a 0 :=
    ((forall2_lt_iff _ _).mp (ma_unravel_valid shape q hq').1).2 a hax.1
  rw [hyd q hq', S.count q hq', covVals_getD sizeMax vals hvals _ (hsz ▸ hcoord)]

theorem perLeaf_law (sl tl : List LeafS) (hsl : ∀ l ∈ sl, l.shape = shape) (htl : ∀ l ∈ tl, l.shape = osh)
    (hlen : tl.length = sl.length) (x : V) (hx : x.length = (sl.map LeafS.size).sum) :
    perLeaf (scatterLeaf idx) tl sl (perLeaf (gatherLeaf idx) sl tl x)
      = perLeaf (diagLeaf true (covVals sizeMax vals) [axis]) sl sl x := by
  induction sl generalizing tl x with
  | nil =>
    cases tl with
    | nil => rfl
    | cons => cases hlen
  | cons li sl ih =>
    cases tl with
    | nil => cases hlen
    | cons lo tl =>
      have hli : li.shape = shape := hsl li List.mem_cons_self
      have hlo : lo.shape = osh := htl lo List.mem_cons_self
      rw [List.map_cons, List.sum_cons] at hx
      rw [perLeaf_cons, perLeaf_cons, perLeaf_cons,
        headChunk_append _ (fit_length _ _), List.drop_left' (fit_length _ _),
        leaf_law S axis hax hsz hvals li li lo hli hlo _ (by rw [headChunk_length, LeafS.size, hli]),
        ih tl (fun l hl => hsl l (List.mem_cons_of_mem _ hl)) (fun l hl => htl l (List.mem_cons_of_mem _ hl))
          (Nat.succ.inj hlen) _ (by rw [List.length_drop, hx, Nat.add_sub_cancel_left])]

theorem index_mult_of_posSpec (E : Env) (u uo : Nat) (p : Params) (hidx : p.idx = idx)
    (hin : ∀ l ∈ p.inS.leaves, l.shape = shape) (hout : ∀ l ∈ p.outS.leaves, l.shape = osh)
    (hlen : p.outS.leaves.length = p.inS.leaves.length) :
    ∀ x : V, x.length = p.inS.size →
      den E (.leaf 0 .diagonal (transposeIndexDiag p axis sizeMax vals)) x
        = den E (.wrap u .transpose (.leaf uo .index p)) (den E (.leaf uo .index p) x) := by
  intro x hx
  subst hidx
  simp only [den, denT]
  show fit p.inS.size (perLeaf (diagLeaf true (covVals sizeMax vals) [axis]) p.inS.leaves p.inS.leaves
        (fit p.inS.size x))
    = fit p.inS.size (perLeaf (scatterLeaf p.idx) p.outS.leaves p.inS.leaves
        (fit p.outS.size (fit p.outS.size (perLeaf (gatherLeaf p.idx) p.inS.leaves p.outS.leaves
          (fit p.inS.size x)))))
  rw [fit_eq_self hx, fit_eq_self (n := p.outS.size) (perLeaf_length _ _ _ _ hlen.symm),
    fit_eq_self (n := p.outS.size) (perLeaf_length _ _ _ _ hlen.symm),
    perLeaf_law S axis hax hsz hvals _ _ hin hout hlen x hx]

end law

theorem transposeIndexDiag_vals (p : Params) (axis : Int) (sizeMax : Nat) (vals : List Int) :
    (transposeIndexDiag p axis sizeMax vals).vals = covVals sizeMax vals := rfl

/-! ## C. the fragment -/

theorem nvf_lt (n : Nat) (vals : List Int) (hvals : ∀ i ∈ vals, -(n : Int) ≤ i ∧ i < n) (b : Nat)
    (hb : b < vals.length) : nvf n vals b < n := by
  unfold nvf
  rw [List.getD_eq_getElem _ _ hb]
  have := normIdx_range n _ (hvals _ (List.getElem_mem hb))
  exact (Int.toNat_lt this.1).mpr this.2

theorem countP_nvf (n : Nat) (vals : List Int) (hvals : ∀ i ∈ vals, -(n : Int) ≤ i ∧ i < n) (v : Nat)
    (hv : v < n) :
    (List.range vals.length).countP (fun b => nvf n vals b == v) = (mult n vals).getD v 0 := by
  unfold mult
  rw [ma_getD_map_range n _ v hv, ← List.countP_eq_length_filter]
  conv_rhs => rw [eq_range_map_getD vals.length vals rfl]
  rw [List.countP_map]
  apply List.countP_congr
  intro b hb
  have hb' := List.mem_range.mp hb
  simp only [Function.comp_apply, nvf, beq_iff_eq, decide_eq_true_eq, Int.ofNat_eq_natCast]
  rw [List.getD_eq_getElem _ _ hb']
  have := normIdx_range n _ (hvals _ (List.getElem_mem hb'))
  omega

/-- the position specification for a leaf of shape `A ++ n :: C`, the array on axis `A.length` -/
theorem posSpec_frag (A C sh : List Nat) (n : Nat) (vals : List Int) (idx : List IdxEntry)
    (hsels : toSels (A ++ n :: C) idx = .ok (selsOf A sh vals C))
    (hadj : adjacentOf (flagsOf idx true) = true)
    (hvals : ∀ i ∈ vals, -(n : Int) ≤ i ∧ i < n) (hlen : vals.length = prodNat sh) :
    PosSpec (A ++ n :: C) idx A.length n vals (A ++ (sh ++ C))
      ((List.range (prodNat (A ++ (sh ++ C)))).map (posFn n C sh vals)) := by
  refine ⟨indexPositions_eval A C sh n vals idx hsels hadj hvals hlen, by simp, ?_, ?_⟩
  · intro q hq
    obtain ⟨k, hk, rfl⟩ := List.mem_map.mp hq
    have hk' : k < prodNat A * (prodNat sh * prodNat C) := prodNat_append3 A sh C ▸ List.mem_range.mp hk
    obtain ⟨-, hM, hR, hMR⟩ := pos_of_lt_mul hk'
    rw [prodNat_append, prodNat_cons, ← Nat.mul_assoc]
    unfold posFn
    exact flat_lt (flat_lt ((Nat.div_lt_iff_lt_mul hMR).mpr hk')
      (nvf_lt n vals hvals _ (by rw [hlen]; exact Nat.mod_lt _ hM))) (Nat.mod_lt _ hR)
  · intro q hq
    rw [prodNat_append, prodNat_cons] at hq
    obtain ⟨-, hn, hR, hnR⟩ := pos_of_lt_mul hq
    have hcoord : (unravel (A ++ n :: C) q).getD A.length 0 = q / prodNat C % n := by
      rw [unravel_append, List.getD_append_right _ _ _ _ (by rw [ma_unravel_length]), ma_unravel_length,
        Nat.sub_self, ma_unravel_cons]
      rfl
    have hq3 : q = (q / (n * prodNat C) * n + q / prodNat C % n) * prodNat C + q % prodNat C := by
      have h1 := Nat.div_add_mod' q (prodNat C)
      have h2 := Nat.div_add_mod' (q / prodNat C) n
      rw [Nat.div_div_eq_div_mul, Nat.mul_comm (prodNat C) n] at h2
      rw [h2, h1]
    have hcount := count_posFn n (prodNat A) (prodNat sh) (prodNat C) (nvf n vals)
      (fun b hb => nvf_lt n vals hvals b (by omega)) (q / (n * prodNat C)) (q / prodNat C % n) (q % prodNat C)
      ((Nat.div_lt_iff_lt_mul hnR).mpr hq) (Nat.mod_lt _ hn) (Nat.mod_lt _ hR)
    rw [← hq3] at hcount
    rw [hcoord, ← countP_nvf n vals hvals _ (Nat.mod_lt _ hn), hlen, prodNat_append3]
    exact hcount

/-! ### adjacency of the advanced entries: a single flag -/

theorem idxOf_replicate_false (p : Nat) (l : List Bool) :
    (List.replicate p false ++ true :: l).idxOf true = p := by
  induction p with
  | zero => simp
  | succ p ih => simp [List.replicate_succ, ih]

theorem adjacentOf_single (p q : Nat) :
    adjacentOf (List.replicate p false ++ true :: List.replicate q false) = true := by
  unfold adjacentOf
  have hrev : (List.replicate p false ++ true :: List.replicate q false).reverse
      = List.replicate q false ++ true :: List.replicate p false := by
    rw [List.reverse_append, List.reverse_cons, List.reverse_replicate, List.reverse_replicate, List.append_assoc]
    rfl
  simp only [hrev, idxOf_replicate_false, List.length_append, List.length_replicate, List.length_cons]
  -- the first and the last flag are both at position `p`
  rw [Nat.add_succ_sub_one, Nat.add_sub_cancel, List.all_eq_true]
  intro k _
  by_cases h : k = p
  · rw [h, getD_append_length _ _ _ List.length_replicate, List.getD_cons_zero, Bool.or_true]
  · have : (decide (p ≤ k) && decide (k ≤ p)) = false := by
      rw [← Bool.not_eq_true, Bool.and_eq_true, decide_eq_true_eq, decide_eq_true_eq]
      exact fun ⟨h1, h2⟩ => h (Nat.le_antisymm h2 h1)
    rw [this]
    rfl

theorem flagsOf_single (pre post : List IdxEntry) (sh : List Nat) (vals : List Int)
    (hpre : ∀ e ∈ pre, plainFull e) (hpost : ∀ e ∈ post, plainFull e) :
    flagsOf (pre ++ .iarr sh vals :: post) true
      = List.replicate pre.length false ++ true :: List.replicate post.length false := by
  have key : ∀ l : List IdxEntry, (∀ e ∈ l, plainFull e) →
      l.map (fun e => match e with
        | .iarr .. | .barr .. => true
        | .int _ => true
        | _ => false) = List.replicate l.length false := by
    intro l hl
    rw [List.eq_replicate_iff]
    refine ⟨by simp, ?_⟩
    intro b hb
    obtain ⟨e, he, rfl⟩ := List.mem_map.mp hb
    rcases hl e he with rfl | rfl <;> rfl
  unfold flagsOf
  rw [List.map_append, List.map_cons, key pre hpre, key post hpost]

def resultShape (shape : List Nat) (pre post : List IdxEntry) (sh : List Nat) : List Nat :=
  shape.take (arrayAxis shape pre post) ++ (sh ++ shape.drop (arrayAxis shape pre post + 1))

/-- **the position specification on the fragment**: index tuple `pre ++ [array] ++ post`, `pre` and `post` made
of full slices and at most one ellipsis -/
theorem posSpec_of_frag (shape : List Nat) (pre post : List IdxEntry) (sh : List Nat) (vals : List Int)
    (hpre : ∀ e ∈ pre, plainFull e) (hpost : ∀ e ∈ post, plainFull e)
    (hell : (pre ++ post).count .ellipsis ≤ 1)
    (hused : pre.length + 1 + post.length - (pre ++ post).count .ellipsis ≤ shape.length)
    (hvals : ∀ i ∈ vals, -((shape.getD (arrayAxis shape pre post) 0 : Nat) : Int) ≤ i ∧
      i < (shape.getD (arrayAxis shape pre post) 0 : Nat))
    (hlen : vals.length = prodNat sh) :
    ∃ pos, PosSpec shape (pre ++ .iarr sh vals :: post) (arrayAxis shape pre post)
      (shape.getD (arrayAxis shape pre post) 0) vals (resultShape shape pre post sh) pos := by
  have ha := width_pre_lt hpre hpost shape hell hused
  have hshape : shape.take (arrayAxis shape pre post)
      ++ shape.getD (arrayAxis shape pre post) 0 :: shape.drop (arrayAxis shape pre post + 1) = shape := by
    rw [List.getD_eq_getElem _ _ ha, List.getElem_cons_drop, List.take_append_drop]
  have hadj : adjacentOf (flagsOf (pre ++ .iarr sh vals :: post) true) = true := by
    rw [flagsOf_single pre post sh vals hpre hpost]
    exact adjacentOf_single _ _
  have key := posSpec_frag (shape.take (arrayAxis shape pre post)) (shape.drop (arrayAxis shape pre post + 1)) sh
    (shape.getD (arrayAxis shape pre post) 0) vals (pre ++ .iarr sh vals :: post)
    (by rw [hshape]; exact toSels_frag shape pre post sh vals hpre hpost hell hused) hadj hvals hlen
  rw [hshape, List.length_take, Nat.min_eq_left (Nat.le_of_lt ha)] at key
  exact ⟨_, key⟩

/-- the Python axis number `TransposeIndexRule` reads off `indexed_axes`: counted from the left when no ellipsis
precedes the array, from the right otherwise -/
def pyAxis (pre post : List IdxEntry) : Int :=
  if IdxEntry.ellipsis ∈ pre then -((post.length : Int) + 1) else (pre.length : Int)

theorem axisIs_frag (shape : List Nat) (pre post : List IdxEntry)
    (hpre : ∀ e ∈ pre, plainFull e) (hpost : ∀ e ∈ post, plainFull e)
    (hell : (pre ++ post).count .ellipsis ≤ 1)
    (hused : pre.length + 1 + post.length - (pre ++ post).count .ellipsis ≤ shape.length) :
    AxisIs shape.length (pyAxis pre post) (arrayAxis shape pre post) := by
  refine ⟨width_pre_lt hpre hpost shape hell hused, ?_⟩
  unfold arrayAxis pyAxis
  by_cases hin : IdxEntry.ellipsis ∈ pre
  · -- the one ellipsis is before the array: the entries after it take one dimension each
    have hw := width_frag hpre hpost shape hell hused
    rw [List.count_append] at hell hw
    have hp : 0 < pre.count .ellipsis := List.count_pos_iff.mpr hin
    rw [if_neg (Nat.ne_of_gt (Nat.add_pos_left hp _)),
      widthOf_no_ellipsis _ post hpost (Nat.le_zero.mp (Nat.le_of_add_le_add_left (Nat.le_trans hell hp)))] at hw
    rw [if_pos hin]
    right
    omega
  · rw [if_neg hin, widthOf_no_ellipsis _ pre hpre (List.count_eq_zero.mpr hin)]
    exact Or.inl ⟨Int.natCast_nonneg _, rfl⟩

theorem pyGet?_axisIs {shape : List Nat} {axis : Int} {a sizeMax : Nat} (hax : AxisIs shape.length axis a)
    (h : pyGet? shape axis = some sizeMax) : shape.getD a 0 = sizeMax := by
  obtain ⟨t, ht, hx⟩ := (pyGet?_eq_some_iff _ _ _).mp h
  have e : t = a :=
    Int.ofNat_inj.mp (((axisIs_iff _ _ _).mp ht).2.symm.trans ((axisIs_iff _ _ _).mp hax).2)
  rw [List.getD_eq_getElem?_getD, ← e, hx]
  rfl

/-- **The fragment.**  The index tuple is `pre ++ [array] ++ post` where the array is an integer
array of any rank (shape `sh`, flat values `vals`) and `pre`, `post` consist of full slices `:` and at most one
ellipsis; `axis` is the Python axis number `indexed_axes` reports; every leaf of the input structure has shape
`shape`, whose rank is at least the number of non-ellipsis entries; `sizeMax = shape[axis]`; the index values are
in bounds (`-sizeMax ≤ v < sizeMax`) and there are `prod sh` of them; the output structure has one leaf per input
leaf, each of the shape of the indexing result. -/
def indexMultOK (p : Params) (axis : Int) (shape sh : List Nat) (vals : List Int) (sizeMax : Nat) : Prop :=
  ∃ pre post : List IdxEntry,
    p.idx = pre ++ .iarr sh vals :: post ∧
    (∀ e ∈ pre, plainFull e) ∧ (∀ e ∈ post, plainFull e) ∧
    (pre ++ post).count .ellipsis ≤ 1 ∧
    pre.length + 1 + post.length - (pre ++ post).count .ellipsis ≤ shape.length ∧
    axis = pyAxis pre post ∧
    pyGet? shape axis = some sizeMax ∧
    vals.length = prodNat sh ∧
    (∀ i ∈ vals, -(sizeMax : Int) ≤ i ∧ i < sizeMax) ∧
    (∀ l ∈ p.inS.leaves, l.shape = shape) ∧
    p.outS.leaves.length = p.inS.leaves.length ∧
    (∀ l ∈ p.outS.leaves, ∃ pos, indexPositions shape p.idx = .ok (l.shape, pos))

/-- **`TransposeIndexRule`, semantically**: on the fragment `indexMultOK`, the diagonal operator the rule builds
is valid on every leaf and denotes `indexᵀ ∘ index`. -/
theorem index_mult_law (E : Env) (u uo : Nat) (p : Params) (axis : Int) (shape sh : List Nat) (vals : List Int)
    (sizeMax : Nat) (h : indexMultOK p axis shape sh vals sizeMax) :
    (∀ l ∈ p.inS.leaves, ∀ c : V, ∃ y,
      Diagonal.apply true (castT (transposeIndexDiag p axis sizeMax vals).vals)
        (.seq ((transposeIndexDiag p axis sizeMax vals).ints.getD 0 [])) (⟨l.shape, c⟩ : Tensor ℝ) = .ok y ∧
      y.shape = l.shape) ∧
    ∀ x : V, x.length = p.inS.size →
      den E (.leaf 0 .diagonal (transposeIndexDiag p axis sizeMax vals)) x
        = den E (.wrap u .transpose (.leaf uo .index p)) (den E (.leaf uo .index p) x) := by
  obtain ⟨pre, post, hidx, hpre, hpost, hell, hused, haxis, hsize, hlen, hvals, hin, hol, hout⟩ := h
  have hax : AxisIs shape.length axis (arrayAxis shape pre post) := by
    rw [haxis]; exact axisIs_frag shape pre post hpre hpost hell hused
  have hsz : shape.getD (arrayAxis shape pre post) 0 = sizeMax := pyGet?_axisIs hax hsize
  obtain ⟨pos, S⟩ := posSpec_of_frag shape pre post sh vals hpre hpost hell hused (by rw [hsz]; exact hvals) hlen
  rw [hsz] at S
  constructor
  · intro l hl c
    rw [hin l hl]
    obtain ⟨y, hy, hys, -⟩ := diag_axis_apply (castT (covVals sizeMax vals)) shape _ sizeMax axis rfl hax hsz c
    exact ⟨y, hy, hys⟩
  · refine index_mult_of_posSpec S axis hax hsz hvals E u uo p hidx hin ?_ hol
    intro l hl
    obtain ⟨pos', hp'⟩ := hout l hl
    rw [hidx, S.ok] at hp'
    exact (Prod.mk.inj (Except.ok.inj hp')).1.symm

/-! ### the tuple `(array,)`, trailing axes implicit -/

/-- index tuple `[array]` with an integer array of any rank, leaves of shape `n :: rest` -/
theorem index_mult_stage3 (E : Env) (u uo : Nat) (p : Params) (n : Nat) (rest sh : List Nat) (vals : List Int)
    (hidx : p.idx = [.iarr sh vals])
    (hlen : vals.length = prodNat sh) (hvals : ∀ i ∈ vals, -(n : Int) ≤ i ∧ i < n)
    (hin : ∀ l ∈ p.inS.leaves, l.shape = n :: rest)
    (hol : p.outS.leaves.length = p.inS.leaves.length)
    (hout : ∀ l ∈ p.outS.leaves, l.shape = sh ++ rest) :
    ∀ x : V, x.length = p.inS.size →
      den E (.leaf 0 .diagonal (transposeIndexDiag p 0 n vals)) x
        = den E (.wrap u .transpose (.leaf uo .index p)) (den E (.leaf uo .index p) x) := by
  have hnil : ∀ e ∈ ([] : List IdxEntry), plainFull e := fun _ h => absurd h List.not_mem_nil
  obtain ⟨pos, S⟩ := posSpec_of_frag (n :: rest) [] [] sh vals hnil hnil (Nat.zero_le _)
    (Nat.succ_le_succ (Nat.zero_le _)) hvals hlen
  exact index_mult_of_posSpec S 0 ⟨Nat.succ_pos _, Or.inl ⟨Int.le_refl _, rfl⟩⟩ rfl hvals E u uo p hidx hin hout
    hol

/-- index tuple `[array]`, a rank-one array of `m` values, leaves of rank one -/
theorem index_mult_stage1 (E : Env) (u uo : Nat) (p : Params) (m n : Nat) (vals : List Int)
    (hidx : p.idx = [.iarr [m] vals])
    (hlen : vals.length = m) (hvals : ∀ i ∈ vals, -(n : Int) ≤ i ∧ i < n)
    (hin : ∀ l ∈ p.inS.leaves, l.shape = [n])
    (hol : p.outS.leaves.length = p.inS.leaves.length)
    (hout : ∀ l ∈ p.outS.leaves, l.shape = [m]) :
    ∀ x : V, x.length = p.inS.size →
      den E (.leaf 0 .diagonal (transposeIndexDiag p 0 n vals)) x
        = den E (.wrap u .transpose (.leaf uo .index p)) (den E (.leaf uo .index p) x) :=
  index_mult_stage3 E u uo p n [] [m] vals hidx (by rw [hlen, prodNat_singleton]) hvals hin hol hout

/-! ### from the hypotheses of `RuleLaws.index_mult` to the fragment -/

theorem eq_of_mem_of_length_le_one {α : Type} {l : List α} {x y : α} (h : l.length ≤ 1) (hx : x ∈ l)
    (hy : y ∈ l) : x = y := by
  cases l with
  | nil => cases hx
  | cons w l' =>
    cases l' with
    | nil => rw [List.mem_singleton.mp hx, List.mem_singleton.mp hy]
    | cons _ _ => exact absurd h (by simp)

/-- position `a` of the tuple is listed by `indexed_axes`: its entry is neither a full slice nor the first
ellipsis -/
def IndexedPos (idx : List IdxEntry) (a : Nat) : Prop :=
  a < idx.length ∧ a ≠ idx.idxOf .ellipsis ∧ (idx.getD a .ellipsis).isFullSlice = false

/-- the axis number `indexed_axes` lists for such a position: from the left before the ellipsis, from the right
after it -/
theorem indexedPos_axis_mem {idx : List IdxEntry} {a : Nat} (ha : IndexedPos idx a) :
    (if a < idx.idxOf .ellipsis then (a : Int) else (a : Int) - idx.length) ∈ indexedAxes idx := by
  obtain ⟨hlt, hne, hfs⟩ := ha
  unfold indexedAxes
  rw [List.mem_append]
  by_cases h : a < idx.idxOf .ellipsis
  · rw [if_pos h]
    exact Or.inl (List.mem_map.mpr
      ⟨a, List.mem_filter.mpr ⟨List.mem_range.mpr (lt_min_iff.mpr ⟨h, hlt⟩), by rw [hfs]; rfl⟩, rfl⟩)
  · rw [if_neg h]
    exact Or.inr (List.mem_map.mpr ⟨a, List.mem_filter.mpr ⟨List.mem_range.mpr hlt, by
      rw [hfs, decide_eq_true (Nat.lt_of_le_of_ne (Nat.not_lt.mp h) (Ne.symm hne))]; rfl⟩, rfl⟩)

theorem indexedPos_unique {idx : List IdxEntry} {a b : Nat} (h : (indexedAxes idx).length ≤ 1)
    (ha : IndexedPos idx a) (hb : IndexedPos idx b) : a = b := by
  have hab := eq_of_mem_of_length_le_one h (indexedPos_axis_mem ha) (indexedPos_axis_mem hb)
  have := ha.1
  have := hb.1
  split at hab <;> split at hab <;> omega

theorem indexedPos_of_iarr {idx : List IdxEntry} {a : Nat} {s : List Nat} {v : List Int}
    (h : idx[a]? = some (.iarr s v)) : IndexedPos idx a := by
  obtain ⟨hlt, he⟩ := List.getElem?_eq_some_iff.mp h
  refine ⟨hlt, fun e => ?_, by rw [List.getD_eq_getElem _ _ hlt, he]; rfl⟩
  subst e
  exact absurd ((List.getElem_idxOf hlt).symm.trans he) (by simp)

/-- the index tuple of the fragment, recovered from what `TransposeIndexRule` checks: at most one indexed axis,
`axis` the first of them, and an integer array at `indices[axis]` -/
theorem frag_decomp (idx : List IdxEntry) (axis : Int) (sh : List Nat) (vals : List Int)
    (hfrag : ∀ e ∈ idx, fragEntry e)
    (hlen1 : (indexedAxes idx).length ≤ 1) (hhead : (indexedAxes idx).head? = some axis)
    (hget : pyGet? idx axis = some (.iarr sh vals)) :
    ∃ pre post, idx = pre ++ .iarr sh vals :: post ∧ (∀ e ∈ pre, plainFull e) ∧ (∀ e ∈ post, plainFull e) ∧
      axis = pyAxis pre post := by
  obtain ⟨t, _, hidt⟩ := (pyGet?_eq_some_iff idx axis _).mp hget
  obtain ⟨ht, hidt'⟩ := List.getElem?_eq_some_iff.mp hidt
  have hpos := indexedPos_of_iarr hidt
  -- there is no other array: it would be a second indexed position
  have hplain : ∀ a (ha : a < idx.length), a ≠ t → plainFull idx[a] := by
    intro a ha hne
    rcases hfrag _ (List.getElem_mem ha) with h | h | ⟨s, v, h⟩
    · exact Or.inl h
    · exact Or.inr h
    · exact absurd (indexedPos_unique hlen1 (indexedPos_of_iarr (List.getElem?_eq_some_iff.mpr ⟨ha, h⟩)) hpos) hne
  refine ⟨idx.take t, idx.drop (t + 1), ?_, ?_, ?_, ?_⟩
  · rw [← hidt', List.getElem_cons_drop, List.take_append_drop]
  · intro e he
    obtain ⟨a, ha, rfl⟩ := List.mem_take_iff_getElem.mp he
    exact hplain a _ (Nat.ne_of_lt (lt_min_iff.mp ha).1)
  · intro e he
    obtain ⟨a, ha, rfl⟩ := List.mem_drop_iff_getElem.mp he
    exact hplain (t + 1 + a) _ (by omega)
  · have hax := eq_of_mem_of_length_le_one hlen1 (List.mem_of_mem_head? hhead) (indexedPos_axis_mem hpos)
    rw [hax]
    unfold pyAxis
    by_cases hlt : t < idx.idxOf .ellipsis
    · have hnot : IdxEntry.ellipsis ∉ idx.take t := fun hmem =>
        Nat.lt_asymm hlt ((List.mem_take_iff_idxOf_lt (List.mem_of_mem_take hmem)).mp hmem)
      rw [if_pos hlt, if_neg hnot, List.length_take, Nat.min_eq_left (Nat.le_of_lt ht)]
    · have he : idx.idxOf .ellipsis < t := Nat.lt_of_le_of_ne (Nat.not_lt.mp hlt) (Ne.symm hpos.2.1)
      have hin : IdxEntry.ellipsis ∈ idx.take t :=
        (List.mem_take_iff_idxOf_lt (List.idxOf_lt_length_iff.mp (Nat.lt_trans he ht))).mpr he
      rw [if_neg hlt, if_pos hin, List.length_drop]
      omega

theorem all_eq_of_eraseDups (l : List LeafS) (s : List Nat)
    (h1 : ((l.map (·.shape)).eraseDups).length ≤ 1) (h2 : ((l.map (·.shape)).eraseDups).head? = some s) :
    ∀ x ∈ l, x.shape = s := fun _ hx =>
  eq_of_mem_of_length_le_one h1 (List.mem_eraseDups.mpr (List.mem_map_of_mem hx)) (List.mem_of_mem_head? h2)

/-- **The hypotheses of `RuleLaws.index_mult` put the operator in the fragment**, provided the validity of the
index operator says: every entry of the tuple is a full slice, the ellipsis or an integer array; at most one
ellipsis; the rank of the leaves is at least the number of non-ellipsis entries; the array has `prod sh` in-bounds
values; the output structure is the structure of the indexing result. -/
theorem indexMultOK_of_rule (p : Params) (axis : Int) (shape sh : List Nat) (vals : List Int) (sizeMax : Nat)
    (hfrag : ∀ e ∈ p.idx, fragEntry e) (hell : p.idx.count .ellipsis ≤ 1)
    (hrank : p.idx.length - p.idx.count .ellipsis ≤ shape.length)
    (hlen1 : (indexedAxes p.idx).length ≤ 1) (hhead : (indexedAxes p.idx).head? = some axis)
    (hs1 : ((p.inS.leaves.map (·.shape)).eraseDups).length ≤ 1)
    (hs2 : ((p.inS.leaves.map (·.shape)).eraseDups).head? = some shape)
    (hget : pyGet? p.idx axis = some (.iarr sh vals)) (hsize : pyGet? shape axis = some sizeMax)
    (hvlen : vals.length = prodNat sh) (hvals : ∀ i ∈ vals, -(sizeMax : Int) ≤ i ∧ i < sizeMax)
    (hol : p.outS.leaves.length = p.inS.leaves.length)
    (hout : ∀ l ∈ p.outS.leaves, ∃ pos, indexPositions shape p.idx = .ok (l.shape, pos)) :
    indexMultOK p axis shape sh vals sizeMax := by
  obtain ⟨pre, post, hidx, hpre, hpost, hax⟩ := frag_decomp p.idx axis sh vals hfrag hlen1 hhead hget
  have hc : p.idx.count .ellipsis = (pre ++ post).count .ellipsis := by
    rw [hidx, count_ellipsis_iarr]
  have hl : p.idx.length = pre.length + 1 + post.length := by
    rw [hidx, List.length_append, List.length_cons, ← Nat.add_assoc, Nat.add_right_comm]
  exact ⟨pre, post, hidx, hpre, hpost, hc ▸ hell, by rw [← hc, ← hl]; exact hrank, hax, hsize, hvlen, hvals,
    all_eq_of_eraseDups _ _ hs1 hs2, hol, hout⟩

theorem index_mult_rule (E : Env) (u uo : Nat) (p : Params) (axis : Int) (shape sh : List Nat) (vals : List Int)
    (sizeMax : Nat)
    (hfrag : ∀ e ∈ p.idx, fragEntry e) (hell : p.idx.count .ellipsis ≤ 1)
    (hrank : p.idx.length - p.idx.count .ellipsis ≤ shape.length)
    (hvlen : vals.length = prodNat sh) (hvals : ∀ i ∈ vals, -(sizeMax : Int) ≤ i ∧ i < sizeMax)
    (hol : p.outS.leaves.length = p.inS.leaves.length)
    (hout : ∀ l ∈ p.outS.leaves, ∃ pos, indexPositions shape p.idx = .ok (l.shape, pos))
    (hlen1 : (indexedAxes p.idx).length ≤ 1) (hhead : (indexedAxes p.idx).head? = some axis)
    (hs1 : ((p.inS.leaves.map (·.shape)).eraseDups).length ≤ 1)
    (hs2 : ((p.inS.leaves.map (·.shape)).eraseDups).head? = some shape)
    (hget : pyGet? p.idx axis = some (.iarr sh vals)) (hsize : pyGet? shape axis = some sizeMax) :
    ∀ x : V, mem p.inS x →
      den E (.leaf 0 .diagonal (transposeIndexDiag p axis sizeMax vals)) x
        = den E (.wrap u .transpose (.leaf uo .index p)) (den E (.leaf uo .index p) x) :=
  (index_mult_law E u uo p axis shape sh vals sizeMax
    (indexMultOK_of_rule p axis shape sh vals sizeMax hfrag hell hrank hlen1 hhead hs1 hs2 hget hsize hvlen hvals
      hol hout)).2

/-! ### the fragment is inhabited (`x[..., [0, -1]]` on a leaf of shape `[2, 3]`) -/

example : indexMultOK
    { inS := ⟨[.leaf], [⟨[2, 3], .f64⟩]⟩, outS := ⟨[.leaf], [⟨[2, 2], .f64⟩]⟩,
      idx := [.ellipsis, .iarr [2] [0, -1]] } (-1) [2, 3] [2] [0, -1] 3 :=
  ⟨[.ellipsis], [], rfl, by simp [plainFull], by simp, by decide, by decide, by decide, by decide, by decide,
    by decide, by simp, rfl, by
      intro l hl
      simp only [List.mem_singleton] at hl
      subst hl
      exact ⟨[0, 2, 3, 5], by decide⟩⟩

#print axioms index_mult_rule

#print axioms index_mult_law
#print axioms index_mult_stage3
#print axioms index_mult_stage1

end ListSem
end Furax
