/-
C06, closed, in the list denotation: the operator `inverseOp` (FuraxModel/Dual.lean) builds for `op.I` denotes a
two-sided inverse of `op` (`Inverts E o i`), for every environment `E` of the uninterpreted leaves and every operator
with a closed-form inverse (`ClosedFormInvertible`, `inverseOp_inverts`); every other operator goes to the lazy
`InverseOperator` (`inverseOp_lazy`), which inverts whenever the operand has an inverse (`mkInverse_inverts`,
assumption A4).

A valid `DiagonalOperator` is, on vectors of the input size, the entry-wise product with ONE vector `diagVec p` (the
values broadcast to every leaf of the input structure, concatenated), and its `DiagonalInverseOperator` the product
with `(diagVec p).map pinvR`, `pinvR d = if d = 0 then 0 else 1 / d` (`den_diagonal`, `den_diagInv`).
`diagonal_inverts` needs the array of values to be well formed (`InverseExamples.wellFormed_needed` shows why).
-/
import FuraxProofs.Sem.ListModel
import FuraxProofs.Lemmas.DiagonalSpec
namespace Furax
namespace ListSem
open Op

/-- `i` has the transposed structures of `o` and `den E i` is a two-sided inverse of `den E o` on the vectors of
the declared sizes (both keep the declared lengths there) -/
structure Inverts (E : Env) (o i : Op) : Prop where
  inS_eq : Op.inS i = Op.outS o
  outS_eq : Op.outS i = Op.inS o
  len : ∀ x : V, x.length = inSize o → (den E o x).length = outSize o
  len' : ∀ y : V, y.length = outSize o → (den E i y).length = inSize o
  left : ∀ x : V, x.length = inSize o → den E i (den E o x) = x
  right : ∀ y : V, y.length = outSize o → den E o (den E i y) = y

theorem Inverts.inSize_eq {E : Env} {o i : Op} (h : Inverts E o i) : inSize i = outSize o :=
  congrArg Struct.size h.inS_eq

theorem Inverts.outSize_eq {E : Env} {o i : Op} (h : Inverts E o i) : outSize i = inSize o :=
  congrArg Struct.size h.outS_eq

theorem Inverts.symm {E : Env} {o i : Op} (h : Inverts E o i) : Inverts E i o where
  inS_eq := h.outS_eq.symm
  outS_eq := h.inS_eq.symm
  len := fun x hx => by rw [h.outSize_eq]; exact h.len' x (hx.trans h.inSize_eq)
  len' := fun y hy => by rw [h.inSize_eq]; exact h.len y (hy.trans h.outSize_eq)
  left := fun x hx => h.right x (hx.trans h.inSize_eq)
  right := fun y hy => h.left y (hy.trans h.outSize_eq)

theorem den_homothety (E : Env) (u : Nat) (p : Params) (x : V) (hx : x.length = p.inS.size) :
    den E (.leaf u .homothety p) x = vsmul (p.vals.data.headD 1) x :=
  (leafDen_of_len hx).trans (fit_eq_self ((vsmul_length _ _).trans hx))

theorem den_mkHomothety (E : Env) (v : Rat) (s : Struct) (x : V) (hx : x.length = s.size) :
    den E (mkHomothety v s) x = vsmul v x :=
  den_homothety E 0 _ x hx

/-- **`HomothetyOperator.inverse`**: `inverseOp` of a scalar operator of value `v ≠ 0` is the scalar operator of
value `1 / v` (rational arithmetic, cast to `ℝ` by the denotation), and it inverts -/
theorem homothety_inverts (E : Env) (u : Nat) (p : Params) (hv : p.vals.data.headD 1 ≠ 0) :
    inverseOp (.leaf u .homothety p) = .ok (mkHomothety (1 / p.vals.data.headD 1) p.inS) ∧
    Inverts E (.leaf u .homothety p) (mkHomothety (1 / p.vals.data.headD 1) p.inS) := by
  refine ⟨by rw [inverseOp, if_neg hv], rfl, rfl, fun x _ => leafDen_length E u _ p x,
    fun y _ => leafDen_length E 0 .homothety _ y, fun x hx => ?_, fun y hy => ?_⟩
  · rw [den_homothety E u p x hx, den_mkHomothety E _ p.inS _ ((vsmul_length _ _).trans hx), vsmul_vsmul, one_div,
      inv_mul_cancel₀ hv, vsmul_one]
  · rw [den_mkHomothety E _ p.inS y hy, den_homothety E u p _ ((vsmul_length _ _).trans hy), vsmul_vsmul, one_div,
      mul_inv_cancel₀ hv, vsmul_one]

theorem homothety_zero_refused (u : Nat) (p : Params) (hv : p.vals.data.headD 1 = 0) :
    inverseOp (.leaf u .homothety p) = .error .unsupported := by
  rw [inverseOp, if_pos hv]

theorem identity_inverts (E : Env) (u : Nat) (p : Params) : Inverts E (.leaf u .identity p) (.leaf u .identity p) := by
  refine ⟨rfl, rfl, fun x _ => leafDen_length E u _ p x, fun y _ => leafDen_length E u _ p y,
    fun x hx => ?_, fun y hy => ?_⟩
  · rw [den_identity E u p x hx, den_identity E u p x hx]
  · rw [den_identity E u p y hy, den_identity E u p y hy]

section diagonal
open Furax.Diagonal Furax.Axes

/-- `where(d != 0, 1/d, 0)` on the reals: no division by zero is ever performed -/
noncomputable def pinvR (r : ℝ) : ℝ := if r = 0 then 0 else 1 / r

theorem pinvR_default : pinvR default = default := if_pos rfl

theorem cast_pinv (v : Rat) : (((if v != 0 then 1 / v else 0 : Rat)) : ℝ) = pinvR v := by
  by_cases hv : v = 0
  · rw [hv, if_neg (by rw [bne_self_eq_false]; exact Bool.false_ne_true), Rat.cast_zero, pinvR, if_pos rfl]
  · rw [if_pos (bne_iff_ne.mpr hv), pinvR, if_neg (Rat.cast_ne_zero.mpr hv), Rat.cast_div, Rat.cast_one]

theorem castT_pinvT (t : Tensor Rat) : castT (pinvT t) = (castT t).map pinvR := by
  simp only [castT, pinvT, Tensor.map, pinvValues, List.map_map, Tensor.mk.injEq, true_and]
  exact List.map_congr_left fun v _ => cast_pinv v

/-! A map `g` with `g 0 = 0` applied to the values commutes with everything `Diagonal.apply` does to them before
the product: transposing, broadcasting (both only read entries, `0` out of range). -/

theorem getD_map_default (g : ℝ → ℝ) (hg : g default = default) (l : V) (i : Nat) :
    (l.map g).getD i default = g (l.getD i default) :=
  (congrArg ((l.map g).getD i) hg.symm).trans (List.getD_map l default g)

theorem transposeData_map (g : ℝ → ℝ) (hg : g default = default) (shape order : List Nat) (data : V) :
    transposeData shape order (data.map g) = (transposeData shape order data).map g := by
  unfold transposeData
  rw [List.map_map]
  exact List.map_congr_left fun k _ => getD_map_default g hg _ _

theorem broadcastTo_map (g : ℝ → ℝ) (hg : g default = default) (d : Tensor ℝ) (S : List Nat) :
    ((d.map g).broadcastTo S).data = (d.broadcastTo S).data.map g := by
  unfold Tensor.broadcastTo
  rw [List.map_map]
  exact List.map_congr_left fun k _ => getD_map_default g hg _ _

theorem moveaxis_ok_inv {t d : Tensor ℝ} {src dst : List Int} (h : moveaxis t src dst = .ok d) :
    ∃ order, moveaxisOrder t.shape.length src dst = .ok order ∧
      d = ⟨transposeShape t.shape order, transposeData t.shape order t.data⟩ := by
  obtain ⟨order, ho, h⟩ := except_bind_eq_ok h
  exact ⟨order, ho, (Except.ok.inj h).symm⟩

theorem reshapeDiagonal_map (g : ℝ → ℝ) (hg : g default = default) (W : Tensor ℝ) (ax : List Int) (n : Nat)
    (d : Tensor ℝ) (h : reshapeDiagonal W ax n = .ok d) : reshapeDiagonal (W.map g) ax n = .ok (d.map g) := by
  unfold reshapeDiagonal at h ⊢
  obtain ⟨order, ho, rfl⟩ := moveaxis_ok_inv h
  rw [Tensor.map, moveaxis_of_order _ _ _ _ order ho, Tensor.map, transposeData_map g hg]

private theorem broadcastTo_self (S : List Nat) (c : V) (hc : c.length = prodNat S) :
    ((⟨S, c⟩ : Tensor ℝ).broadcastTo S).data = c := by
  apply List.ext_getElem
  · simp [Tensor.broadcastTo, hc]
  · intro i h1 h2
    have hi : i < prodNat S := by simpa [Tensor.broadcastTo] using h1
    obtain ⟨v1, v2⟩ := ma_unravel_valid S i hi
    simp only [Tensor.broadcastTo, List.getElem_map, List.getElem_range]
    rw [bcastIndex_self S _ v1, v2]
    exact List.getD_eq_getElem _ _ h2

theorem transposeData_getD_mem (shape order : List Nat) (data : V)
    (hperm : order.Perm (List.range shape.length)) (hlen : data.length = prodNat shape) (m : Nat)
    (hm : m < prodNat (transposeShape shape order)) :
    ∃ j, j < data.length ∧ (transposeData shape order data).getD m default = data.getD j default := by
  obtain ⟨v1, v2⟩ := ma_unravel_valid _ m hm
  have hkey := transposeData_getD shape order data _ v1
  rw [v2] at hkey
  exact ⟨_, hlen ▸ (ma_ravel_valid shape _ (transposeIdx_valid shape order _ hperm v1).1).1, hkey⟩

/-- the values of a diagonal operator broadcast to a leaf of shape `sh` (what `Diagonal.apply` multiplies by) -/
noncomputable def leafDiag (W : Tensor ℝ) (axes : List Int) (sh : List Nat) : V :=
  match normalizeAxes axes sh.length with
  | .ok ax =>
    match reshapeDiagonal W ax sh.length with
    | .ok d => (d.broadcastTo sh).data
    | .error _ => []
  | .error _ => []

/-- **one leaf of a `DiagonalOperator`**: if the strict product is accepted on a leaf of shape `sh`, then for every
array of values of the same shape obtained entry-wise (`W.map g`, `g 0 = 0`; `g = id` included) the product is
accepted on every well-formed leaf of that shape and multiplies entry-wise by `(leafDiag W axes sh).map g`;
when `W` is well formed every entry of `leafDiag W axes sh` is an entry of `W` -/
theorem diag_leaf_form (W : Tensor ℝ) (axes : List Int) (sh : List Nat) (c0 : V) (y0 : Tensor ℝ)
    (h : Diagonal.apply true W (.seq axes) ⟨sh, c0⟩ = .ok y0) :
    (leafDiag W axes sh).length = prodNat sh ∧
    (∀ g : ℝ → ℝ, g default = default → ∀ c : V, c.length = prodNat sh →
      Diagonal.apply true (W.map g) (.seq axes) ⟨sh, c⟩ =
        .ok ⟨sh, List.zipWith (· * ·) ((leafDiag W axes sh).map g) c⟩) ∧
    (W.data.length = prodNat W.shape → ∀ v ∈ leafDiag W axes sh, v ∈ W.data) := by
  obtain ⟨h0, hnd, d, h2, h3, hshape⟩ := (apply_eq_ok_iff true W (.seq axes) ⟨sh, c0⟩ y0).mp h
  simp only [normalizeSpec_seq] at hnd h2 h3
  have hD : leafDiag W axes sh = (d.broadcastTo sh).data := by
    rw [leafDiag, normalizeAxes_eq, if_pos hnd]
    exact congrArg (fun r => match r with | .ok d => (d.broadcastTo sh).data | .error _ => []) h2
  -- the broadcast shape is the leaf's shape, hence no dimension is appended to the leaf
  unfold Tensor.zipBroadcast at h3
  cases h4 : broadcastShapes d.shape (reshapeLeaf (⟨sh, c0⟩ : Tensor ℝ) (normalizedAxes axes sh.length)).shape with
  | none => rw [h4] at h3; cases h3
  | some S =>
    rw [h4] at h3
    cases h3
    obtain rfl : S = sh := hshape rfl
    have hlen := broadcastShapes_length _ _ _ h4
    simp only [reshapeLeaf, List.length_append, List.length_replicate] at hlen h4
    have hr : rightDims (normalizedAxes axes S.length) S.length = 0 := by omega
    rw [hr, List.replicate_zero, List.append_nil] at h4
    refine ⟨by rw [hD]; simp [Tensor.broadcastTo], fun g hg c hc => ?_, fun hw v hv => ?_⟩
    · refine (apply_eq_ok_iff true (W.map g) (.seq axes) ⟨S, c⟩ _).mpr
        ⟨h0, hnd, d.map g, reshapeDiagonal_map g hg W _ _ d h2, ?_, fun _ => rfl⟩
      show Tensor.zipBroadcast (· * ·) (d.map g) (reshapeLeaf ⟨S, c⟩ (normalizedAxes axes S.length)) = some _
      simp only [Tensor.zipBroadcast, reshapeLeaf, hr, List.replicate_zero, List.append_nil]
      rw [show (d.map g).shape = d.shape from rfl, h4]
      simp only [Option.bind_eq_bind, Option.bind_some]
      rw [broadcastTo_map g hg d S, broadcastTo_self S c hc, hD]
    · rw [hD] at hv
      obtain ⟨t, ht, rfl⟩ := List.getElem_of_mem hv
      have ht' : t < prodNat S := by simpa [Tensor.broadcastTo] using ht
      rw [← List.getD_eq_getElem _ default ht, broadcastTo_getD d S t ht']
      obtain ⟨hlS, hget⟩ := broadcastShapes_getD h4
      have hlt := bIdx_lt _ _ (Bc_of_padded (hlS ▸ le_max_left ..) fun j hj => (hget j hj).1) t ht'
      -- `d` is a transposition of the values, whose shape was padded with ones
      unfold reshapeDiagonal at h2
      obtain ⟨order, ho, rfl⟩ := moveaxis_ok_inv h2
      have hpl : ∀ m, W.data.length = prodNat (W.shape ++ List.replicate m 1) := fun m => by
        rw [hw, prodNat_append]
        induction m with
        | zero => exact (Nat.mul_one _).symm
        | succ m ih => rwa [List.replicate_succ, prodNat_cons, Nat.one_mul]
      obtain ⟨j, hj, hjv⟩ := transposeData_getD_mem _ order W.data (moveaxisOrder_perm _ _ _ _ ho) (hpl _) _ hlt
      rw [hjv, List.getD_eq_getElem _ _ hj]
      exact List.getElem_mem _

theorem perLeaf_diag (f : LeafS → LeafS → V → V) (Dof : LeafS → V) (ls : List LeafS)
    (h : ∀ l ∈ ls, (Dof l).length = l.size ∧
      ∀ c : V, c.length = l.size → f l l c = List.zipWith (· * ·) (Dof l) c) :
    ∀ x : V, x.length = (ls.map LeafS.size).sum →
      perLeaf f ls ls x = List.zipWith (· * ·) ((ls.map Dof).flatten) x := by
  induction ls with
  | nil =>
    intro x _
    simp [perLeaf_nil_left]
  | cons l ls ih =>
    intro x hx
    rw [List.map_cons, List.sum_cons] at hx
    have hle : l.size ≤ x.length := by omega
    have hc : (headChunk l.size x).length = l.size := headChunk_length _ _
    obtain ⟨hDl, hf⟩ := h l List.mem_cons_self
    rw [perLeaf_cons, hf _ hc,
      ih (fun l' hl' => h l' (List.mem_cons_of_mem _ hl')) _ (by rw [List.length_drop]; omega),
      fit_eq_self (by rw [List.length_zipWith, hDl, hc, Nat.min_self]), List.map_cons, List.flatten_cons,
      headChunk_of_le hle, ← List.zipWith_append (by rw [hDl, List.length_take_of_le hle]), List.take_append_drop]

/-- the values of a diagonal operator, broadcast to every leaf of the input structure and concatenated -/
noncomputable def diagVecOf (W : Tensor ℝ) (axes : List Int) (ls : List LeafS) : V :=
  (ls.map fun l => leafDiag W axes l.shape).flatten

/-- **the diagonal of `DiagonalOperator(values, axis_destination=…, in_structure=…)`** as one flat real vector -/
noncomputable def diagVec (p : Params) : V := diagVecOf (castT p.vals) (p.ints.getD 0 []) p.inS.leaves

theorem diagVec_length (p : Params) (h : diagonalOK p) : (diagVec p).length = p.inS.size := by
  rw [diagVec, diagVecOf, List.length_flatten, List.map_map]
  refine congrArg List.sum (List.map_congr_left fun l hl => ?_)
  obtain ⟨y, hy, -⟩ := h l hl []
  exact (diag_leaf_form _ _ l.shape [] y hy).1

theorem tensor_map_id (W : Tensor ℝ) : W.map id = W := by
  cases W; simp [Tensor.map]

/-- `W'`: the values of a valid `DiagonalOperator`, mapped entry by entry by `g` (`id` for the operator, `pinvR` for its
`DiagonalInverseOperator`) -/
theorem leafDen_diagonal_map (E : Env) (u : Nat) (p : Params) (h : diagonalOK p) (g : ℝ → ℝ)
    (hg : g default = default) (W' : Tensor Rat) (hW' : castT W' = (castT p.vals).map g) (x : V)
    (hx : x.length = p.inS.size) :
    leafDen E u .diagonal { p with vals := W' } x = List.zipWith (· * ·) ((diagVec p).map g) x := by
  have key := perLeaf_diag (diagLeaf true W' (p.ints.getD 0 []))
    (fun l => (leafDiag (castT p.vals) (p.ints.getD 0 []) l.shape).map g) p.inS.leaves
    (fun l hl => by
      obtain ⟨y, hy, -⟩ := h l hl []
      obtain ⟨hlen, hmul, -⟩ := diag_leaf_form _ _ l.shape [] y hy
      refine ⟨(List.length_map _).trans hlen, fun c hc => ?_⟩
      rw [diagLeaf, hW', hmul g hg c hc]
      rfl) x hx
  have e : (diagVec p).map g
      = (p.inS.leaves.map fun l => (leafDiag (castT p.vals) (p.ints.getD 0 []) l.shape).map g).flatten := by
    rw [diagVec, diagVecOf, List.map_flatten, List.map_map]; rfl
  rw [← e] at key
  exact (leafDen_of_len (p := { p with vals := W' }) hx).trans
    ((fit_eq_self (perLeaf_length _ _ _ _ rfl)).trans key)

/-- **`DiagonalOperator.mv`** on vectors of the input size: the entry-wise product with `diagVec p` -/
theorem den_diagonal (E : Env) (u : Nat) (p : Params) (h : diagonalOK p) (x : V) (hx : x.length = p.inS.size) :
    den E (.leaf u .diagonal p) x = List.zipWith (· * ·) (diagVec p) x := by
  have := leafDen_diagonal_map E u p h id rfl p.vals (tensor_map_id _).symm x hx
  rwa [List.map_id] at this

/-- **`DiagonalInverseOperator.mv`** on vectors of the input size: the entry-wise product with the pseudo-inverse
of `diagVec p` -/
theorem den_diagInv (E : Env) (w u : Nat) (p : Params) (h : diagonalOK p) (x : V) (hx : x.length = p.inS.size) :
    den E (.wrap w .diagInv (.leaf u .diagonal p)) x = List.zipWith (· * ·) ((diagVec p).map pinvR) x :=
  leafDen_diagonal_map E u p h pinvR pinvR_default (pinvT p.vals) (castT_pinvT _) x hx

theorem zipWith_fuse (g h k : ℝ → ℝ → ℝ) : ∀ (D x : V), (∀ d ∈ D, ∀ v, g d (h d v) = k d v) →
    List.zipWith g D (List.zipWith h D x) = List.zipWith k D x
  | [], _, _ => rfl
  | _ :: _, [], _ => rfl
  | d :: D, v :: x, hk => by
    rw [List.zipWith_cons_cons, List.zipWith_cons_cons, List.zipWith_cons_cons, hk d List.mem_cons_self,
      zipWith_fuse g h k D x fun d' hd' => hk d' (List.mem_cons_of_mem _ hd')]

theorem zipWith_snd : ∀ (D x : V), D.length = x.length → List.zipWith (fun _ v => v) D x = x
  | [], [], _ => rfl
  | _ :: D, _ :: x, h => by
    rw [List.zipWith_cons_cons, zipWith_snd D x (Nat.succ.inj h)]

theorem pinvR_mul_cancel {d : ℝ} (hd : d ≠ 0) (v : ℝ) : pinvR d * (d * v) = v := by
  rw [pinvR, if_neg hd, ← mul_assoc, one_div, inv_mul_cancel₀ hd, one_mul]

theorem mul_pinvR_cancel {d : ℝ} (hd : d ≠ 0) (v : ℝ) : d * (pinvR d * v) = v :=
  (mul_left_comm d (pinvR d) v).trans (pinvR_mul_cancel hd v)

theorem pinvR_mp1 (d v : ℝ) : d * (pinvR d * (d * v)) = d * v := by
  by_cases hd : d = 0
  · rw [hd, zero_mul, zero_mul]
  · rw [pinvR_mul_cancel hd]

theorem pinvR_mp2 (d v : ℝ) : pinvR d * (d * (pinvR d * v)) = pinvR d * v := by
  by_cases hd : d = 0
  · rw [hd, pinvR, if_pos rfl, zero_mul, zero_mul]
  · rw [mul_pinvR_cancel hd]

/-- the form of `DiagonalOperator.inverse` -/
theorem inverseOp_diagonal (u : Nat) (p : Params) :
    inverseOp (.leaf u .diagonal p) = .ok (.wrap 0 .diagInv (.leaf u .diagonal p)) := rfl

theorem den_diagInv_length (E : Env) (w u : Nat) (p : Params) (y : V) :
    (den E (.wrap w .diagInv (.leaf u .diagonal p)) y).length = p.inS.size :=
  leafDen_length E u .diagonal _ y

/-- **`DiagonalInverseOperator(D)` inverts a valid `DiagonalOperator` all of whose values are non-zero** (both
ways), whatever the Python identity of the wrapper.  The array of values has to be well formed (as many
entries as its shape says — every JAX array is); without it a missing entry is read as `0`. -/
theorem diagonal_inverts (E : Env) (w u : Nat) (p : Params) (h : diagonalOK p) (hw : p.vals.wellFormed = true)
    (hnz : ∀ v ∈ p.vals.data, v ≠ 0) :
    Inverts E (.leaf u .diagonal p) (.wrap w .diagInv (.leaf u .diagonal p)) := by
  -- every entry of `diagVec p` is (the cast of) an entry of `p.vals`
  have hDnz : ∀ v ∈ diagVec p, v ≠ 0 := by
    intro v hv
    simp only [diagVec, diagVecOf, List.mem_flatten, List.mem_map] at hv
    obtain ⟨_, ⟨l, hl, rfl⟩, hvl⟩ := hv
    obtain ⟨y, hy, -⟩ := h l hl []
    have hlen : (castT p.vals).data.length = prodNat (castT p.vals).shape := by
      simpa [castT, Tensor.map, Tensor.wellFormed] using hw
    obtain ⟨q, hq, rfl⟩ := List.mem_map.mp ((diag_leaf_form _ _ l.shape [] y hy).2.2 hlen v hvl)
    exact_mod_cast hnz q hq
  have hlen : ∀ x, (den E (.leaf u .diagonal p) x).length = p.inS.size := leafDen_length E u .diagonal p
  refine ⟨rfl, rfl, fun x _ => hlen x, fun y _ => den_diagInv_length E w u p y, fun x hx => ?_, fun y hy => ?_⟩
  · rw [den_diagInv E w u p h _ (hlen x), den_diagonal E u p h x hx, List.zipWith_map_left,
      zipWith_fuse _ _ (fun _ v => v) _ _ fun d hd v => pinvR_mul_cancel (hDnz d hd) v,
      zipWith_snd _ _ ((diagVec_length p h).trans hx.symm)]
  · rw [den_diagonal E u p h _ (den_diagInv_length E w u p y), den_diagInv E w u p h y hy, List.zipWith_map_left,
      zipWith_fuse _ _ (fun _ v => v) _ _ fun d hd v => mul_pinvR_cancel (hDnz d hd) v,
      zipWith_snd _ _ ((diagVec_length p h).trans hy.symm)]

/-- **Moore–Penrose**, for ARBITRARY values (zeros allowed): `D D⁺ D = D` and `D⁺ D D⁺ = D⁺` on vectors of the
input size.  `D⁺` is the diagonal operator of `where(d != 0, 1/d, 0)` (`pinvT`, `pinvR`): no division by zero is
performed, no NaN / Inf can arise. -/
theorem diagonal_moore_penrose (E : Env) (w u : Nat) (p : Params) (h : diagonalOK p) (x : V)
    (hx : x.length = p.inS.size) :
    den E (.leaf u .diagonal p) (den E (.wrap w .diagInv (.leaf u .diagonal p)) (den E (.leaf u .diagonal p) x))
      = den E (.leaf u .diagonal p) x ∧
    den E (.wrap w .diagInv (.leaf u .diagonal p))
        (den E (.leaf u .diagonal p) (den E (.wrap w .diagInv (.leaf u .diagonal p)) x))
      = den E (.wrap w .diagInv (.leaf u .diagonal p)) x := by
  have hlen : ∀ x, (den E (.leaf u .diagonal p) x).length = p.inS.size := leafDen_length E u .diagonal p
  have hlen' := den_diagInv_length E w u p
  constructor
  · rw [den_diagonal E u p h _ (hlen' _), den_diagInv E w u p h _ (hlen x), den_diagonal E u p h x hx,
      List.zipWith_map_left,
      zipWith_fuse (· * ·) (fun d v => pinvR d * v) (fun d v => d * (pinvR d * v)) _ _ fun _ _ _ => rfl,
      zipWith_fuse (fun d v => d * (pinvR d * v)) (· * ·) (· * ·) _ _ fun d _ v => pinvR_mp1 d v]
  · rw [den_diagInv E w u p h _ (hlen _), den_diagonal E u p h _ (hlen' x), den_diagInv E w u p h x hx,
      List.zipWith_map_left, List.zipWith_map_left,
      zipWith_fuse (fun d v => pinvR d * v) (· * ·) (fun d v => pinvR d * (d * v)) _ _ fun _ _ _ => rfl,
      zipWith_fuse (fun d v => pinvR d * (d * v)) (fun d v => pinvR d * v) (fun d v => pinvR d * v) _ _
        fun d _ v => pinvR_mp2 d v]

end diagonal

/-- **`QURotationOperator.inverse`** (orthogonal: the inverse is the transpose) -/
theorem qurot_inverts (E : Env) (u : Nat) (p : Params) (h : stokesOK .qurot p) :
    Inverts E (.leaf u .qurot p) (.wrap 0 .qurotT (.leaf u .qurot p)) :=
  ⟨rfl, rfl, fun x _ => leafDen_length E u .qurot p x, fun y _ => leafDenT_length E u .qurot p y,
    fun x hx => (qurot_inv_wrap E 0 u p h x hx).1, fun y hy => (qurot_inv_wrap E 0 u p h y hy).2⟩

/-- the parameters of the swapped move-axis operator (`MoveAxisOperator.transpose`) -/
def swapMoveAxis (p : Params) : Params :=
  { p with inS := p.outS, outS := p.inS, ints := [p.ints.getD 1 [], p.ints.getD 0 []] }

/-- **the swapped move-axis operator is valid as soon as the operator is**: if `moveaxis(·, src, dst)` is accepted
on a leaf, `moveaxis(·, dst, src)` is accepted on the result and gives back the leaf's shape (the axis orders are
inverse permutations, FuraxProofs/Lemmas/MoveAxisPerm.lean) -/
theorem moveAxisOK_swap (p : Params) (h : moveAxisOK p) : moveAxisOK (swapMoveAxis p) := by
  obtain ⟨htd, hf⟩ := h
  refine ⟨htd.symm, List.Forall₂.flip (List.Forall₂.imp ?_ hf)⟩
  rintro li lo ⟨o, ho, hs, hd⟩
  have hlen : lo.shape.length = li.shape.length := by
    rw [hs, Axes.ma_transposeShape_length]
    simpa using (Axes.moveaxisOrder_perm _ _ _ _ ho).length_eq
  obtain ⟨o', ho'⟩ := Axes.moveaxisOrder_swap_ok _ _ _ o ho
  refine ⟨o', by rw [hlen]; exact ho', ?_, hd.symm⟩
  rw [hs]
  exact (Axes.moveaxis_inverse_shape _ _ _ o o' li.shape ho ho' rfl).symm

/-- **`MoveAxisOperator.inverse`** (`= transpose`): `inverseOp` of a valid move-axis leaf builds the swapped leaf,
which undoes it (`moveaxis_pair`, both ways) -/
theorem moveAxis_inverts (E : Env) (u : Nat) (p : Params) (h : moveAxisOK p) :
    inverseOp (.leaf u .moveAxis p) = .ok (.leaf 0 .moveAxis (swapMoveAxis p)) ∧
    Inverts E (.leaf u .moveAxis p) (.leaf 0 .moveAxis (swapMoveAxis p)) :=
  have h' := moveAxisOK_swap p h
  ⟨rfl, rfl, rfl, fun x _ => leafDen_length E u .moveAxis p x, fun y _ => leafDen_length E 0 .moveAxis _ y,
    (moveaxis_pair E 0 (swapMoveAxis p) u p h' h rfl rfl rfl).2,
    (moveaxis_pair E u p 0 (swapMoveAxis p) h h' rfl rfl rfl).2⟩

/-- `A.I.I` is `A` for the three lazy-inverse classes -/
theorem inverseOp_wrap (u : Nat) (k : WrapCls) (o : Op) (hk : k.isLazy) : inverseOp (.wrap u k o) = .ok o := by
  rcases hk with rfl | rfl | rfl <;> rfl

/-- **the inverse of a lazy inverse is its operand**, and the operand inverts the wrapper whenever the wrapper
inverts the operand (`invertibleG E o`, the hypothesis of the arithmetic laws) -/
theorem wrap_inverts (E : Env) (u : Nat) (k : WrapCls) (o : Op) (hk : k.isLazy)
    (hq : k = .qurotT → o.isQURot = true) (hs : StructOK o) (hsq : Op.inS o = Op.outS o)
    (hi : invertibleG E o) : Inverts E (.wrap u k o) o := by
  have hin : Op.inS (.wrap u k o) = Op.outS o := by rcases hk with rfl | rfl | rfl <;> first | rfl | exact hsq
  have hout : Op.outS (.wrap u k o) = Op.inS o := outS_wrap u k o
  refine ⟨hout.symm, hin.symm, fun x _ => ?_, fun y _ => ?_, fun x hx => inv_rightG E u k o hi hk hq x hx,
    fun y hy => inv_leftG E u k o hi hk hq y (hy.trans (congrArg Struct.size hout))⟩
  · rw [show outSize (.wrap u k o) = inSize o from congrArg Struct.size hout]
    rcases den_wrap_cases E k o with ⟨hi, hd, h⟩ | ⟨_, h⟩ | ⟨_, u', p, rfl, h⟩ <;> rw [(h u).1]
    · obtain rfl : k = .qurotT := by rcases hk with rfl | rfl | rfl <;> first | rfl | contradiction
      obtain ⟨u', p, rfl⟩ := isLeafCls_iff.mp (hq rfl)
      exact leafDenT_length E u' .qurot p x
    · exact chooseInv_length _ _ _
    · exact leafDen_length E u' .diagonal _ x
  · rw [show inSize (.wrap u k o) = outSize o from congrArg Struct.size hin]
    exact den_length E o hs y

theorem diagApp_inverts (E : Env) (ops is : List Op) (h : List.Forall₂ (Inverts E) ops is) :
    ∀ x : V, x.length = (ops.map inSize).sum → diagApp E is (diagApp E ops x) = x := by
  induction h with
  | nil =>
    intro x hx
    rw [List.length_eq_zero_iff.mp hx]
    rfl
  | @cons o i os is hoi _ ih =>
    intro x hx
    rw [List.map_cons, List.sum_cons] at hx
    have hle : inSize o ≤ x.length := by omega
    have hc : (headChunk (inSize o) x).length = inSize o := headChunk_length _ _
    have hA : (den E o (headChunk (inSize o) x)).length = inSize i := by
      rw [hoi.len _ hc, hoi.inSize_eq]
    have h1 : diagApp E (o :: os) x = den E o (headChunk (inSize o) x) ++ diagApp E os (x.drop (inSize o)) := by
      rw [diagApp, fit_eq_self (hA.trans hoi.inSize_eq)]
    rw [h1, diagApp, headChunk_append _ hA, hoi.left _ hc, List.drop_left' hA,
      ih _ (by rw [List.length_drop]; omega), hoi.outSize_eq, fit_eq_self hc, headChunk_of_le hle,
      List.take_append_drop]

theorem inSList_of_inverts {E : Env} {ops is : List Op} (h : List.Forall₂ (Inverts E) ops is) :
    inSList is = outSList ops ∧ outSList is = inSList ops := by
  induction h with
  | nil => exact ⟨rfl, rfl⟩
  | cons hoi _ ih => simp only [inSList, outSList, hoi.inS_eq, hoi.outS_eq, ih.1, ih.2, and_self]

/-- **`BlockDiagonalOperator.inverse`, semantically**: the block diagonal of operators inverting the blocks inverts
the block diagonal -/
theorem blockDiag_inverts_of (E : Env) (u u' : Nat) (td : TreeDef) (ops is : List Op)
    (h : List.Forall₂ (Inverts E) ops is) :
    Inverts E (.cont u .blockDiag td ops) (.cont u' .blockDiag td is) := by
  obtain ⟨h1, h2⟩ := inSList_of_inverts h
  have hin : inSize (.cont u .blockDiag td ops) = (ops.map inSize).sum := nest_inSList_size td ops
  have hout : outSize (.cont u .blockDiag td ops) = (ops.map outSize).sum := by
    rw [outSize, Op.outS, nest_size, outSList_sizes]
  have hsum : (is.map inSize).sum = (ops.map outSize).sum := by
    rw [← inSList_sizes, ← outSList_sizes, h1]
  refine ⟨congrArg (Struct.nest td) h1, congrArg (Struct.nest td) h2, fun x _ => ?_, fun y _ => ?_,
    fun x hx => ?_, fun y hy => ?_⟩
  · rw [den, diagApp_length, hout]
  · rw [den, diagApp_length, hin, ← outSList_sizes, h2, inSList_sizes]
  · rw [den, den]
    exact diagApp_inverts E ops is h x (hx.trans hin)
  · rw [den, den]
    exact diagApp_inverts E is ops (h.imp fun _ _ hab => hab.symm).flip y ((hy.trans hout).trans hsum.symm)

theorem inverseList_forall₂ {R : Op → Op → Prop} : ∀ (ops is : List Op),
    (∀ b ∈ ops, ∀ ib, inverseOp b = .ok ib → R b ib) → inverseList ops = .ok is → List.Forall₂ R ops is
  | [], is, _, hi => by
    rw [inverseList] at hi; cases hi; exact .nil
  | o :: os, is, hb, hi => by
    rw [inverseList] at hi
    split at hi
    · rename_i i is' h1 h2
      cases hi
      exact .cons (hb o List.mem_cons_self i h1)
        (inverseList_forall₂ os is' (fun b hb' => hb b (List.mem_cons_of_mem _ hb')) h2)
    · cases hi
    · cases hi

theorem all_square_of (ops : List Op) (hsq : ∀ b ∈ ops, Op.inS b = Op.outS b) :
    ops.all (fun b => Op.inS b == Op.outS b) = true :=
  List.all_eq_true.mpr fun b hb => beq_iff_eq.mpr (hsq b hb)

/-- **`BlockDiagonalOperator.inverse`**: if every block is square and `inverseOp` of every block inverts it,
`inverseOp` of the block diagonal is the block diagonal of the blocks' inverses, and inverts it -/
theorem blockDiag_inverts (E : Env) (u : Nat) (td : TreeDef) (ops : List Op) (i : Op)
    (hsq : ∀ b ∈ ops, Op.inS b = Op.outS b)
    (hb : ∀ b ∈ ops, ∀ ib, inverseOp b = .ok ib → Inverts E b ib)
    (hi : inverseOp (.cont u .blockDiag td ops) = .ok i) :
    ∃ is, inverseList ops = .ok is ∧ i = .cont 0 .blockDiag td is ∧ List.Forall₂ (Inverts E) ops is ∧
      Inverts E (.cont u .blockDiag td ops) i := by
  rw [inverseOp, if_pos (all_square_of ops hsq)] at hi
  split at hi
  · rename_i is his
    cases hi
    have hf := inverseList_forall₂ ops is hb his
    exact ⟨is, his, rfl, hf, blockDiag_inverts_of E u 0 td ops is hf⟩
  · cases hi

/-- the same, constructively: from the blocks' inverses to the inverse of the block diagonal -/
theorem blockDiag_inverts_build (E : Env) (u : Nat) (td : TreeDef) (ops is : List Op)
    (hsq : ∀ b ∈ ops, Op.inS b = Op.outS b)
    (h : List.Forall₂ (fun b ib => inverseOp b = .ok ib ∧ Inverts E b ib) ops is) :
    inverseOp (.cont u .blockDiag td ops) = .ok (.cont 0 .blockDiag td is) ∧
    Inverts E (.cont u .blockDiag td ops) (.cont 0 .blockDiag td is) := by
  have hl : inverseList ops = .ok is := by
    clear hsq
    induction h with
    | nil => rw [inverseList]
    | cons hb _ ih => rw [inverseList, hb.1, ih]
  exact ⟨by rw [inverseOp, if_pos (all_square_of ops hsq), hl],
    blockDiag_inverts_of E u 0 td ops is (h.imp fun _ _ hab => hab.2)⟩

/-- the leaf classes with a closed-form inverse, and what makes it an inverse -/
def leafInvertible : LeafCls → Params → Prop
  | .identity, _ => True
  | .homothety, p => p.vals.data.headD 1 ≠ 0
  | .diagonal, p => diagonalOK p ∧ p.vals.wellFormed = true ∧ ∀ v ∈ p.vals.data, v ≠ 0
  | .qurot, p => stokesOK .qurot p
  | .moveAxis, p => moveAxisOK p
  | _, _ => False

mutual
/-- **the operators whose `.I` is a closed form that inverts**: identities, non-zero scalar operators, valid
diagonal operators all of whose values are non-zero, valid rotations, valid move-axis operators, the three lazy
wrappers around a (structurally well-formed, square) operand they invert (`invertibleG E`), and block diagonals of
SQUARE such operators — recursively -/
def ClosedFormInvertible (E : Env) : Op → Prop
  | .leaf _ c p => leafInvertible c p
  | .wrap _ k o =>
    k.isLazy ∧ (k = .qurotT → o.isQURot = true) ∧ StructOK o ∧ Op.inS o = Op.outS o ∧ invertibleG E o
  | .comp _ _ => False
  | .cont _ k _ ops => k = .blockDiag ∧ ClosedFormInvertibleList E ops
def ClosedFormInvertibleList (E : Env) : List Op → Prop
  | [] => True
  | o :: os => Op.inS o = Op.outS o ∧ ClosedFormInvertible E o ∧ ClosedFormInvertibleList E os
end

theorem ClosedFormInvertibleList_iff (E : Env) (ops : List Op) :
    ClosedFormInvertibleList E ops ↔ ∀ o ∈ ops, Op.inS o = Op.outS o ∧ ClosedFormInvertible E o := by
  induction ops with
  | nil => simp [ClosedFormInvertibleList]
  | cons o os ih => simp [ClosedFormInvertibleList, ih, and_assoc]

/-- **C06, closed**: for every closed-form invertible operator, `op.I` (as built by `inverseOp`) denotes a
two-sided inverse of `op` -/
theorem inverseOp_inverts' (E : Env) (o : Op) :
    ∀ i, ClosedFormInvertible E o → inverseOp o = .ok i → Inverts E o i := by
  induction o using Op.induction_mem with
  | leaf u c p =>
    intro i (h : leafInvertible c p) hi
    cases c with
    | identity => cases hi; exact identity_inverts E u p
    | homothety =>
      obtain ⟨h1, h2⟩ := homothety_inverts E u p h
      rw [h1] at hi; cases hi; exact h2
    | diagonal => cases hi; exact diagonal_inverts E 0 u p h.1 h.2.1 h.2.2
    | qurot => cases hi; exact qurot_inverts E u p h
    | moveAxis => cases hi; exact (moveAxis_inverts E u p h).2
    | _ => exact h.elim
  | wrap u k o _ =>
    rintro i ⟨hk, hq, hs, hsq, hinv⟩ hi
    rw [inverseOp_wrap u k o hk] at hi; cases hi
    exact wrap_inverts E u k o hk hq hs hsq hinv
  | comp u ops _ => exact fun _ h _ => h.elim
  | cont u k td ops ih =>
    rintro i ⟨rfl, hl⟩ hi
    have hcf := (ClosedFormInvertibleList_iff E ops).mp hl
    obtain ⟨-, -, -, -, hinv⟩ := blockDiag_inverts E u td ops i (fun b hb => (hcf b hb).1)
      (fun b hb ib => ih b hb ib (hcf b hb).2) hi
    exact hinv

theorem inverseList_inverts (E : Env) : ∀ (ops is : List Op), ClosedFormInvertibleList E ops →
    inverseList ops = .ok is → List.Forall₂ (Inverts E) ops is :=
  fun ops is hl hi => inverseList_forall₂ ops is
    (fun b hb ib => inverseOp_inverts' E b ib ((ClosedFormInvertibleList_iff E ops).mp hl b hb).2) hi

/-- **C06, closed**: `op.I` has the transposed structures and inverts on both sides -/
theorem inverseOp_inverts (E : Env) (o i : Op) (h : ClosedFormInvertible E o) (hi : inverseOp o = .ok i) :
    Op.inS i = Op.outS o ∧ Op.outS i = Op.inS o ∧
    (∀ x : V, x.length = inSize o → den E i (den E o x) = x) ∧
    (∀ y : V, y.length = outSize o → den E o (den E i y) = y) :=
  have hinv := inverseOp_inverts' E o i h hi
  ⟨hinv.inS_eq, hinv.outS_eq, hinv.left, hinv.right⟩

/-- the operators for which `inverseOp` has a closed form -/
def hasClosedForm : Op → Bool
  | .leaf _ c _ => c == .identity || c == .homothety || c == .diagonal || c == .qurot || c == .moveAxis
  | .wrap _ k _ => k == .diagInv || k == .qurotT || k == .inverse
  | .cont _ .blockDiag _ ops => ops.all (fun b => Op.inS b == Op.outS b)
  | _ => false

/-- **every other operator** (the other leaf classes, the non-lazy transposes, compositions, sums, block rows and
columns, block diagonals with a non-square block) **goes to the lazy `InverseOperator`** -/
theorem inverseOp_lazy (o : Op) (h : hasClosedForm o = false) : inverseOp o = mkInverse o := by
  cases o with
  | leaf u c p => cases c <;> first | rfl | cases h
  | wrap u k o => cases k <;> first | rfl | cases h
  | comp u ops => rfl
  | cont u k td ops =>
    cases k with
    | blockDiag =>
      rw [inverseOp, show ops.all _ = false from h]
      rfl
    | _ => rfl

/-- … which refuses non-square operands … -/
theorem mkInverse_nonsquare (o : Op) (h : Op.inS o ≠ Op.outS o) : mkInverse o = .error .valueError := by
  rw [mkInverse, if_pos (bne_iff_ne.mpr h)]

/-- … and otherwise wraps the REDUCED operand -/
theorem mkInverse_ok (o i : Op) (h : mkInverse o = .ok i) :
    Op.inS o = Op.outS o ∧ ∃ r, reduceTop o = .ok r ∧ i = .wrap 0 .inverse r := by
  unfold mkInverse at h
  split at h
  · cases h
  · rename_i hsq
    split at h
    · rename_i r hr
      exact ⟨by simpa using hsq, r, hr, (Except.ok.inj h).symm⟩
    · cases h

/-- **the lazy inverse inverts** (assumption A4: the solver is exact) a well-formed operand that has an inverse on
the vectors of its input size: `reduce()` keeps the denotation (`reduceTop_sound_closed`), `chooseInv` finds the
inverse -/
theorem mkInverse_inverts (E : Env) (o i : Op) (hw : WTExpr (listArithSem E).invertible listLeafOK o)
    (hinv : ∃ g, IsInvOn (inSize o) (den E o) g) (hi : mkInverse o = .ok i) : Inverts E o i := by
  obtain ⟨hsq, r, hr, rfl⟩ := mkInverse_ok o i hi
  obtain ⟨hwr, hin, hout, hden⟩ := reduceTop_sound_closed E o r hw hr
  have hinz : inSize r = inSize o := congrArg Struct.size hin
  obtain ⟨g, hg⟩ := hinv
  have hg' : IsInvOn (inSize r) (den E r) g := by
    rw [hinz]
    refine ⟨fun x hx => ?_, hg.2⟩
    obtain ⟨h1, h2, h3⟩ := hg.1 x hx
    exact ⟨h1, by rw [hden _ h1]; exact h2, by rw [hden _ hx]; exact h3⟩
  have hK := invertibleK_inverse E r hwr.structOK (by rw [hin, hout, hsq]) ⟨g, hg'⟩
  have hl : ∀ y, (den E (.wrap 0 .inverse r) y).length = inSize o := fun y => by
    rw [den, chooseInv_length, hinz]
  refine ⟨hout, hin, fun x _ => den_length E o hw.structOK x, fun y _ => hl y, fun x hx => ?_, fun y hy => ?_⟩
  · rw [← hden x hx]
    exact hK.1 x (hx.trans hinz.symm)
  · rw [← hden _ (hl y)]
    exact hK.2 y (hy.trans (congrArg Struct.size hout).symm)

/-! ### non-vacuity: a nested block diagonal -/

namespace InverseExamples
open Examples

theorem diagonalOK_vec (data : List Rat) :
    diagonalOK { inS := s1, outS := s1, vals := ⟨[2], data⟩, ints := [[0]] } := by
  intro l hl c
  obtain rfl : l = ⟨[2], .f64⟩ := List.mem_singleton.mp hl
  obtain ⟨y, hy, hys, -⟩ := Diagonal.apply_vector true 2 (castT ⟨[2], data⟩).data (⟨[2], c⟩ : Tensor ℝ) 0
    Nat.zero_lt_one rfl
  exact ⟨y, hy, hys⟩

/-- a vector of two `float64` entries with the diagonal values 2 and -3 -/
def diagP : Params := { inS := s1, outS := s1, vals := ⟨[2], [2, -3]⟩, ints := [[0]] }

theorem diagP_ok : diagonalOK diagP := diagonalOK_vec _

/-- `BlockDiagonal([ 5·I , BlockDiagonal([ Diagonal([2, -3]) , QURotation ]) ])` -/
def nested : Op :=
  .cont 30 .blockDiag td2
    [ .leaf 21 .homothety { inS := s2, outS := s2, vals := Tensor.scalar 5 },
      .cont 31 .blockDiag td2 [ .leaf 22 .diagonal diagP, .leaf 3 .qurot rotP ] ]

theorem nested_closed (E : Env) : ClosedFormInvertible E nested :=
  ⟨rfl, rfl, show (5 : Rat) ≠ 0 by decide, rfl,
    ⟨rfl, rfl, ⟨diagP_ok, rfl, by decide⟩, rfl, rotP_ok, trivial⟩, trivial⟩

/-- its `.I`, computed by the model -/
theorem nested_inverse : inverseOp nested = .ok
    (.cont 0 .blockDiag td2
      [ mkHomothety (1 / 5) s2,
        .cont 0 .blockDiag td2 [ .wrap 0 .diagInv (.leaf 22 .diagonal diagP), .wrap 0 .qurotT (.leaf 3 .qurot rotP) ] ]) := by
  rfl

/-- … inverts it on the 3 + 2 + 18 = 23 entries, by the general theorem -/
example (E : Env) (x : V) (hx : x.length = 23) :
    den E (.cont 0 .blockDiag td2
      [ mkHomothety (1 / 5) s2,
        .cont 0 .blockDiag td2 [ .wrap 0 .diagInv (.leaf 22 .diagonal diagP), .wrap 0 .qurotT (.leaf 3 .qurot rotP) ] ])
      (den E nested x) = x :=
  (inverseOp_inverts E nested _ (nested_closed E) nested_inverse).2.2.1 x hx

/-! #### the well-formedness of the array of values is needed in `diagonal_inverts` -/

/-- values declared of shape `(2,)` with ONE entry: the shapes are fine (`diagonalOK`), the only entry is non-zero -/
def badP : Params := { inS := s1, outS := s1, vals := ⟨[2], [5]⟩, ints := [[0]] }

/-- the missing entry is read as `0` -/
theorem bad_diagVec : diagVec badP = [((5 : Rat) : ℝ), 0] := by
  with_unfolding_all rfl

/-- … so the pseudo-inverse is not an inverse, although every entry of `vals.data` is non-zero -/
theorem wellFormed_needed (E : Env) :
    diagonalOK badP ∧ (∀ v ∈ badP.vals.data, v ≠ 0) ∧
    den E (.wrap 0 .diagInv (.leaf 1 .diagonal badP)) (den E (.leaf 1 .diagonal badP) [1, 1]) ≠ [1, 1] := by
  have hok : diagonalOK badP := diagonalOK_vec _
  refine ⟨hok, by decide, ?_⟩
  rw [den_diagonal E 1 badP hok [1, 1] rfl, bad_diagVec, den_diagInv E 0 1 badP hok _ rfl, bad_diagVec]
  simp [pinvR]

end InverseExamples


end ListSem
end Furax
