/-
The leaf kernels of the list denotation (FuraxProofs/Sem/ListSem.lean) are linear, for EVERY input list:
`Lin f` says that `f` commutes with multiplication by a scalar (`Hom`) and with `vadd` (`Add`).

Most kernels tabulate linear forms of their input (`lin_map`, `lin_flatten`): a gather reads entries, a scatter sums
them, the Stokes maps apply a linear map to every sample.  `leafKer_lin`: the kernels of a leaf, of whatever class
and with whatever parameters, are linear or are the maps the environment provides; hence `leafHom : LeafHom E`, and
the additivity of the leaves in FuraxProofs/Sem/LinearList.lean.
-/
import FuraxProofs.Sem.ListSemLaws
import FuraxProofs.Sem.ToeplitzLeaf
import FuraxProofs.Sem.DenseLeaf
import FuraxProofs.Sem.StokesLaws
import FuraxProofs.Lemmas.GatherScatter
namespace Furax
namespace ListSem
open Op

/-- homogeneous and additive, on ALL inputs -/
def Lin (f : V → V) : Prop := Hom f ∧ Add f

theorem Hom.comp {f g : V → V} (hf : Hom f) (hg : Hom g) : Hom (fun x => f (g x)) :=
  fun a => (homClass a).comp (hf a) (hg a)

theorem Hom.id : Hom (fun x => x) := fun _ _ => rfl

theorem lin_id : Lin fun x => x := ⟨Hom.id, addClass.id⟩

theorem lin_zero : Lin fun _ => [] := ⟨fun _ _ => rfl, addClass.zero⟩

theorem Lin.comp {f g : V → V} (hf : Lin f) (hg : Lin g) : Lin fun x => f (g x) :=
  ⟨hf.1.comp hg.1, addClass.comp hf.2 hg.2⟩

theorem Lin.perLeaf {f : LeafS → LeafS → V → V} (hf : ∀ li lo, Lin (f li lo)) (ins outs : List LeafS) :
    Lin (perLeaf f ins outs) :=
  ⟨fun a => (homClass a).perLeaf (fun li lo => (hf li lo).1 a) ins outs,
   addClass.perLeaf (fun li lo => (hf li lo).2) ins outs⟩

/-- a linear form: one real number depending linearly on the input -/
def LinForm (e : V → ℝ) : Prop :=
  (∀ (a : ℝ) (x : V), e (x.map fun v => a * v) = a * e x) ∧ ∀ x y : V, e (vadd x y) = e x + e y

theorem getD_smul (a : ℝ) (x : V) (i : Nat) : (x.map fun v => a * v).getD i 0 = a * x.getD i 0 := by
  rw [List.getD_eq_getElem?_getD, List.getD_eq_getElem?_getD, List.getElem?_map]
  cases x[i]? with
  | none => exact (mul_zero a).symm
  | some v => rfl

theorem getD_linForm (i : Nat) : LinForm fun x => x.getD i 0 := ⟨fun a x => getD_smul a x i, fun x y => getD_vadd x y i⟩

/-- a list of linear forms of the input is a linear map -/
theorem lin_map {ι : Type} (l : List ι) (e : ι → V → ℝ) (he : ∀ i, LinForm (e i)) :
    Lin fun x => l.map fun i => e i x :=
  ⟨fun a x => by
    rw [List.map_map]
    exact List.map_congr_left fun i _ => (he i).1 a x,
   fun x y => by
    rw [← map_add_eq_vadd]
    exact List.map_congr_left fun i _ => (he i).2 x y⟩

/-- the concatenation of linear maps, each returning a vector of a fixed length -/
theorem lin_flatten {ι : Type} (l : List ι) (F : ι → V → V) (hF : ∀ i, Lin (F i))
    (hlen : ∀ i x y, (F i x).length = (F i y).length) : Lin fun x => (l.map fun i => F i x).flatten :=
  ⟨fun a x => by
    rw [List.map_flatten, List.map_map]
    exact congrArg List.flatten (List.map_congr_left fun i _ => (hF i).1 a x),
   fun x y => by
    rw [← flatten_map_vadd l _ _ fun i => hlen i x y]
    exact congrArg List.flatten (List.map_congr_left fun i _ => (hF i).2 x y)⟩

theorem moveLeaf_lin (src dst : List Int) (li lo : LeafS) : Lin (moveLeaf src dst li lo) := by
  unfold moveLeaf Axes.moveaxis
  simp only []
  cases Axes.moveaxisOrder (List.length li.shape) src dst with
  | error e => exact lin_zero
  | ok order => exact lin_map _ _ fun _ => getD_linForm _

theorem gatherLeaf_lin (idx : List IdxEntry) (li lo : LeafS) : Lin (gatherLeaf idx li lo) := by
  unfold gatherLeaf
  cases Index.indexPositions li.shape idx with
  | error e => exact lin_zero
  | ok r => exact lin_map r.2 _ fun _ => getD_linForm _

/-- what a scatter accumulates at one position -/
theorem bucket_linForm (p : Nat) : ∀ pos : List Nat, LinForm fun y : V => Index.bucket pos y p
  | [] => ⟨fun a y => by simp only [Index.bucket_nil, mul_zero], fun y y' => by simp only [Index.bucket_nil, add_zero]⟩
  | q :: pos => by
    obtain ⟨ih1, ih2⟩ : (∀ (a : ℝ) (y : V), Index.bucket pos (y.map fun v => a * v) p = a * Index.bucket pos y p) ∧
      ∀ y y' : V, Index.bucket pos (vadd y y') p = Index.bucket pos y p + Index.bucket pos y' p := bucket_linForm p pos
    have hnil : ∀ pos : List Nat, Index.bucket pos ([] : V) p = 0 := fun pos => by
      simp only [Index.bucket, List.zip_nil_right, List.filter_nil, List.map_nil, List.sum_nil]
    refine ⟨fun a y => ?_, fun y y' => ?_⟩ <;> beta_reduce
    · cases y with
      | nil => rw [List.map_nil, hnil, mul_zero]
      | cons b y =>
        rw [List.map_cons, Index.bucket_cons, Index.bucket_cons, ih1 a y, mul_add, mul_ite, mul_zero]
    · cases y with
      | nil => rw [vadd_nil_left, hnil, zero_add]
      | cons b y =>
        cases y' with
        | nil => rw [vadd_nil_right, hnil, add_zero]
        | cons b' y' =>
          rw [vadd_cons, Index.bucket_cons, Index.bucket_cons, Index.bucket_cons, ih2 y y']
          split <;> ring

theorem scatterLeaf_lin (idx : List IdxEntry) (lo li : LeafS) : Lin (scatterLeaf idx lo li) := by
  unfold scatterLeaf
  cases Index.indexPositions li.shape idx with
  | error e => exact lin_zero
  | ok r =>
    simp only [Index.scatterAdd_eq]
    exact lin_map _ _ fun p => bucket_linForm p r.2

theorem zipWith_mul_lin : ∀ d : V, Lin fun x => List.zipWith (· * ·) d x
  | [] => by simp only [List.zipWith_nil_left]; exact lin_zero
  | u :: d => by
    have ih := zipWith_mul_lin d
    refine ⟨fun a x => ?_, fun x y => ?_⟩
    · cases x with
      | nil => rfl
      | cons v x =>
        simp only [List.map_cons, List.zipWith_cons_cons, ih.1 a x, List.cons.injEq, and_true]
        exact mul_left_comm u a v
    · cases x with
      | nil => simp only [vadd_nil_left, List.zipWith_nil_right]
      | cons v x =>
        cases y with
        | nil => simp only [vadd_nil_right, List.zipWith_nil_right]
        | cons w y =>
          simp only [vadd_cons, List.zipWith_cons_cons, ih.2 x y, List.cons.injEq, and_true]
          exact mul_add u v w

/-- every step of `Diagonal.apply` that can refuse looks at shapes only: the product is the zero map on the leaf, or it
multiplies, entry by entry, fixed weights with a broadcast of the leaf padded by `r` axes on the right; the result of
a strict product has the shape of the leaf, so that nothing was padded -/
theorem diagLeaf_form (strict : Bool) (vals : Tensor Rat) (axes : List Int) (li lo : LeafS) :
    diagLeaf strict vals axes li lo = (fun _ => []) ∨
    ∃ (D : V) (S : List Nat) (r : Nat), (strict = true → S = li.shape ∧ r = 0) ∧
      diagLeaf strict vals axes li lo = fun x => List.zipWith (· * ·) D
        ((⟨li.shape ++ List.replicate r 1, x⟩ : Tensor ℝ).broadcastTo S).data := by
  unfold diagLeaf Diagonal.apply
  simp only []
  by_cases h0 : ((castT vals).shape.length == 0) = true
  · simp only [h0, if_true]
    exact .inl rfl
  simp only [h0, Bool.false_eq_true, if_false]
  cases Diagonal.normalizeAxes (Diagonal.normalizeSpec (castT vals).shape.length (.seq axes)) li.shape.length with
  | error e => exact .inl rfl
  | ok ax =>
    simp only [bind, Except.bind]
    cases Diagonal.reshapeDiagonal (castT vals) ax li.shape.length with
    | error e => exact .inl rfl
    | ok d =>
      simp only [Diagonal.reshapeLeaf, Tensor.zipBroadcast]
      cases hS : broadcastShapes d.shape (li.shape ++ List.replicate (Diagonal.rightDims ax li.shape.length) 1) with
      | none => exact .inl rfl
      | some S =>
        simp only [Option.bind_eq_bind, Option.bind_some]
        by_cases hs : (strict && S != li.shape) = true
        · simp only [hs, if_true]
          exact .inl rfl
        · simp only [hs, Bool.false_eq_true, if_false]
          refine .inr ⟨_, S, _, fun hst => ?_, rfl⟩
          subst hst
          obtain rfl : S = li.shape := by simpa using hs
          have := Diagonal.broadcastShapes_length _ _ _ hS
          simp only [List.length_append, List.length_replicate] at this
          exact ⟨rfl, by omega⟩

theorem diagLeaf_lin (strict : Bool) (vals : Tensor Rat) (axes : List Int) (li lo : LeafS) :
    Lin (diagLeaf strict vals axes li lo) := by
  rcases diagLeaf_form strict vals axes li lo with h | ⟨D, S, r, -, h⟩ <;> rw [h]
  · exact lin_zero
  · simp only [Tensor.broadcastTo]
    exact (zipWith_mul_lin D).comp (lin_map _ _ fun _ => getD_linForm _)

/-- multiplication of a Stokes sample by a real -/
def svs (a : ℝ) (s : SV ℝ) : SV ℝ := ⟨a * s.i, a * s.q, a * s.u, a * s.v⟩

/-- the sum of two Stokes samples -/
def sva (s s' : SV ℝ) : SV ℝ := ⟨s.i + s'.i, s.q + s'.q, s.u + s'.u, s.v + s'.v⟩

/-- a linear sample-wise map -/
def SVLin (g : SV ℝ → SV ℝ) : Prop :=
  (∀ (a : ℝ) s, g (svs a s) = svs a (g s)) ∧ ∀ s s', g (sva s s') = sva (g s) (g s')

theorem hwp_lin : SVLin SV.hwp :=
  ⟨fun a s => by simp only [SV.hwp, svs, SV.mk.injEq, true_and]; constructor <;> ring,
   fun s s' => by simp only [SV.hwp, sva, SV.mk.injEq, true_and]; constructor <;> ring⟩

theorem rot_lin (c s₀ : ℝ) : SVLin (SV.rot c s₀) :=
  ⟨fun a s => by simp only [SV.rot, svs, SV.mk.injEq, true_and, and_true]; constructor <;> ring,
   fun s s' => by simp only [SV.rot, sva, SV.mk.injEq, true_and, and_true]; constructor <;> ring⟩

theorem rotT_lin (c s₀ : ℝ) : SVLin (SV.rotT c s₀) :=
  ⟨fun a s => by simp only [SV.rotT, svs, SV.mk.injEq, true_and, and_true]; constructor <;> ring,
   fun s s' => by simp only [SV.rotT, sva, SV.mk.injEq, true_and, and_true]; constructor <;> ring⟩

theorem present_svs (k : StokesKind) (a : ℝ) (s : SV ℝ) :
    SV.present k (svs a s) = (SV.present k s).map fun v => a * v := by
  cases k <;> rfl

theorem present_sva (k : StokesKind) (s s' : SV ℝ) :
    SV.present k (sva s s') = vadd (SV.present k s) (SV.present k s') := by
  cases k <;> rfl

/-- the sample made of the components of a kind, component by component (the absent ones are `0`) -/
theorem ofPresent_getD (k : StokesKind) (l : V) (h : l.length = ncomp k) :
    SV.ofPresent k l 0 = match k with
      | .I => ⟨l.getD 0 0, 0, 0, 0⟩
      | .QU => ⟨0, l.getD 0 0, l.getD 1 0, 0⟩
      | .IQU => ⟨l.getD 0 0, l.getD 1 0, l.getD 2 0, 0⟩
      | .IQUV => ⟨l.getD 0 0, l.getD 1 0, l.getD 2 0, l.getD 3 0⟩ := by
  cases k
  · obtain ⟨a, rfl⟩ := List.length_eq_one_iff.1 h; rfl
  · obtain ⟨a, b, rfl⟩ := List.length_eq_two.1 h; rfl
  · obtain ⟨a, b, c, rfl⟩ := List.length_eq_three.1 h; rfl
  · obtain ⟨a, l, rfl⟩ := List.exists_cons_of_length_eq_add_one h
    obtain ⟨b, c, d, rfl⟩ := List.length_eq_three.1 (Nat.succ.inj h)
    rfl

theorem comps_getD_smul (ns : List Nat) (a : ℝ) (x : V) (t : Nat) :
    (chunks ns (x.map fun v => a * v)).map (fun c => c.getD t 0) =
      ((chunks ns x).map fun c => c.getD t 0).map fun v => a * v := by
  rw [chunks_map, List.map_map, List.map_map]
  exact List.map_congr_left fun c _ => getD_smul a c t

theorem comps_getD_vadd (t : Nat) : ∀ (ns : List Nat) (x y : V),
    (chunks ns (vadd x y)).map (fun c => c.getD t 0) =
      vadd ((chunks ns x).map fun c => c.getD t 0) ((chunks ns y).map fun c => c.getD t 0)
  | [], _, _ => rfl
  | n :: ns, x, y => by
    simp only [chunks_cons, List.map_cons, vadd_cons, headChunk_vadd n x y, getD_vadd, drop_vadd,
      comps_getD_vadd t ns]

theorem comps_getD_length (k : StokesKind) (n : Nat) (x : V) (t : Nat) :
    ((chunks (List.replicate (ncomp k) n) x).map fun c => c.getD t 0).length = ncomp k := by
  rw [List.length_map, chunks_length, List.length_replicate]

theorem svAt_smul (k : StokesKind) (n : Nat) (a : ℝ) (x : V) (t : Nat) :
    svAt k n (x.map fun v => a * v) t = svs a (svAt k n x t) := by
  have hl := comps_getD_length k n x t
  unfold svAt
  rw [comps_getD_smul, ofPresent_getD k _ ((List.length_map _).trans hl), ofPresent_getD k _ hl]
  cases k <;> simp only [getD_smul, svs, mul_zero]

theorem svAt_vadd (k : StokesKind) (n : Nat) (x y : V) (t : Nat) :
    svAt k n (vadd x y) t = sva (svAt k n x t) (svAt k n y t) := by
  have hx := comps_getD_length k n x t
  have hy := comps_getD_length k n y t
  unfold svAt
  rw [comps_getD_vadd, ofPresent_getD k _ (vadd_length_eq hx hy.le), ofPresent_getD k _ hx, ofPresent_getD k _ hy]
  cases k <;> simp only [getD_vadd, sva, add_zero]

theorem stokesMap_lin (k : StokesKind) (n : Nat) (g : Nat → SV ℝ → SV ℝ) (hg : ∀ t, SVLin (g t)) :
    Lin (stokesMap k n g) :=
  lin_flatten (List.range (ncomp k))
    (fun c x => (List.range n).map fun t => (SV.present k (g t (svAt k n x t))).getD c 0)
    (fun c => lin_map _ _ fun t =>
      ⟨fun a x => by beta_reduce; rw [svAt_smul, (hg t).1, present_svs, getD_smul],
       fun x y => by beta_reduce; rw [svAt_vadd, (hg t).2, present_sva, getD_vadd]⟩)
    fun c x y => (List.length_map _).trans (List.length_map _).symm

theorem polMap_lin (k : StokesKind) (n : Nat) : Lin (polMap k n) :=
  lin_map (List.range n) (fun t x => SV.pol (1 / 2 : ℝ) k (svAt k n x t)) fun t =>
    ⟨fun a x => by beta_reduce; rw [svAt_smul]; cases k <;> simp only [SV.pol, svs] <;> ring,
     fun x y => by beta_reduce; rw [svAt_vadd]; cases k <;> simp only [SV.pol, sva] <;> ring⟩

theorem polTMap_lin (k : StokesKind) (n : Nat) : Lin (polTMap k n) :=
  lin_flatten (List.range (ncomp k))
    (fun c y => (List.range n).map fun t =>
      (SV.present k (⟨(1 / 2 : ℝ) * y.getD t 0, (1 / 2 : ℝ) * y.getD t 0, 0, 0⟩ : SV ℝ)).getD c 0)
    (fun c => lin_map _ _ fun t =>
      ⟨fun a y => by
        beta_reduce
        rw [getD_smul, ← getD_smul a (SV.present k _) c, ← present_svs]
        congr 2
        simp only [svs, SV.mk.injEq, mul_zero, and_true]
        constructor <;> ring,
       fun y y' => by
        beta_reduce
        rw [getD_vadd y y', ← getD_vadd (SV.present k _) (SV.present k _) c, ← present_sva]
        congr 2
        simp only [sva, SV.mk.injEq, add_zero, and_true]
        constructor <;> ring⟩)
    fun c x y => (List.length_map _).trans (List.length_map _).symm

theorem toepLeaf_lin (K : Nat) (vals : Tensor Rat) (li lo : LeafS) : Lin (toepLeaf K vals li lo) :=
  ⟨toepLeaf_smul K vals li lo, fun x y => by
    unfold toepLeaf
    simp only []
    rw [← map_add_eq_vadd]
    apply List.map_congr_left
    intro q _
    rw [← toep_add]
    exact toep_congr _ _ _ _ _ _ fun j _ => getD_vadd x y _⟩

theorem vsmul_lin (q : Rat) : Lin (vsmul q) :=
  ⟨fun a x => by
    rw [vsmul_eq_map, vsmul_eq_map, List.map_map, List.map_map]
    exact List.map_congr_left fun v _ => mul_left_comm _ _ _,
   vsmul_vadd q⟩

/-- the kernel of a leaf and that of its transpose — every class, every parameter — are linear, or they are the maps of
the environment -/
theorem leafKer_lin (E : Env) (u : Nat) (c : LeafCls) (p : Params) :
    (Lin (leafKer E u c p) ∨ leafKer E u c p = E.f u) ∧ (Lin (leafKerT E u c p) ∨ leafKerT E u c p = E.fT u) := by
  cases c
  case identity | ravel | reshape => exact ⟨.inl lin_id, .inl lin_id⟩
  case homothety => exact ⟨.inl (vsmul_lin _), .inl (vsmul_lin _)⟩
  case diagonal => exact ⟨.inl (Lin.perLeaf (diagLeaf_lin _ _ _) _ _), .inl (Lin.perLeaf (diagLeaf_lin _ _ _) _ _)⟩
  case broadcastDiagonal => exact ⟨.inl (Lin.perLeaf (diagLeaf_lin _ _ _) _ _), .inl lin_id⟩
  case index | pack => exact ⟨.inl (Lin.perLeaf (gatherLeaf_lin _) _ _), .inl (Lin.perLeaf (scatterLeaf_lin _) _ _)⟩
  case moveAxis => exact ⟨.inl (Lin.perLeaf (moveLeaf_lin _ _) _ _), .inl (Lin.perLeaf (moveLeaf_lin _ _) _ _)⟩
  case qurot =>
    unfold leafKer leafKerT
    simp only []
    cases kindOf p.inS.leaves.length with
    | none => exact ⟨.inl lin_id, .inl lin_id⟩
    | some k =>
      exact ⟨.inl (stokesMap_lin _ _ _ fun _ => rot_lin _ _), .inl (stokesMap_lin _ _ _ fun _ => rotT_lin _ _)⟩
  case hwp =>
    unfold leafKer leafKerT
    simp only []
    cases kindOf p.inS.leaves.length with
    | none => exact ⟨.inl lin_id, .inl lin_id⟩
    | some k => exact ⟨.inl (stokesMap_lin _ _ _ fun _ => hwp_lin), .inl (stokesMap_lin _ _ _ fun _ => hwp_lin)⟩
  case polarizer =>
    unfold leafKer leafKerT
    simp only []
    cases kindOf p.inS.leaves.length with
    | none => exact ⟨.inl lin_id, .inl lin_id⟩
    | some k => exact ⟨.inl (polMap_lin _ _), .inl (polTMap_lin _ _)⟩
  case toeplitz =>
    unfold leafKer leafKerT
    simp only []
    cases toepK p.vals with
    | none => exact ⟨.inr rfl, .inr rfl⟩
    | some K => exact ⟨.inl (Lin.perLeaf (toepLeaf_lin K _) _ _), .inl (Lin.perLeaf (toepLeaf_lin K _) _ _)⟩
  case dense =>
    by_cases h : denseShared p = true
    · have hk : leafKer E u .dense p = denseLeaf p := funext fun _ => if_pos h
      have hkT : leafKerT E u .dense p = denseLeafT p := funext fun _ => if_pos h
      exact ⟨.inl (hk ▸ ⟨denseLeaf_hom p, denseLeaf_add p⟩), .inl (hkT ▸ ⟨denseLeafT_hom p, denseLeafT_add p⟩)⟩
    · exact ⟨.inr (funext fun _ => if_neg h), .inr (funext fun _ => if_neg h)⟩
  case obsMatrix | «opaque» => exact ⟨.inr rfl, .inr rfl⟩

/-- the leaf kernels commute with multiplication by a scalar, for every input list -/
theorem leafHom (E : Env) : LeafHom E := by
  refine ⟨fun u c p a x => ?_, fun u c p a y => ?_⟩
  · have hK : Hom (leafKer E u c p) := (leafKer_lin E u c p).1.elim (·.1) fun h => h ▸ E.hom u
    rw [leafDen_eq, leafDen_eq, fit_map, hK, fit_map]
  · have hK : Hom (leafKerT E u c p) := (leafKer_lin E u c p).2.elim (·.1) fun h => h ▸ E.homT u
    rw [leafDenT_eq, leafDenT_eq, fit_map, hK, fit_map]

end ListSem
end Furax

open Furax Furax.ListSem in
#print axioms leafHom
