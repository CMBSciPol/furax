/-
Leaf-level laws of the list denotation (FuraxProofs/Sem/ListSem.lean): move-axis, ravel/reshape, pack, index.
The validity predicates say what the Python constructors guarantee of the parameters of these leaf classes; the laws
are the fields of `RuleLaws` and `ContainerLaws` about them, for `A.den := den E`, `A.mem s x := x.length = s.size`.
The index law (`index_noaxes`: an index that selects nothing is the identity) uses the description of `Index.toSels`
proved in FuraxProofs/Sem/IndexMultLaw.lean (`plainFull`, `go_spec`, `toSels_eq_go`), hence the import.
-/
import FuraxProofs.Sem.ListSemBasic
import FuraxProofs.Sem.IndexMultLaw
import FuraxProofs.Lemmas.MoveAxisPerm
import FuraxProofs.Lemmas.GatherScatter
import Mathlib.Data.List.TakeDrop
namespace Furax
namespace ListSem
open Op

theorem leafS_ext {a b : LeafS} (hs : a.shape = b.shape) (hd : a.dtype = b.dtype) : a = b := by
  cases a; cases b; cases hs; cases hd; rfl

theorem struct_ext {s t : Struct} (ht : s.td = t.td) (hl : s.leaves = t.leaves) : s = t := by
  cases s; cases t; cases ht; cases hl; rfl

theorem perLeaf_pair (R : LeafS → LeafS → Prop) (f g : LeafS → LeafS → V → V) (ins outs : List LeafS)
    (h : List.Forall₂ R ins outs)
    (hR : ∀ li lo, R li lo → ∀ c : V, c.length = li.size →
      fit li.size (g lo li (fit lo.size (f li lo c))) = c) :
    ∀ x : V, x.length = (ins.map LeafS.size).sum → perLeaf g outs ins (perLeaf f ins outs x) = x := by
  induction h with
  | nil => intro x hx; rw [List.length_eq_zero_iff.mp hx]; rfl
  | @cons li lo ins outs hr _ ih =>
    intro x hx
    rw [List.map_cons, List.sum_cons] at hx
    rw [perLeaf_cons f, perLeaf_cons g, headChunk_append _ (fit_length _ _), List.drop_left' (fit_length _ _),
      ih (x.drop li.size) (by rw [List.length_drop]; omega), hR li lo hr _ (headChunk_length _ _), headChunk,
      fit_eq_self (by rw [List.length_take]; omega), List.take_append_drop]

theorem perLeaf_id (R : LeafS → LeafS → Prop) (f : LeafS → LeafS → V → V) (ins outs : List LeafS)
    (h : List.Forall₂ R ins outs)
    (hR : ∀ li lo, R li lo → ∀ c : V, c.length = li.size → fit lo.size (f li lo c) = c) :
    ∀ x : V, x.length = (ins.map LeafS.size).sum → perLeaf f ins outs x = x := by
  induction h with
  | nil => intro x hx; rw [List.length_eq_zero_iff.mp hx]; rfl
  | @cons li lo ins outs hr _ ih =>
    intro x hx
    rw [List.map_cons, List.sum_cons] at hx
    rw [perLeaf_cons f, ih (x.drop li.size) (by rw [List.length_drop]; omega), hR li lo hr _ (headChunk_length _ _), headChunk,
      fit_eq_self (by rw [List.length_take]; omega), List.take_append_drop]

theorem sum_size_of_forall₂ (R : LeafS → LeafS → Prop) (ins outs : List LeafS) (h : List.Forall₂ R ins outs)
    (hR : ∀ li lo, R li lo → lo.size = li.size) :
    (outs.map LeafS.size).sum = (ins.map LeafS.size).sum := by
  induction h with
  | nil => rfl
  | cons hr _ ih => simp [hR _ _ hr, ih]

/-- `MoveAxisOperator(source, destination, in_structure=…)`: `out_structure` is the tree-map of `jnp.moveaxis` over
the leaves (`jax.eval_shape`): same treedef, and every leaf is accepted by `moveaxis` and transposed -/
def moveAxisOK (p : Params) : Prop :=
  p.outS.td = p.inS.td ∧
  List.Forall₂ (fun li lo => ∃ order,
      Axes.moveaxisOrder li.shape.length (p.ints.getD 0 []) (p.ints.getD 1 []) = .ok order ∧
      lo.shape = Axes.transposeShape li.shape order ∧ lo.dtype = li.dtype)
    p.inS.leaves p.outS.leaves

/-- `RavelOperator` / `ReshapeOperator`: leaf-wise `reshape`, which keeps the number of elements -/
def reshapeOK (p : Params) : Prop :=
  p.outS.td = p.inS.td ∧ List.Forall₂ (fun li lo => lo.size = li.size) p.inS.leaves p.outS.leaves

/-- one leaf of an index operator: NumPy indexing of the input leaf succeeds and gives the output leaf, selecting
in-bounds positions; `uniq` (the `unique_indices` flag) promises that no position is selected twice -/
def indexLeafOK (idx : List IdxEntry) (uniq : Prop) (li lo : LeafS) : Prop :=
  ∃ pos, Index.indexPositions li.shape idx = .ok (lo.shape, pos) ∧ (∀ q ∈ pos, q < li.size) ∧
    (uniq → pos.Nodup) ∧ lo.dtype = li.dtype

/-- `IndexOperator(indices, in_structure=…, unique_indices=…)` -/
def indexOK (p : Params) : Prop :=
  p.outS.td = p.inS.td ∧ List.Forall₂ (indexLeafOK p.idx (p.flag = true)) p.inS.leaves p.outS.leaves

/-- `PackOperator(mask, in_structure=…)`: indexing with a boolean mask, which never selects a position twice -/
def packOK (p : Params) : Prop :=
  p.outS.td = p.inS.td ∧ List.Forall₂ (indexLeafOK p.idx True) p.inS.leaves p.outS.leaves

theorem leaf_pair_aux (s t : Struct) (R : LeafS → LeafS → Prop) (f g : LeafS → LeafS → V → V)
    (h : List.Forall₂ R s.leaves t.leaves)
    (hR : ∀ li lo, R li lo → ∀ c : V, c.length = li.size →
      fit li.size (g lo li (fit lo.size (f li lo c))) = c)
    (x : V) (hx : x.length = s.size) :
    fit s.size (perLeaf g t.leaves s.leaves (fit t.size (fit t.size
      (perLeaf f s.leaves t.leaves (fit s.size x))))) = x := by
  have hl : s.leaves.length = t.leaves.length := h.length_eq
  have h1 : (perLeaf f s.leaves t.leaves x).length = t.size := perLeaf_length f _ _ x hl
  rw [fit_eq_self hx, fit_eq_self h1, fit_eq_self h1, perLeaf_pair R f g _ _ h hR x hx, fit_eq_self hx]

theorem moveLeaf_roundtrip (src dst : List Int) (li lo : LeafS) (order : List Nat)
    (ho : Axes.moveaxisOrder li.shape.length src dst = .ok order)
    (hs : lo.shape = Axes.transposeShape li.shape order) (c : V) (hc : c.length = li.size) :
    fit li.size (moveLeaf dst src lo li (fit lo.size (moveLeaf src dst li lo c))) = c := by
  have h1 := Axes.moveaxis_of_order li.shape c src dst order ho
  rw [← hs] at h1
  have h2 := Axes.moveaxis_roundtrip _ _ src dst hc h1
  have hlen : (Axes.transposeData li.shape order c).length = lo.size := by
    rw [Axes.transposeData_length, ← hs, LeafS.size]
  unfold moveLeaf
  rw [h1]
  simp only [exData]
  rw [fit_eq_self hlen, h2]
  exact fit_eq_self hc

theorem forall₂_roundtrip {α β : Type} (R : α → β → Prop) (S : β → α → Prop) (a c : List α) (b : List β)
    (h1 : List.Forall₂ R a b) (h2 : List.Forall₂ S b c) (h : ∀ x y z, R x y → S y z → z = x) : c = a := by
  induction h1 generalizing c with
  | nil => cases h2; rfl
  | cons hr _ ih =>
    cases h2 with
    | cons hs hrest => rw [h _ _ _ hr hs, ih _ hrest]

/-- **`MoveAxisInverseRule`** (`RuleLaws.moveaxis_pair`) -/
theorem moveaxis_pair (E : Env) (ul : Nat) (pl : Params) (ur : Nat) (pr : Params)
    (hl : moveAxisOK pl) (hr : moveAxisOK pr)
    (h01 : pl.ints.getD 0 [] = pr.ints.getD 1 []) (h10 : pl.ints.getD 1 [] = pr.ints.getD 0 [])
    (hio : pl.inS = pr.outS) :
    pl.outS = pr.inS ∧
    ∀ x : V, x.length = pr.inS.size →
      den E (.leaf ul .moveAxis pl) (den E (.leaf ur .moveAxis pr) x) = x := by
  have hstruct : pl.outS = pr.inS := by
    obtain ⟨htl, hfl⟩ := hl
    obtain ⟨htr, hfr⟩ := hr
    rw [hio, h01, h10] at hfl
    have hleaves : pl.outS.leaves = pr.inS.leaves := by
      refine forall₂_roundtrip _ _ _ _ _ hfr hfl ?_
      rintro x y z ⟨o, ho, hys, hyd⟩ ⟨o', ho', hzs, hzd⟩
      have hlen : y.shape.length = x.shape.length := by
        rw [hys, Axes.ma_transposeShape_length, (Axes.moveaxisOrder_perm _ _ _ _ ho).length_eq, List.length_range]
      rw [hlen] at ho'
      have := Axes.moveaxis_inverse_shape _ _ _ o o' x.shape ho ho' rfl
      rw [← hys, ← hzs] at this
      exact leafS_ext this (hzd.trans hyd)
    exact struct_ext (by rw [htl, hio, htr]) hleaves
  refine ⟨hstruct, fun x hx => ?_⟩
  simp only [den, leafDen, squareLeaf, Bool.false_eq_true, if_false]
  rw [hio, hstruct, h01, h10]
  refine leaf_pair_aux pr.inS pr.outS _ _ _ hr.2 ?_ x hx
  rintro li lo ⟨o, ho, hs, _⟩ c hc
  exact moveLeaf_roundtrip _ _ li lo o ho hs c hc

theorem reshapeOK_size {p : Params} (h : reshapeOK p) : p.outS.size = p.inS.size :=
  sum_size_of_forall₂ _ _ _ h.2 (fun _ _ h => h)

section reshape
variable {c : LeafCls} (hc : c = .ravel ∨ c = .reshape) (E : Env) (u : Nat) (p : Params) (x : V)
include hc

/-- a ravel / reshape leaf only normalises the length -/
theorem leafDen_reshape : leafDen E u c p x = fit p.outS.size (fit p.inS.size x) := by
  rcases hc with rfl | rfl <;> rfl

theorem leafDenT_reshape : leafDenT E u c p x = fit p.inS.size (fit p.outS.size x) := by
  rcases hc with rfl | rfl <;> rfl

end reshape

/-- **`ReshapeInverseRule`** (`RuleLaws.reshape_pair`) -/
theorem reshape_pair (E : Env) (u uo : Nat) (c : LeafCls) (p : Params) (hc : c = .ravel ∨ c = .reshape)
    (hp : reshapeOK p) :
    (∀ x : V, x.length = p.inS.size →
      den E (.wrap u .reshapeT (.leaf uo c p)) (den E (.leaf uo c p) x) = x) ∧
    (∀ x : V, x.length = p.outS.size →
      den E (.leaf uo c p) (den E (.wrap u .reshapeT (.leaf uo c p)) x) = x) := by
  have hs := reshapeOK_size hp
  rw [hs]
  refine ⟨fun x hx => ?_, fun x hx => ?_⟩ <;>
  · rw [den_wrap_T (k := .reshapeT) nofun nofun, den, denT, leafDen_reshape hc, leafDenT_reshape hc, hs]
    simp only [fit_eq_self hx]

/-- **`AbstractRavelOrReshapeOperator.reduce`** (`ContainerLaws.reshape_id`); the validity of the parameters is not
needed -/
theorem reshape_id (E : Env) (u : Nat) (c : LeafCls) (p : Params) (hc : c = .ravel ∨ c = .reshape)
    (hio : p.outS = p.inS) :
    ∀ x : V, x.length = p.inS.size → den E (.leaf u c p) x = x := by
  intro x hx
  rw [den, leafDen_reshape hc, hio, fit_eq_self hx, fit_eq_self hx]

theorem indexPositions_length {shape : List Nat} {idx : List IdxEntry} {outShape pos : List Nat}
    (h : Index.indexPositions shape idx = .ok (outShape, pos)) : pos.length = prodNat outShape := by
  rw [indexPositions_eq', indexPositions'] at h
  obtain ⟨sels, -, h⟩ := except_bind_eq_ok h
  obtain ⟨B, -, h⟩ := except_bind_eq_ok h
  obtain ⟨positions, hm, h⟩ := except_bind_eq_ok h
  cases h
  rw [← (except_mapM_ok_inv _ _ _ hm).length_eq, List.length_range]

theorem gatherLeaf_scatterLeaf (idx : List IdxEntry) (li lo : LeafS) (h : indexLeafOK idx True li lo)
    (c : V) (hc : c.length = lo.size) :
    fit lo.size (gatherLeaf idx li lo (fit li.size (scatterLeaf idx lo li c))) = c := by
  obtain ⟨pos, hp, hlt, hnd, _⟩ := h
  have hlen := indexPositions_length hp
  unfold gatherLeaf scatterLeaf
  simp only [hp]
  rw [fit_eq_self (Index.scatterAdd_length _ _ _),
    Index.gather_scatter_id _ _ _ (hnd trivial) hlt (by rw [hc, hlen]; rfl), fit_eq_self hc]

/-- `P Pᵀ = I` for an index or pack leaf whose positions are distinct -/
theorem gather_scatter_den (E : Env) (u uo : Nat) (c : LeafCls) (p : Params) (hc : c = .index ∨ c = .pack)
    (hp : List.Forall₂ (indexLeafOK p.idx True) p.inS.leaves p.outS.leaves) :
    ∀ x : V, x.length = p.outS.size →
      den E (.leaf uo c p) (den E (.wrap u .transpose (.leaf uo c p)) x) = x := by
  intro x hx
  have key := leaf_pair_aux p.outS p.inS (fun lo li => indexLeafOK p.idx True li lo)
    (scatterLeaf p.idx) (gatherLeaf p.idx) hp.flip
    (fun lo li h c hc => gatherLeaf_scatterLeaf p.idx li lo h c hc) x hx
  rcases hc with rfl | rfl <;> exact key

/-- **`PackUnpackRule`** (`RuleLaws.pack_pair`) -/
theorem pack_pair (E : Env) (u uo : Nat) (p : Params) (hp : packOK p) :
    ∀ x : V, x.length = p.outS.size →
      den E (.leaf uo .pack p) (den E (.wrap u .transpose (.leaf uo .pack p)) x) = x :=
  gather_scatter_den E u uo .pack p (Or.inr rfl) hp.2

/-- **`IndexTransposeRule`** (`RuleLaws.index_pair`) -/
theorem index_pair (E : Env) (u uo : Nat) (p : Params) (hp : indexOK p) (hflag : p.flag = true) :
    ∀ x : V, x.length = p.outS.size →
      den E (.leaf uo .index p) (den E (.wrap u .transpose (.leaf uo .index p)) x) = x := by
  refine gather_scatter_den E u uo .index p (Or.inl rfl) ?_
  refine hp.2.imp ?_
  rintro li lo ⟨pos, h1, h2, h3, h4⟩
  exact ⟨pos, h1, h2, fun _ => h3 hflag, h4⟩

abbrev fullSlice : IdxEntry := .slice none none none

theorem isFullSlice_iff (e : IdxEntry) : e.isFullSlice = true ↔ e = fullSlice := by
  cases e with
  | slice a b c => cases a <;> cases b <;> cases c <;> simp [IdxEntry.isFullSlice, fullSlice]
  | _ => simp [IdxEntry.isFullSlice, fullSlice]

theorem plainFull_of_noaxes (idx : List IdxEntry) (h : (indexedAxes idx).length = 0) :
    ∀ e ∈ idx, plainFull e := by
  unfold indexedAxes at h
  simp only [List.length_append, List.length_map, Nat.add_eq_zero_iff, List.length_eq_zero_iff,
    List.filter_eq_nil_iff, List.mem_range] at h
  obtain ⟨hb, ha⟩ := h
  intro e he
  obtain ⟨a, hal, rfl⟩ := List.getElem_of_mem he
  rcases Nat.lt_trichotomy a (idx.idxOf .ellipsis) with hlt | heq | hgt
  · have := hb a (by omega)
    rw [List.getD_eq_getElem _ _ hal] at this
    exact Or.inl ((isFullSlice_iff _).mp (by simpa using this))
  · subst heq
    exact Or.inr (List.getElem_idxOf _)
  · have := ha a hal
    rw [List.getD_eq_getElem _ _ hal] at this
    exact Or.inl ((isFullSlice_iff _).mp (by simpa [hgt] using this))

/-- NumPy indexing succeeds only with at most one ellipsis and no more entries than dimensions -/
theorem indexPositions_ok_facts {shape : List Nat} {idx : List IdxEntry} {r : List Nat × List Nat}
    (h : Index.indexPositions shape idx = .ok r) :
    idx.count .ellipsis ≤ 1 ∧ (idx.map Index.consumed).sum ≤ shape.length := by
  rw [indexPositions_eq', indexPositions'] at h
  obtain ⟨sels, hs, -⟩ := except_bind_eq_ok h
  unfold Index.toSels at hs
  simp only at hs
  by_cases h1 : (idx.filter (· == IdxEntry.ellipsis)).length > 1
  · rw [if_pos h1] at hs; cases hs
  · by_cases h2 : (idx.map Index.consumed).sum > shape.length
    · rw [if_neg h1, if_pos h2] at hs; cases hs
    · exact ⟨by rw [List.count_eq_countP, List.countP_eq_length_filter]; omega, by omega⟩

theorem toSels_plain (shape : List Nat) (idx : List IdxEntry) (hp : ∀ e ∈ idx, plainFull e)
    (hc : idx.count .ellipsis ≤ 1) (hu : (idx.map Index.consumed).sum ≤ shape.length) :
    Index.toSels shape idx = .ok (shape.map fullSel) := by
  -- `toSels.go` on plain entries with exactly one ellipsis, written or implied
  have key : ∀ es : List IdxEntry, (∀ e ∈ es, plainFull e) → es.count .ellipsis = 1 →
      (es.map Index.consumed).sum = (idx.map Index.consumed).sum →
      Index.toSels.go shape (shape.length - (idx.map Index.consumed).sum) es 0 [] =
        .ok (shape.map fullSel) := by
    intro es hes h1 hsum
    rw [go_spec _ _ _ _ _ (fun e he => fragEntry_of_plainFull (hes e he)), expand_plain _ _ _ _ hes,
      widthOf_eq _ _ hes, h1, hsum, Nat.mul_one, Nat.add_sub_of_le hu,
      map_getD_range_slice shape 0 _ (Nat.le_of_eq (Nat.zero_add _)), List.drop_zero, List.take_length]
    rfl
  rw [toSels_eq_go shape idx hc hu]
  by_cases h0 : idx.count .ellipsis = 0
  · rw [if_pos h0]
    refine key _ (fun e he => ?_) (by rw [List.count_append, h0]; rfl) (by simp [Index.consumed])
    rcases List.mem_append.mp he with h | h
    · exact hp e h
    · exact Or.inr (List.mem_singleton.mp h)
  · rw [if_neg h0]
    exact key idx hp (by omega) rfl

open Index Axes in
/-- when every dimension is selected in full, the result has the shape of the input and position `k` reads
position `k` -/
theorem indexPositions_of_sels (shape : List Nat) (idx : List IdxEntry)
    (hs : toSels shape idx = .ok (shape.map fullSel)) :
    indexPositions shape idx = .ok (shape, List.range (prodNat shape)) := by
  have hget : ∀ k, k < shape.length → (shape.map fullSel).getD k (.int 0) = fullSel (shape.getD k 0) :=
    fun k hk => getD_map_lt fullSel shape 0 _ hk
  have hArr : hasArrOf (shape.map fullSel) = false := by
    rw [hasArrOf, List.any_map]
    exact List.any_eq_false.mpr fun _ _ => Bool.false_ne_true
  have hAdv : advShapesOf (shape.map fullSel) false = [] :=
    filterMap_eq_nil_of _ _ fun s hs => by
      obtain ⟨d, -, rfl⟩ := List.mem_map.mp hs
      rfl
  have hSD : sliceDescsOf (shape.map fullSel) = (List.range shape.length).map fun k => (k, shape.getD k 0) := by
    rw [sliceDescsOf, List.length_map]
    refine filterMap_eq_map_of _ _ _ fun k hk => ?_
    rw [hget k (List.mem_range.mp hk), fullSel]
    simp only [List.length_range]
  -- the output dimensions are the input dimensions, in order
  have hdescs : ∀ adj first, descsOf false adj first (sliceDescsOf (shape.map fullSel)) [] =
      (List.range shape.length).map fun k => (some k, shape.getD k 0) := by
    intro adj first
    rw [descsOf, if_pos (by rfl : (!false) = true), hSD, List.map_map]
    rfl
  have hshape : ((List.range shape.length).map fun k => (some k, shape.getD k 0)).map (·.2) = shape := by
    rw [List.map_map]
    exact ma_map_getD_range shape
  rw [indexPositions_eq', indexPositions', hs]
  simp only [bind, Except.bind, hArr, hAdv, bshapeOf, List.foldlM_nil, pure, Except.pure, hdescs, hshape]
  rw [except_mapM_ok _ (fun k => k), List.map_id']
  intro k hk
  obtain ⟨v1, v2⟩ := ma_unravel_valid shape k (List.mem_range.mp hk)
  have hlt := ((forall2_lt_iff _ _).mp v1).2
  -- each selector reads the index of its own output dimension
  have hin : ∀ b, inIdxOf (shape.map fullSel) shape ((List.range shape.length).map fun k => (some k, shape.getD k 0))
      (unravel shape k) b = .ok (unravel shape k) := by
    intro b
    rw [inIdxOf, except_mapM_ok _ (fun e => (unravel shape k).getD e 0)]
    · rw [List.length_map, ← ma_unravel_length shape k, ma_map_getD_range]
    · intro e he
      have he' : e < shape.length := by rw [← List.length_map (as := shape) fullSel]; exact List.mem_range.mp he
      rw [hget e he', fullSel]
      simp only []
      rw [List.length_map, List.length_range, find?_range_first _ e _ he']
      · rw [Option.getD_some, range_getD_self _ _ (hlt e he')]
      · rw [ma_getD_map_range _ _ _ he']; exact beq_self_eq_true _
      · intro i hi
        rw [ma_getD_map_range _ _ _ (by omega)]
        exact beq_false_of_ne (by simp; omega)
  rw [hin]
  exact congrArg Except.ok v2

theorem forall₂_eq_of {α : Type} (R : α → α → Prop) (a b : List α) (h : List.Forall₂ R a b)
    (hR : ∀ x y, R x y → y = x) : b = a := by
  induction h with
  | nil => rfl
  | cons hr _ ih => rw [hR _ _ hr, ih]

/-- **`IndexOperator.reduce`** (`ContainerLaws.index_noaxes`) -/
theorem index_noaxes (E : Env) (u : Nat) (p : Params) (hp : indexOK p)
    (h : (indexedAxes p.idx).length = 0) :
    p.outS = p.inS ∧ ∀ x : V, x.length = p.inS.size → den E (.leaf u .index p) x = x := by
  have hleaf : ∀ li lo, indexLeafOK p.idx (p.flag = true) li lo →
      lo = li ∧ Index.indexPositions li.shape p.idx = .ok (li.shape, List.range li.size) := by
    rintro li lo ⟨pos, hpos, _, _, hdt⟩
    obtain ⟨hc, hu⟩ := indexPositions_ok_facts hpos
    have hfull := indexPositions_of_sels li.shape p.idx (toSels_plain _ _ (plainFull_of_noaxes p.idx h) hc hu)
    rw [hfull] at hpos
    exact ⟨leafS_ext (Prod.mk.inj (Except.ok.inj hpos)).1.symm hdt, hfull⟩
  have hstruct : p.outS = p.inS :=
    struct_ext hp.1 (forall₂_eq_of _ _ _ hp.2 fun x y hxy => (hleaf x y hxy).1)
  refine ⟨hstruct, fun x hx => ?_⟩
  rw [den, leafDen_of_len hx]
  show fit p.outS.size (perLeaf (gatherLeaf p.idx) p.inS.leaves p.outS.leaves x) = x
  rw [perLeaf_id _ _ _ _ hp.2 ?_ x hx, fit_eq_self (by rw [hx, hstruct])]
  intro li lo hlo c hc
  obtain ⟨rfl, hpos⟩ := hleaf li lo hlo
  unfold gatherLeaf
  simp only [hpos]
  rw [show Index.gather (List.range lo.size) c = c from (Index.eq_range_map_getD _ c hc).symm, fit_eq_self hc]

/-! ### the predicates are satisfiable -/

example : moveAxisOK {
    inS := ⟨[.leaf], [⟨[2, 3], .f64⟩]⟩, outS := ⟨[.leaf], [⟨[3, 2], .f64⟩]⟩,
    ints := [[0], [1]] } :=
  ⟨rfl, .cons ⟨[1, 0], by decide, rfl, rfl⟩ .nil⟩

example : reshapeOK { inS := ⟨[.leaf], [⟨[2, 3], .f64⟩]⟩, outS := ⟨[.leaf], [⟨[6], .f64⟩]⟩ } :=
  ⟨rfl, .cons rfl .nil⟩

example : indexOK {
    inS := ⟨[.leaf], [⟨[3], .f64⟩]⟩, outS := ⟨[.leaf], [⟨[2], .f64⟩]⟩,
    idx := [.iarr [2] [0, 2]], flag := true } :=
  ⟨rfl, .cons ⟨[0, 2], by decide, by decide, fun _ => by decide, rfl⟩ .nil⟩

/-- repeated positions are allowed when `unique_indices` is not promised -/
example : indexOK {
    inS := ⟨[.leaf], [⟨[3], .f64⟩]⟩, outS := ⟨[.leaf], [⟨[2], .f64⟩]⟩,
    idx := [.iarr [2] [1, 1]], flag := false } :=
  ⟨rfl, .cons ⟨[1, 1], by decide, by decide, fun h => by simp at h, rfl⟩ .nil⟩

example : packOK {
    inS := ⟨[.leaf], [⟨[3], .f64⟩]⟩, outS := ⟨[.leaf], [⟨[2], .f64⟩]⟩,
    idx := [.barr [3] [true, false, true]] } :=
  ⟨rfl, .cons ⟨[0, 2], by decide, by decide, fun _ => by decide, rfl⟩ .nil⟩

/-- validity of the parameters of the leaf classes treated here (the other classes are not constrained) -/
def leafOK : LeafCls → Params → Prop
  | .moveAxis, p => moveAxisOK p
  | .ravel, p => reshapeOK p
  | .reshape, p => reshapeOK p
  | .index, p => indexOK p
  | .pack, p => packOK p
  | _, _ => True

theorem law_moveaxis_pair (E : Env) : ∀ ul pl ur pr, leafOK .moveAxis pl → leafOK .moveAxis pr →
    pl.ints.getD 0 [] = pr.ints.getD 1 [] → pl.ints.getD 1 [] = pr.ints.getD 0 [] → pl.inS = pr.outS →
    pl.outS = pr.inS ∧
    ∀ x, mem pr.inS x → den E (.leaf ul .moveAxis pl) (den E (.leaf ur .moveAxis pr) x) = x :=
  moveaxis_pair E

theorem law_reshape_pair (E : Env) : ∀ u uo c p, (c = .ravel ∨ c = .reshape) → leafOK c p →
    (∀ x, mem p.inS x → den E (.wrap u .reshapeT (.leaf uo c p)) (den E (.leaf uo c p) x) = x) ∧
    (∀ x, mem p.outS x → den E (.leaf uo c p) (den E (.wrap u .reshapeT (.leaf uo c p)) x) = x) := by
  intro u uo c p hc hp
  refine reshape_pair E u uo c p hc ?_
  rcases hc with rfl | rfl <;> exact hp

theorem law_pack_pair (E : Env) : ∀ u uo p, leafOK .pack p → ∀ x, mem p.outS x →
    den E (.leaf uo .pack p) (den E (.wrap u .transpose (.leaf uo .pack p)) x) = x :=
  pack_pair E

theorem law_index_pair (E : Env) : ∀ u uo p, leafOK .index p → p.flag = true → ∀ x, mem p.outS x →
    den E (.leaf uo .index p) (den E (.wrap u .transpose (.leaf uo .index p)) x) = x :=
  index_pair E

theorem law_index_noaxes (E : Env) : ∀ u p, leafOK .index p → (indexedAxes p.idx).length = 0 →
    p.outS = p.inS ∧ ∀ x, mem p.inS x → den E (.leaf u .index p) x = x :=
  index_noaxes E

theorem law_reshape_id (E : Env) : ∀ u c p, (c = .ravel ∨ c = .reshape) → leafOK c p → p.outS = p.inS →
    ∀ x, mem p.inS x → den E (.leaf u c p) x = x :=
  fun u c p hc _ hio => reshape_id E u c p hc hio

end ListSem
end Furax
