/-
Application is linear, and the dense matrix is faithful, in the list denotation (property C04).  Every leaf, of
every class and with whatever parameters, is additive (its kernel is linear, `leafKer_lin` in
FuraxProofs/Sem/LeafHom.lean, or is the map of the environment, `EnvAdd`), hence every operator is, on all inputs and
with NO structural hypothesis (`den_vadd`: `den_mem` with the class of additive maps, FuraxProofs/Sem/AddList.lean).
The bridge to Mathlib: an operator as a `LinearMap` between `Fin n → ℝ` and `Fin m → ℝ` (`toLinearMapN`), its
dense matrix (`asMatrix`), and the statements of FuraxProofs/Props/C04.lean instantiated at them.
-/
import FuraxProofs.Sem.AdjointList
import FuraxProofs.Props.C04
namespace Furax
namespace ListSem
open Op

/-- the maps of the environment are additive on vectors of equal length (the uninterpreted leaves — dense einsum
blocks with one block array per leaf, observation matrices, opaque operators, Toeplitz operators with a rank-0 band
array — are linear maps; they are homogeneous by `Env.hom`).  On the input side `vadd x y` is `zipWith (· + ·) x y`
(equal lengths, `vadd_eq_zipWith`); on the output side `vadd` is used because nothing is assumed of the lengths
`E.f u` returns (when `E.f u x` and `E.f u y` have the same length — e.g. for an environment of matrices,
`matEnv_add` — it is `zipWith (· + ·)` again). -/
structure EnvAdd (E : Env) : Prop where
  add : ∀ u (x y : V), x.length = y.length → E.f u (vadd x y) = vadd (E.f u x) (E.f u y)
  addT : ∀ u (x y : V), x.length = y.length → E.fT u (vadd x y) = vadd (E.fT u x) (E.fT u y)

/-- the `zipWith` form, for environments whose maps return vectors of a length that depends on the length of the
input only -/
theorem EnvAdd.of_zipWith (E : Env)
    (hl : ∀ u (x y : V), x.length = y.length → (E.f u x).length = (E.f u y).length)
    (hlT : ∀ u (x y : V), x.length = y.length → (E.fT u x).length = (E.fT u y).length)
    (h : ∀ u (x y : V), x.length = y.length →
      E.f u (List.zipWith (· + ·) x y) = List.zipWith (· + ·) (E.f u x) (E.f u y))
    (hT : ∀ u (x y : V), x.length = y.length →
      E.fT u (List.zipWith (· + ·) x y) = List.zipWith (· + ·) (E.fT u x) (E.fT u y)) : EnvAdd E :=
  ⟨fun u x y hxy => by rw [vadd_eq_zipWith x y hxy, h u x y hxy, vadd_eq_zipWith _ _ (hl u x y hxy)],
   fun u x y hxy => by rw [vadd_eq_zipWith x y hxy, hT u x y hxy, vadd_eq_zipWith _ _ (hlT u x y hxy)]⟩

theorem idEnv_add : EnvAdd idEnv := ⟨fun _ _ _ _ => rfl, fun _ _ _ _ => rfl⟩

/-- a kernel that is additive on inputs of equal length, between two normalisations, is additive on all inputs -/
theorem Add.fit_fit {K : V → V} (hK : ∀ x y : V, x.length = y.length → K (vadd x y) = vadd (K x) (K y))
    (m n : Nat) : Add fun x => fit m (K (fit n x)) := fun x y => by
  show fit m (K (fit n (vadd x y))) = vadd (fit m (K (fit n x))) (fit m (K (fit n y)))
  rw [fit_vadd, hK _ _ ((fit_length _ x).trans (fit_length _ y).symm), fit_vadd]

/-- leaf additivity (every leaf class, every parameter, every pair of inputs — no validity hypothesis): the
kernel only sees the two inputs normalised to the same length -/
theorem leafDen_vadd (E : Env) (hE : EnvAdd E) (u : Nat) (c : LeafCls) (p : Params) :
    Add (leafDen E u c p) ∧ Add (leafDenT E u c p) :=
  ⟨Add.fit_fit ((leafKer_lin E u c p).1.elim (fun h x y _ => h.2 x y) fun h => h ▸ hE.add u) _ _,
   Add.fit_fit ((leafKer_lin E u c p).2.elim (fun h x y _ => h.2 x y) fun h => h ▸ hE.addT u) _ _⟩

/-- an additive map whose results all have one length is additive for the entrywise sum of vectors of equal length -/
theorem Add.zipWith {f : V → V} (hf : Add f) {n : Nat} (hl : ∀ x, (f x).length = n) (x y : V)
    (hxy : x.length = y.length) : f (List.zipWith (· + ·) x y) = List.zipWith (· + ·) (f x) (f y) := by
  rw [← vadd_eq_zipWith x y hxy, hf x y, vadd_eq_zipWith _ _ ((hl x).trans (hl y).symm)]

theorem leafDen_additive (E : Env) (hE : EnvAdd E) (u : Nat) (c : LeafCls) (p : Params) (x y : V)
    (hx : x.length = p.inS.size) (hy : y.length = p.inS.size) :
    leafDen E u c p (List.zipWith (· + ·) x y) =
      List.zipWith (· + ·) (leafDen E u c p x) (leafDen E u c p y) :=
  (leafDen_vadd E hE u c p).1.zipWith (leafDen_length E u c p) x y (hx.trans hy.symm)

theorem leafDenT_additive (E : Env) (hE : EnvAdd E) (u : Nat) (c : LeafCls) (p : Params) (x y : V)
    (hx : x.length = (Op.outS (.leaf u c p)).size) (hy : y.length = (Op.outS (.leaf u c p)).size) :
    leafDenT E u c p (List.zipWith (· + ·) x y) =
      List.zipWith (· + ·) (leafDenT E u c p x) (leafDenT E u c p y) :=
  (leafDen_vadd E hE u c p).2.zipWith (leafDenT_length E u c p) x y (hx.trans hy.symm)

def AddAt (E : Env) (o : Op) : Prop := Add (den E o) ∧ Add (denT E o)

theorem addAt (E : Env) (hE : EnvAdd E) (o : Op) : AddAt E o :=
  den_mem addClass E (leafDen_vadd E hE) o

theorem addAtList (E : Env) (hE : EnvAdd E) : ∀ ops : List Op, ∀ o ∈ ops, AddAt E o :=
  fun _ o _ => addAt E hE o

/-- every operator is additive, on ALL inputs (`vadd` pads the shorter vector with zeros): leaves, the transpose
wrappers, lazy inverses, compositions and sums of any length, block rows / diagonals / columns.  NO structural
hypothesis is needed (every node of the denotation normalises the lengths). -/
theorem den_vadd (E : Env) (hE : EnvAdd E) (o : Op) (x y : V) :
    den E o (vadd x y) = vadd (den E o x) (den E o y) := (addAt E hE o).1 x y

theorem denT_vadd (E : Env) (hE : EnvAdd E) (o : Op) (x y : V) :
    denT E o (vadd x y) = vadd (denT E o x) (denT E o y) := (addAt E hE o).2 x y

theorem den_additive' (E : Env) (hE : EnvAdd E) (o : Op) (ho : StructOK o) (x y : V) (hxy : x.length = y.length) :
    den E o (List.zipWith (· + ·) x y) = List.zipWith (· + ·) (den E o x) (den E o y) :=
  Add.zipWith (den_vadd E hE o) (den_length E o ho) x y hxy

/-- application is additive (`StructOK o` is only used to know that the two results
have the same length, so that their `vadd` is the entrywise sum) -/
theorem den_additive (E : Env) (hE : EnvAdd E) : ∀ o, StructOK o → ∀ x y : V, x.length = inSize o →
    y.length = inSize o →
    den E o (List.zipWith (· + ·) x y) = List.zipWith (· + ·) (den E o x) (den E o y) :=
  fun o ho x y hx hy => den_additive' E hE o ho x y (hx.trans hy.symm)

theorem denT_additive (E : Env) (hE : EnvAdd E) : ∀ o, StructOK o → ∀ x y : V, x.length = outSize o →
    y.length = outSize o →
    denT E o (List.zipWith (· + ·) x y) = List.zipWith (· + ·) (denT E o x) (denT E o y) :=
  fun o ho x y hx hy => Add.zipWith (denT_vadd E hE o) (denT_length E o ho) x y (hx.trans hy.symm)

section Bridge
open Matrix

theorem toFn_vadd (n : Nat) (x y : V) : toFn n (vadd x y) = toFn n x + toFn n y := by
  funext i
  simp only [toFn, Pi.add_apply, getD_vadd]

theorem ofFn_add (n : Nat) (v w : Fin n → ℝ) : List.ofFn (v + w) = vadd (List.ofFn v) (List.ofFn w) := by
  have hl : (vadd (List.ofFn v) (List.ofFn w)).length = n := by rw [vadd_length]; simp
  rw [← ofFn_toFn n _ hl, toFn_vadd, toFn_ofFn, toFn_ofFn]

theorem ofFn_smul (n : Nat) (a : ℝ) (v : Fin n → ℝ) : List.ofFn (a • v) = (List.ofFn v).map fun t => a * t := by
  rw [List.map_ofFn]
  rfl

theorem ofFn_single (n : Nat) (j : Fin n) : List.ofFn (Pi.single j (1 : ℝ)) = unitVec n j := by
  apply List.ext_getElem
  · simp [unitVec]
  · intro i h1 h2
    simp [unitVec, Pi.single_apply, Fin.ext_iff]

/-- the linear map of an operator, between ANY two dimensions: the flattened input `v : Fin n → ℝ` is listed,
the operator applied, and the first `m` coordinates of the result read.  Additivity is `den_vadd`, homogeneity is
`homLaw` with `leafHom` (a theorem).  With `n = inSize o`, `m = outSize o` and `StructOK o` nothing is lost
(`den_ofFn`). -/
noncomputable def toLinearMapN (E : Env) (hE : EnvAdd E) (o : Op) (n m : Nat) :
    (Fin n → ℝ) →ₗ[ℝ] (Fin m → ℝ) where
  toFun v := toFn m (den E o (List.ofFn v))
  map_add' v w := by rw [ofFn_add, den_vadd E hE, toFn_vadd]
  map_smul' a v := by
    rw [ofFn_smul, (homLaw E (leafHom E)).1 o a, toFn_smul]
    rfl

/-- the same for the transpose -/
noncomputable def toLinearMapTN (E : Env) (hE : EnvAdd E) (o : Op) (m n : Nat) :
    (Fin m → ℝ) →ₗ[ℝ] (Fin n → ℝ) where
  toFun w := toFn n (denT E o (List.ofFn w))
  map_add' v w := by rw [ofFn_add, denT_vadd E hE, toFn_vadd]
  map_smul' a v := by
    rw [ofFn_smul, (homLaw E (leafHom E)).2 o a, toFn_smul]
    rfl

/-- **the linear map `(Fin (inSize o) → ℝ) →ₗ[ℝ] (Fin (outSize o) → ℝ)` of an operator** -/
noncomputable def toLinearMap (E : Env) (hE : EnvAdd E) (o : Op) :
    (Fin (inSize o) → ℝ) →ₗ[ℝ] (Fin (outSize o) → ℝ) := toLinearMapN E hE o (inSize o) (outSize o)

@[simp] theorem toLinearMapN_apply (E : Env) (hE : EnvAdd E) (o : Op) (n m : Nat) (v : Fin n → ℝ) :
    toLinearMapN E hE o n m v = toFn m (den E o (List.ofFn v)) := rfl

@[simp] theorem toLinearMapTN_apply (E : Env) (hE : EnvAdd E) (o : Op) (m n : Nat) (w : Fin m → ℝ) :
    toLinearMapTN E hE o m n w = toFn n (denT E o (List.ofFn w)) := rfl

/-- the linear map computes the operator: `den E o` on the listed coordinates is the list of the coordinates of
the image -/
theorem den_ofFn (E : Env) (hE : EnvAdd E) (o : Op) (ho : StructOK o) (n m : Nat) (hm : outSize o = m)
    (v : Fin n → ℝ) : den E o (List.ofFn v) = List.ofFn (toLinearMapN E hE o n m v) :=
  (ofFn_toFn m _ (by rw [den_length E o ho, hm])).symm

theorem den_ofFn' (E : Env) (hE : EnvAdd E) (o : Op) (ho : StructOK o) (v : Fin (inSize o) → ℝ) :
    den E o (List.ofFn v) = List.ofFn (toLinearMap E hE o v) := den_ofFn E hE o ho _ _ rfl v

theorem denT_ofFn (E : Env) (hE : EnvAdd E) (o : Op) (ho : StructOK o) (m n : Nat) (hn : inSize o = n)
    (w : Fin m → ℝ) : denT E o (List.ofFn w) = List.ofFn (toLinearMapTN E hE o m n w) :=
  (ofFn_toFn n _ (by rw [denT_length E o ho, hn])).symm

/-- **`as_matrix()`**: the dense matrix of an operator — Mathlib's `toMatrix'` of its linear map, i.e. (`asMatrix_apply`)
the matrix whose `j`-th column is the operator applied to the `j`-th basis vector of the flattened input.  The
arguments are the input size `n` then the output size `m` (the order of `toLinearMapN`); the matrix is `m × n` -/
noncomputable def asMatrix (E : Env) (hE : EnvAdd E) (o : Op) (n m : Nat) : Matrix (Fin m) (Fin n) ℝ :=
  LinearMap.toMatrix' (toLinearMapN E hE o n m)

/-- the dense matrix of the transpose -/
noncomputable def asMatrixT (E : Env) (hE : EnvAdd E) (o : Op) (m n : Nat) : Matrix (Fin n) (Fin m) ℝ :=
  LinearMap.toMatrix' (toLinearMapTN E hE o m n)

/-- **the generic recipe of `as_matrix()`**: entry `(i, j)` is component `i` of the operator applied to the `j`-th
basis vector -/
theorem asMatrix_apply (E : Env) (hE : EnvAdd E) (o : Op) (n m : Nat) (i : Fin m) (j : Fin n) :
    asMatrix E hE o n m i j = (den E o (unitVec n j)).getD i 0 := by
  rw [asMatrix, C04.generic_as_matrix_columns, toLinearMapN_apply, ofFn_single]
  rfl

/-- **C04: `op(x) = as_matrix() · flatten(x)` for every `x`** -/
theorem den_eq_asMatrix_mulVec (E : Env) (hE : EnvAdd E) (o : Op) (ho : StructOK o) (n m : Nat)
    (hm : outSize o = m) (v : Fin n → ℝ) :
    den E o (List.ofFn v) = List.ofFn (asMatrix E hE o n m *ᵥ v) := by
  rw [asMatrix, C04.mv_eq_as_matrix_mulVec]
  exact den_ofFn E hE o ho n m hm v

theorem den_eq_asMatrix_mulVec' (E : Env) (hE : EnvAdd E) (o : Op) (ho : StructOK o) (v : Fin (inSize o) → ℝ) :
    den E o (List.ofFn v) = List.ofFn (asMatrix E hE o (inSize o) (outSize o) *ᵥ v) :=
  den_eq_asMatrix_mulVec E hE o ho _ _ rfl v

theorem den_eq_asMatrix_mulVec_list (E : Env) (hE : EnvAdd E) (o : Op) (ho : StructOK o) (n m : Nat)
    (hm : outSize o = m) (x : V) (hx : x.length = n) :
    den E o x = List.ofFn (asMatrix E hE o n m *ᵥ toFn n x) := by
  rw [← den_eq_asMatrix_mulVec E hE o ho n m hm, ofFn_toFn n x hx]

/-- **C04: faithfulness** — two operators with the same dense matrix compute the same vectors -/
theorem asMatrix_faithful (E : Env) (hE : EnvAdd E) (o o' : Op) (ho : StructOK o) (ho' : StructOK o') (n m : Nat)
    (hm : outSize o = m) (hm' : outSize o' = m) (h : asMatrix E hE o n m = asMatrix E hE o' n m) :
    ∀ x : V, x.length = n → den E o x = den E o' x := by
  intro x hx
  have hl : toLinearMapN E hE o n m = toLinearMapN E hE o' n m := C04.as_matrix_faithful _ _ h
  rw [← ofFn_toFn n x hx, den_ofFn E hE o ho n m hm, den_ofFn E hE o' ho' n m hm', hl]

/-- conversely the linear map, hence the dense matrix, only depends on the vectors the operator computes -/
theorem toLinearMapN_congr (E : Env) (hE : EnvAdd E) (o o' : Op) (n m : Nat)
    (h : ∀ x : V, x.length = n → den E o x = den E o' x) : toLinearMapN E hE o n m = toLinearMapN E hE o' n m := by
  apply LinearMap.ext
  intro v
  rw [toLinearMapN_apply, toLinearMapN_apply, h _ (List.length_ofFn)]

/-- an expression `o` that denotes `a ∘ b` has the product of their matrices -/
theorem asMatrix_of_comp (E : Env) (hE : EnvAdd E) (o a b : Op) (hb : StructOK b) (n m k : Nat)
    (hm : outSize b = m) (h : ∀ x, den E o x = den E a (den E b x)) :
    asMatrix E hE o n k = asMatrix E hE a m k * asMatrix E hE b n m := by
  have : toLinearMapN E hE o n k = toLinearMapN E hE a m k ∘ₗ toLinearMapN E hE b n m :=
    LinearMap.ext fun v => by
      rw [LinearMap.comp_apply, toLinearMapN_apply, toLinearMapN_apply, toLinearMapN_apply,
        ofFn_toFn m _ (by rw [den_length E b hb, hm]), h]
  rw [asMatrix, this, C04.composition_matrix]
  rfl

/-- **C04: the matrix of a composition is the product of the matrices** -/
theorem asMatrix_comp (E : Env) (hE : EnvAdd E) (u : Nat) (a b : Op) (hb : StructOK b) (n m k : Nat)
    (hm : outSize b = m) :
    asMatrix E hE (.comp u [a, b]) n k = asMatrix E hE a m k * asMatrix E hE b n m :=
  asMatrix_of_comp E hE _ a b hb n m k hm fun _ => rfl

/-- chains of any length: peel the head -/
theorem asMatrix_comp_cons (E : Env) (hE : EnvAdd E) (u u' : Nat) (a : Op) (os : List Op)
    (hos : StructOK (.comp u' os)) (n m k : Nat) (hm : outSize (.comp u' os) = m) :
    asMatrix E hE (.comp u (a :: os)) n k = asMatrix E hE a m k * asMatrix E hE (.comp u' os) n m :=
  asMatrix_of_comp E hE _ a _ hos n m k hm fun _ => rfl

theorem asMatrix_comp_singleton (E : Env) (hE : EnvAdd E) (u : Nat) (a : Op) (n m : Nat) :
    asMatrix E hE (.comp u [a]) n m = asMatrix E hE a n m :=
  congrArg LinearMap.toMatrix' (toLinearMapN_congr E hE _ _ n m fun _ _ => rfl)

/-- **C04: the matrix of a sum is the sum of the matrices** (entry by entry, `asMatrix_apply`) -/
theorem asMatrix_add (E : Env) (hE : EnvAdd E) (u : Nat) (td : TreeDef) (ops : List Op) (n m : Nat) :
    asMatrix E hE (.cont u .add td ops) n m = (ops.map fun o => asMatrix E hE o n m).sum := by
  induction ops with
  | nil =>
    ext i j
    rw [asMatrix_apply, den_cont_add]
    rfl
  | cons a os ih =>
    rw [List.map_cons, List.sum_cons, ← ih]
    ext i j
    rw [Matrix.add_apply, asMatrix_apply, asMatrix_apply, asMatrix_apply, den_cont_add, den_cont_add, sumApp,
      getD_vadd]

theorem asMatrix_add_pair (E : Env) (hE : EnvAdd E) (u : Nat) (td : TreeDef) (a b : Op) (n m : Nat) :
    asMatrix E hE (.cont u .add td [a, b]) n m = asMatrix E hE a n m + asMatrix E hE b n m := by
  rw [asMatrix_add]
  simp

/-- identity: `jnp.identity(in_size)` -/
theorem asMatrix_identity (E : Env) (hE : EnvAdd E) (o : Op) (h : o.isIdentity = true) (n : Nat)
    (hn : inSize o = n) : asMatrix E hE o n n = 1 := by
  have : toLinearMapN E hE o n n = LinearMap.id := by
    apply LinearMap.ext
    intro v
    rw [toLinearMapN_apply, Laws.identity_law E o h _ (List.length_ofFn.trans hn.symm), toFn_ofFn]
    rfl
  rw [asMatrix, this]
  exact C04.identity_override

/-- scalar operator: `value * identity` -/
theorem asMatrix_homothety (E : Env) (hE : EnvAdd E) (o : Op) (h : o.isHomothety = true) (n : Nat)
    (hn : inSize o = n) : asMatrix E hE o n n = ((homValue o : Rat) : ℝ) • (1 : Matrix (Fin n) (Fin n) ℝ) := by
  have : toLinearMapN E hE o n n = ((homValue o : Rat) : ℝ) • LinearMap.id := by
    apply LinearMap.ext
    intro v
    rw [toLinearMapN_apply, Laws.homothety_law E o h _ (List.length_ofFn.trans hn.symm), vsmul_eq_map, toFn_smul,
      toFn_ofFn]
    rfl
  rw [asMatrix, this]
  exact C04.homothety_override _

theorem asMatrix_of_adjoint (E : Env) (hE : EnvAdd E) (o t : Op) (n m : Nat)
    (h : ∀ (v : Fin n → ℝ) (w : Fin m → ℝ),
      dot (den E o (List.ofFn v)) (List.ofFn w) = dot (List.ofFn v) (den E t (List.ofFn w))) :
    asMatrix E hE t m n = (asMatrix E hE o n m)ᵀ := by
  ext j i
  rw [Matrix.transpose_apply, asMatrix, asMatrix, C04.generic_as_matrix_columns, C04.generic_as_matrix_columns,
    toLinearMapN_apply, toLinearMapN_apply]
  have := h (Pi.single j 1) (Pi.single i 1)
  rw [dot_ofFn_left, dot_comm, dot_ofFn_left, single_one_dotProduct, single_one_dotProduct] at this
  exact this.symm

/-- the matrix of `denT` is the matrix of `TransposeOperator(o)`, which denotes `denT E o` -/
theorem asMatrixT_eq (E : Env) (hE : EnvAdd E) (u : Nat) (o : Op) (m n : Nat) :
    asMatrixT E hE o m n = asMatrix E hE (.wrap u .transpose o) m n :=
  congrArg LinearMap.toMatrix' (LinearMap.ext fun _ => rfl)

/-- **the dense matrix of `TransposeOperator(o)` is the transpose of the dense matrix of `o`** (C03 ∧ C04), for
every valid expression (all constructors), under the adjointness assumption on the uninterpreted leaves of `o` -/
theorem asMatrix_transpose (E : Env) (hE : EnvAdd E) (u : Nat) (o : Op) (hA : EnvAdjOn E o) (hv : Valid o) :
    asMatrix E hE (.wrap u .transpose o) (outSize o) (inSize o) = (asMatrix E hE o (inSize o) (outSize o))ᵀ :=
  asMatrix_of_adjoint E hE o _ _ _ fun v w => den_adjoint_on E o hA hv _ _ (by simp) (by simp)

theorem asMatrixT_transpose (E : Env) (hE : EnvAdd E) (o : Op) (hA : EnvAdjOn E o) (hv : Valid o) :
    asMatrixT E hE o (outSize o) (inSize o) = (asMatrix E hE o (inSize o) (outSize o))ᵀ := by
  rw [asMatrixT_eq E hE 0, asMatrix_transpose E hE 0 o hA hv]

/-- the same for the FORM `op.T` that the model computes (`transposeOp`) -/
theorem asMatrix_transposeOp (E : Env) (hE : EnvAdd E) (o t : Op) (hA : EnvAdjOn E o) (hS : EnvSymOn E o)
    (hv : ValidT o) (hw : o.WFT) (h : transposeOp o = .ok t) :
    asMatrix E hE t (outSize o) (inSize o) = (asMatrix E hE o (inSize o) (outSize o))ᵀ :=
  asMatrix_of_adjoint E hE o t _ _ fun v w =>
    transpose_is_adjoint_closed_on E o t hA hS hv hw h _ _ (by simp) (by simp)

theorem toMatrix'_mul_eq_one {n m : Nat} (g : (Fin m → ℝ) →ₗ[ℝ] (Fin n → ℝ)) (f : (Fin n → ℝ) →ₗ[ℝ] (Fin m → ℝ))
    (h : ∀ v, g (f v) = v) : LinearMap.toMatrix' g * LinearMap.toMatrix' f = 1 := by
  rw [← C04.composition_matrix, LinearMap.ext (f := g ∘ₗ f) (g := LinearMap.id) h]
  exact C04.identity_override

/-- when the operand has an inverse on `ℝⁿ`, the matrix of `InverseOperator(o)` is a left inverse of the matrix of
`o` … -/
theorem asMatrix_inverse_mul (E : Env) (hE : EnvAdd E) (u : Nat) (o : Op) (ho : StructOK o)
    (hsq : Op.inS o = Op.outS o) (h : ∃ g, IsInvOn (inSize o) (den E o) g) :
    asMatrix E hE (.wrap u .inverse o) (inSize o) (inSize o) * asMatrix E hE o (inSize o) (inSize o) = 1 :=
  toMatrix'_mul_eq_one _ _ fun v => by
    rw [toLinearMapN_apply, toLinearMapN_apply,
      ofFn_toFn (inSize o) _ ((den_length E o ho _).trans (congrArg Struct.size hsq).symm),
      (invertibleK_inverse E o ho hsq h).left u (List.ofFn v) List.length_ofFn, toFn_ofFn]

/-- … when it has none, it is the zero matrix -/
theorem asMatrix_inverse_singular (E : Env) (hE : EnvAdd E) (u : Nat) (o : Op)
    (h : ¬ ∃ g, IsInvOn (inSize o) (den E o) g) (n m : Nat) :
    asMatrix E hE (.wrap u .inverse o) n m = 0 := by
  ext i j
  rw [asMatrix_apply, den_inverse, chooseInv_of_not_exists h]
  exact List.getElem?_getD_replicate_default_eq (d := (0 : ℝ)) _ i

theorem isInvOn_of_isUnit_det (E : Env) (hE : EnvAdd E) (o : Op) (ho : StructOK o) (hsq : Op.inS o = Op.outS o)
    (h : IsUnit (asMatrix E hE o (inSize o) (inSize o)).det) : ∃ g, IsInvOn (inSize o) (den E o) g :=
  ⟨_, (isInvOn_mulVecL (Matrix.mul_nonsing_inv _ h) (Matrix.nonsing_inv_mul _ h)).congr
    (den_eq_asMatrix_mulVec_list E hE o ho _ _ (congrArg Struct.size hsq).symm)⟩

/-- **C04, lazy inverses, closed: the dense matrix of `InverseOperator(o)` is the inverse `(as_matrix o)⁻¹` of the
dense matrix of `o`** — Mathlib's `⁻¹`, which is the zero matrix for a singular matrix, exactly as the lazy inverse
of a singular operand denotes the zero map.  NO invertibility hypothesis. -/
theorem asMatrix_inverse (E : Env) (hE : EnvAdd E) (u : Nat) (o : Op) (ho : StructOK o)
    (hsq : Op.inS o = Op.outS o) :
    asMatrix E hE (.wrap u .inverse o) (inSize o) (inSize o) = (asMatrix E hE o (inSize o) (inSize o))⁻¹ := by
  by_cases h : ∃ g, IsInvOn (inSize o) (den E o) g
  · exact (Matrix.inv_eq_left_inv (asMatrix_inverse_mul E hE u o ho hsq h)).symm
  · rw [asMatrix_inverse_singular E hE u o h, Matrix.nonsing_inv_apply_not_isUnit]
    exact fun hu => h (isInvOn_of_isUnit_det E hE o ho hsq hu)

theorem isInvOn_iff_isUnit_det (E : Env) (hE : EnvAdd E) (o : Op) (ho : StructOK o) (hsq : Op.inS o = Op.outS o) :
    (∃ g, IsInvOn (inSize o) (den E o) g) ↔ IsUnit (asMatrix E hE o (inSize o) (inSize o)).det :=
  ⟨fun h => Matrix.isUnit_det_of_left_inverse (asMatrix_inverse_mul E hE 0 o ho hsq h),
   isInvOn_of_isUnit_det E hE o ho hsq⟩

/-- non-vacuity of `EnvAdd`: every environment of matrices -/
theorem matEnv_add (N : Nat) (W : Nat → Matrix (Fin N) (Fin N) ℝ) : EnvAdd (matEnv N W) := by
  have key : ∀ (M : Matrix (Fin N) (Fin N) ℝ) (x y : V), mulVecL M (vadd x y) = vadd (mulVecL M x) (mulVecL M y) :=
    fun M x y => by
    unfold mulVecL
    rw [toFn_vadd, Matrix.mulVec_add, ofFn_add]
  exact ⟨fun u x y _ => key (W u) x y, fun u x y _ => key (W u)ᵀ x y⟩

end Bridge

/-! ### a concrete example: `IndexOperator([1, 1]) ∘ DiagonalOperator([2, 3, 5])` on `ℝ³` -/

namespace LinExamples
open Examples Matrix

/-- a diagonal on vectors of length 3 -/
def diagQ : Params := { inS := idxP.inS, outS := idxP.inS, vals := ⟨[3], [2, 3, 5]⟩, ints := [[0]] }

/-- `Index ∘ Diagonal`: from vectors of length 3 to vectors of length 2 (the index operator repeats an index) -/
def exL : Op := .comp 1 [.leaf 4 .index idxP, .leaf 5 .diagonal diagQ]

theorem exL_ok : StructOK exL := by
  simp only [exL, StructOK, WTExpr, WTList, Chain]
  exact ⟨by simp, ⟨trivial, trivial, trivial⟩, rfl, trivial⟩

theorem exL_sizes : inSize exL = 3 ∧ outSize exL = 2 := by decide

/-- application is additive -/
example (E : Env) (hE : EnvAdd E) (x y : V) (hx : x.length = 3) (hy : y.length = 3) :
    den E exL (List.zipWith (· + ·) x y) = List.zipWith (· + ·) (den E exL x) (den E exL y) :=
  den_additive E hE exL exL_ok x y hx hy

/-- application is the dense matrix times the flattened input -/
example (E : Env) (hE : EnvAdd E) (v : Fin 3 → ℝ) :
    den E exL (List.ofFn v) = List.ofFn (asMatrix E hE exL 3 2 *ᵥ v) :=
  den_eq_asMatrix_mulVec E hE exL exL_ok 3 2 rfl v

/-- the matrix of the composition is the product of the matrices -/
example (E : Env) (hE : EnvAdd E) :
    asMatrix E hE exL 3 2 = asMatrix E hE (.leaf 4 .index idxP) 3 2 * asMatrix E hE (.leaf 5 .diagonal diagQ) 3 3 :=
  asMatrix_comp E hE 1 _ _ (StructOK_leaf _ _ _) 3 3 2 rfl

theorem den_idx (E : Env) (a b c : ℝ) : den E (.leaf 4 .index idxP) [a, b, c] = [b, b] := by
  have h : den E (.leaf 4 .index idxP) [a, b, c] =
      fit 2 (fit 2 (gatherLeaf idxP.idx ⟨[3], .f64⟩ ⟨[2], .f64⟩ (headChunk 3 [a, b, c])) ++ []) :=
    (leafDen_of_len (E := E) (u := 4) (c := .index) (p := idxP) (x := [a, b, c]) rfl).trans
      (congrArg (fit 2) (perLeaf_cons _ _ _ [] [] _))
  rw [h]
  unfold gatherLeaf
  rw [show Index.indexPositions [3] idxP.idx = .ok ([2], [1, 1]) by decide]
  rfl

theorem den_diagQ (E : Env) (a b c : ℝ) : den E (.leaf 5 .diagonal diagQ) [a, b, c] = [2 * a, 3 * b, 5 * c] := by
  have h : den E (.leaf 5 .diagonal diagQ) [a, b, c] =
      fit 3 (fit 3 (diagLeaf true diagQ.vals [0] ⟨[3], .f64⟩ ⟨[3], .f64⟩ (headChunk 3 [a, b, c])) ++ []) :=
    (leafDen_of_len (E := E) (u := 5) (c := .diagonal) (p := diagQ) (x := [a, b, c]) rfl).trans
      (congrArg (fit 3) (perLeaf_cons _ _ _ [] [] _))
  -- the kernel accepts and multiplies entry by entry (`Diagonal.apply_vector`)
  obtain ⟨y, hy, _, hyl, hyd⟩ := Diagonal.apply_vector true 3 ((castT diagQ.vals).data)
    (⟨[3], [a, b, c]⟩ : Tensor ℝ) 0 (by simp) rfl
  have hk : diagLeaf true diagQ.vals [0] ⟨[3], .f64⟩ ⟨[3], .f64⟩ (headChunk 3 [a, b, c]) = y.data :=
    congrArg exData hy
  have e0 : y.data.getD 0 0 = ((2 : ℚ) : ℝ) * a := hyd 0 (by decide : 0 < 3)
  have e1 : y.data.getD 1 0 = ((3 : ℚ) : ℝ) * b := hyd 1 (by decide : 1 < 3)
  have e2 : y.data.getD 2 0 = ((5 : ℚ) : ℝ) * c := hyd 2 (by decide : 2 < 3)
  obtain ⟨p, q, r, hd⟩ := List.length_eq_three.1 hyl
  rw [hd] at e0 e1 e2
  rw [h, hk, hd, show p = _ from e0, show q = _ from e1, show r = _ from e2]
  simp only [Rat.cast_ofNat]
  rfl

theorem den_exL (E : Env) (a b c : ℝ) : den E exL [a, b, c] = [3 * b, 3 * b] := by
  rw [exL, den_comp, app, app, app, den_diagQ, den_idx]

/-- **the dense matrix of the example**, computed column by column (the generic `as_matrix()` recipe) -/
theorem asMatrix_exL (E : Env) (hE : EnvAdd E) : asMatrix E hE exL 3 2 = !![0, 3, 0; 0, 3, 0] := by
  ext i j
  rw [asMatrix_apply, show unitVec 3 j = [if 0 = j.1 then 1 else 0, if 1 = j.1 then 1 else 0,
    if 2 = j.1 then 1 else 0] from rfl, den_exL]
  fin_cases i <;> fin_cases j <;> simp

end LinExamples

end ListSem
end Furax
