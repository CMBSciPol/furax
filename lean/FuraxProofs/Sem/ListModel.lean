/-
The list denotation (FuraxProofs/Sem/ListSem.lean) packaged into the framework (`listArithSem E`: `den := den E`,
`mem s x := x.length = s.size`, `invertible := invertibleG E`), the validity of the leaf parameters class by class
(`listLeafOK`: what the Python constructors accept), its rule and container laws, and the CLOSED soundness theorem of
`reduce()`: no semantic hypothesis is left, only the syntactic well-formedness of the input expression and the
environment `E` of the uninterpreted leaves.  At the end, concrete well-formed expressions that `reduceTop` rewrites.
-/
import FuraxProofs.Sem.ListSemBasic
import FuraxProofs.Sem.LeafHom
import FuraxProofs.Sem.LeafLaws
import FuraxProofs.Sem.ContainerLawsList
import FuraxProofs.Sem.StokesLaws
import FuraxProofs.Sem.IndexMultLaw
import FuraxProofs.Lemmas.ReduceSound
namespace Furax
namespace ListSem
open Op

/-- the list denotation is an `OpSem` (the structure of FuraxProofs/Lemmas/Nary.lean) -/
noncomputable def listOpSem (E : Env) : OpSem V where
  den := den E
  mem := mem
  smul := vsmul
  honest := fun o x ho hx => Laws.honest E o ho x hx
  smul_one := Laws.smul_one
  smul_smul := Laws.smul_smul
  mem_smul := Laws.mem_smul
  identity_law := Laws.identity_law E
  homothety_law := Laws.homothety_law E
  homogeneous := fun o a x _ _ => Laws.homogeneous E (leafHom E) o a x

/-- the list denotation is an `ArithSem` (the structure of FuraxProofs/Lemmas/ArithSound.lean); an operand is
`invertible` when each lazy-inverse wrapper the constructors can build around it denotes a two-sided inverse
(`invertibleG`) -/
noncomputable def listArithSem (E : Env) : ArithSem V where
  toOpSem := listOpSem E
  add := vadd
  zero := []
  add_assoc := Laws.add_assoc
  zero_add := Laws.zero_add
  comp_law := fun u ops x => Laws.comp_law_sem E (listOpSem E).toSem rfl u ops x
  add_law := Laws.add_law E
  add_zero := Laws.add_zero
  smul_sum := Laws.smul_sum
  invertible := invertibleG E
  inv_left := fun u k o hi hk hq x hx => inv_leftG E u k o hi hk hq x hx
  inv_right := fun u k o hi hk hq x hx => inv_rightG E u k o hi hk hq x hx

@[simp] theorem listArithSem_den (E : Env) : (listArithSem E).den = den E := rfl
@[simp] theorem listArithSem_mem (E : Env) : (listArithSem E).mem = mem := rfl
@[simp] theorem listArithSem_invertible (E : Env) : (listArithSem E).invertible = invertibleG E := rfl

theorem listArithSem_mem_iff (E : Env) (s : Struct) (x : V) : (listArithSem E).mem s x ↔ mem s x := Iff.rfl

/-! #### what the firing conditions of `TransposeIndexRule` and the success of NumPy indexing already imply -/

/-- **the index tuple is in the fragment as soon as `TransposeIndexRule` fires**: at most one indexed axis and an
integer array at `indices[axis]` leave only full slices and the (first) ellipsis for the other entries -/
theorem frag_of_rule (idx : List IdxEntry) (axis : Int) (sh : List Nat) (vals : List Int)
    (hlen1 : (indexedAxes idx).length ≤ 1) (hget : pyGet? idx axis = some (.iarr sh vals)) :
    ∀ e ∈ idx, fragEntry e := by
  obtain ⟨t, -, hidt⟩ := (pyGet?_eq_some_iff _ _ _).mp hget
  intro e he
  obtain ⟨a, ha, rfl⟩ := List.getElem_of_mem he
  by_cases hfs : (idx[a]).isFullSlice = true
  · exact Or.inl ((isFullSlice_iff _).mp hfs)
  · by_cases hae : a = idx.idxOf .ellipsis
    · subst hae
      exact Or.inr (Or.inl (List.getElem_idxOf ha))
    · -- an entry that is neither a full slice nor the first ellipsis sits on the one indexed axis, as the array does
      have hat : a = t :=
        indexedPos_unique hlen1 ⟨ha, hae, by rw [List.getD_eq_getElem _ _ ha]; simpa using hfs⟩
          (indexedPos_of_iarr hidt)
      subst hat
      rw [List.getElem?_eq_getElem ha] at hidt
      exact Or.inr (Or.inr ⟨sh, vals, Option.some.inj hidt⟩)

theorem pyGet?_mem {α : Type} (l : List α) (i : Int) (x : α) (h : pyGet? l i = some x) : x ∈ l := by
  obtain ⟨t, -, ht⟩ := (pyGet?_eq_some_iff l i x).mp h
  exact List.mem_of_getElem? ht

theorem forall₂_exists_right {α β : Type} {R : α → β → Prop} {a : List α} {b : List β}
    (h : List.Forall₂ R a b) : ∀ x ∈ a, ∃ y ∈ b, R x y := by
  induction h with
  | nil => intro x hx; simp at hx
  | cons hr _ ih =>
    intro x hx
    rcases List.mem_cons.mp hx with rfl | hx
    · exact ⟨_, List.mem_cons_self, hr⟩
    · obtain ⟨y, hy, hxy⟩ := ih x hx
      exact ⟨y, List.mem_cons_of_mem _ hy, hxy⟩

theorem forall₂_exists_left {α β : Type} {R : α → β → Prop} {a : List α} {b : List β}
    (h : List.Forall₂ R a b) : ∀ y ∈ b, ∃ x ∈ a, R x y :=
  forall₂_exists_right (R := fun y x => R x y) h.flip

/-- **the two side conditions of `TransposeIndexRule` that are not consequences of its firing conditions and of
`indexOK`**:
* (well-formed arrays) every integer array of the index tuple has as many values as its shape says;
* (in-bounds values) the values of an integer array sitting on an indexed axis are valid Python indices
  (`-n ≤ i < n`) into that axis of every input leaf.
JAX arrays are well formed by construction; out-of-bounds indices are what `indexPositions` (NumPy semantics)
refuses with an `IndexError` whenever the result is not empty. -/
def indexArraysOK (p : Params) : Prop :=
  (∀ sh vals, IdxEntry.iarr sh vals ∈ p.idx → vals.length = prodNat sh) ∧
  (∀ axis ∈ indexedAxes p.idx, ∀ sh vals, pyGet? p.idx axis = some (.iarr sh vals) →
    ∀ l ∈ p.inS.leaves, ∀ n, pyGet? l.shape axis = some n → ∀ i ∈ vals, -(n : Int) ≤ i ∧ i < n)

/-- `DiagonalOperator(diagonal, axis_destination=axes, in_structure=…)`: the strict broadcasting product
(`Diagonal.apply true`) succeeds on every leaf of the input structure and keeps the leaf's shape -/
def diagonalOK (p : Params) : Prop :=
  ∀ l ∈ p.inS.leaves, ∀ c : V, ∃ y,
    Diagonal.apply true (castT p.vals) (.seq (p.ints.getD 0 [])) (⟨l.shape, c⟩ : Tensor ℝ) = .ok y ∧
    y.shape = l.shape

/-- `SymmetricBandToeplitzOperator(band_values, in_structure)`: `band_values` is a well-formed array of shape
`bs ++ [K]` — `K ≥ 1` bands along the last axis, `bs` the batch axes (`bs = []`: one band for all rows; in practice
`bs = [ndet]`: one band row per detector) — with as many values as the shape says; every leaf of the input structure
has rank `≥ 1` (the operator acts along the last axis of every leaf) and **the batch axes `bs` broadcast TO the
leading axes of the leaf** (`Bc`, NumPy rules, right-aligned: the rank of `bs` is at most that of the leading axes and
every dimension of `bs` is `1` or the dimension it is aligned with).  This is what `jnp.vectorize` needs for `mv` to
return an array of the shape of its input: with incompatible dimensions it raises, and when `bs` only broadcasts
WITH the leading axes (a longer `bs`, or a dimension `> 1` facing a `1`) `mv` returns a LARGER array than
`in_structure` says (observed on the Python code: finding F18, DESIGN.md §10.3).  (The Python `mv` only works when `in_structure`
is a bare array — one leaf; the denotation and this predicate are stated leaf by leaf for any number of leaves, the
one-leaf structure being the case Python reaches.)  `K` may exceed the length of the last axis.  The
method string (`p.str`) and the FFT size (`p.ints`) do not matter: all the evaluation methods compute the same
banded product (C09, FuraxProofs/Sem/ToeplitzList.lean). -/
def toeplitzOK (p : Params) : Prop :=
  ∃ bs K, 1 ≤ K ∧ p.vals.shape = bs ++ [K] ∧ p.vals.data.length = prodNat bs * K ∧
    ∀ l ∈ p.inS.leaves, l.shape ≠ [] ∧ Bc bs l.shape.dropLast

/-- the validity of a Toeplitz leaf with an UN-BATCHED band (`band_values.shape = [K]`): a special case of
`toeplitzOK` (`C09.unbatched_valid_iff`) -/
def toeplitzUnbatchedOK (p : Params) : Prop :=
  (∃ K, 1 ≤ K ∧ p.vals.shape = [K] ∧ p.vals.data.length = K) ∧ ∀ l ∈ p.inS.leaves, l.shape ≠ []

theorem Bc_nil (S : List Nat) : Bc [] S := ⟨Nat.zero_le _, fun j hj => absurd hj (Nat.not_lt_zero j)⟩

theorem toeplitzOK_of_unbatched {p : Params} (h : toeplitzUnbatchedOK p) : toeplitzOK p := by
  obtain ⟨⟨K, hK, hs, hd⟩, hr⟩ := h
  exact ⟨[], K, hK, by simpa using hs, by simpa [prodNat] using hd, fun l hl => ⟨hr l hl, Bc_nil _⟩⟩

theorem toeplitzOK.toepK {p : Params} (h : toeplitzOK p) : ∃ K, 1 ≤ K ∧ toepK p.vals = some K := by
  obtain ⟨bs, K, hK, hs, _⟩ := h
  exact ⟨K, hK, by simp [ListSem.toepK, hs]⟩

/-- **validity of the leaf parameters**, class by class: what the Python constructors accept.  The classes no rule
looks into (identity, scalar, broadcasting diagonal, observation matrix, opaque, and dense einsum blocks with one
block array per leaf) are not constrained; a dense einsum leaf with ONE block array shared by all the leaves
(`denseShared`: the case the denotation interprets by the einsum kernel) is `denseOK` (FuraxProofs/Sem/DenseLeaf.lean:
the subscripts parse, the transposer accepts them, every leaf fits its term exactly); a
Toeplitz leaf whose band array has a last axis (rank `≥ 1`, batched or not: the case the denotation interprets by the
kernel, `toepK`) is `toeplitzOK`; the degenerate one with a rank-0 band array (left to the environment; Python
refuses it) is not constrained. -/
def listLeafOK : LeafCls → Params → Prop
  | .toeplitz, p => toepK p.vals ≠ none → toeplitzOK p
  | .moveAxis, p => moveAxisOK p
  | .ravel, p => reshapeOK p
  | .reshape, p => reshapeOK p
  | .index, p => indexOK p ∧ indexArraysOK p
  | .pack, p => packOK p
  | .qurot, p => stokesOK .qurot p
  | .hwp, p => stokesOK .hwp p
  | .polarizer, p => stokesOK .polarizer p
  | .diagonal, p => diagonalOK p
  | .dense, p => denseShared p = true → denseOK p
  | _, _ => True

theorem listLeafOK_identity (s : Struct) : listLeafOK .identity { inS := s, outS := s } := trivial

theorem listLeafOK_homothety (v : Rat) (s : Struct) :
    listLeafOK .homothety { inS := s, outS := s, vals := Tensor.scalar v } := trivial

theorem listLeafOK_toeplitz {p : Params} (h : toeplitzOK p) : listLeafOK .toeplitz p := fun _ => h

/-- a valid rotation is invertible: its transpose is its inverse (orthogonality), which `InverseOperator` finds
and `QURotationTransposeOperator` is -/
theorem qurot_invertibleG (E : Env) (u : Nat) (p : Params) (h : stokesOK .qurot p) :
    invertibleG E (.leaf u .qurot p) := by
  refine invertibleG_of E _ (StructOK_leaf _ _ _) rfl ⟨_, qurot_isInvOn E (leafHom E) u p h⟩ (fun _ => ?_)
    (fun u' p' he => by cases he)
  refine ⟨fun x hx => (qurot_inv_wrap E 0 u p h x hx).1, fun x hx => (qurot_inv_wrap E 0 u p h x ?_).2⟩
  exact hx

/-- **`TransposeIndexRule`** from `indexOK`, `indexArraysOK` and the rule's own firing conditions -/
theorem index_mult_closed (E : Env) (u uo : Nat) (p : Params) (axis : Int) (shape sh : List Nat)
    (vals : List Int) (sizeMax : Nat) (hp : indexOK p ∧ indexArraysOK p)
    (hlen1 : (indexedAxes p.idx).length ≤ 1) (hhead : (indexedAxes p.idx).head? = some axis)
    (hs1 : ((p.inS.leaves.map (·.shape)).eraseDups).length ≤ 1)
    (hs2 : ((p.inS.leaves.map (·.shape)).eraseDups).head? = some shape)
    (hget : pyGet? p.idx axis = some (.iarr sh vals)) (hsize : pyGet? shape axis = some sizeMax) :
    diagonalOK (transposeIndexDiag p axis sizeMax vals) ∧
    ∀ x, mem p.inS x → den E (.leaf 0 .diagonal (transposeIndexDiag p axis sizeMax vals)) x =
      den E (.wrap u .transpose (.leaf uo .index p)) (den E (.leaf uo .index p) x) := by
  obtain ⟨⟨_, hfa⟩, hwf, hib⟩ := hp
  have hshape := all_eq_of_eraseDups _ _ hs1 hs2
  -- a leaf of shape `shape`
  obtain ⟨l0, hl0, hl0s⟩ : ∃ l ∈ p.inS.leaves, l.shape = shape := by
    have hm : shape ∈ (p.inS.leaves.map (·.shape)).eraseDups := List.mem_of_mem_head? hs2
    obtain ⟨l, hl, hls⟩ := List.mem_map.mp (List.mem_eraseDups.mp hm)
    exact ⟨l, hl, hls⟩
  obtain ⟨lo0, _, pos0, hpos0, _⟩ := forall₂_exists_right hfa l0 hl0
  rw [hl0s] at hpos0
  obtain ⟨hell, hused⟩ := indexPositions_ok_facts hpos0
  have hfrag := frag_of_rule p.idx axis sh vals hlen1 hget
  have hsum := consumed_sum p.idx hfrag
  have hok : indexMultOK p axis shape sh vals sizeMax := by
    refine indexMultOK_of_rule p axis shape sh vals sizeMax hfrag hell (by omega) hlen1 hhead hs1 hs2 hget hsize
      (hwf sh vals (pyGet?_mem _ _ _ hget)) ?_ hfa.length_eq.symm ?_
    · refine hib axis (List.mem_of_mem_head? hhead) sh vals hget l0 hl0 sizeMax ?_
      rw [hl0s]; exact hsize
    · intro lo hlo
      obtain ⟨li, hli, pos, hpos, _⟩ := forall₂_exists_left hfa lo hlo
      rw [hshape li hli] at hpos
      exact ⟨pos, hpos⟩
  exact index_mult_law E u uo p axis shape sh vals sizeMax hok

/-- **the semantic leaf laws of the thirteen binary rules hold for the list denotation** -/
noncomputable def listRuleLaws (E : Env) : RuleLaws (listArithSem E) where
  leafOK := listLeafOK
  ok_identity := listLeafOK_identity
  ok_homothety := listLeafOK_homothety
  qurot_inv := fun u p hp => qurot_invertibleG E u p hp
  moveaxis_pair := fun ul pl ur pr hl hr h01 h10 hio => moveaxis_pair E ul pl ur pr hl hr h01 h10 hio
  reshape_pair := fun u uo c p hc hp => by
    refine reshape_pair E u uo c p hc ?_
    rcases hc with rfl | rfl <;> exact hp
  pack_pair := fun u uo p hp => pack_pair E u uo p hp
  index_pair := fun u uo p hp hf => index_pair E u uo p hp.1 hf
  index_mult := fun u uo p axis shape sh vals sizeMax hp _ hlen1 hhead hs1 hs2 hget hsize =>
    index_mult_closed E u uo p axis shape sh vals sizeMax hp hlen1 hhead hs1 hs2 hget hsize
  rot_rot := fun ul pl ur pr a hl hr hS ha => rot_rot E ul pl ur pr a hl hr hS ha
  rot_rotT := fun ul pl uw ur pr a hl hr hS ha => rot_rotT E ul pl uw ur pr a hl hr hS ha
  rotT_rot := fun uw ul pl ur pr a hl hr hS ha => rotT_rot E uw ul pl ur pr a hl hr hS ha
  rotT_rotT := fun uw ul pl uw' ur pr a hl hr hS ha => rotT_rotT E uw ul pl uw' ur pr a hl hr hS ha
  rot_hwp := fun uw ul pl ur pr hl hr hS => rot_hwp E uw ul pl ur pr hl hr hS
  rotT_hwp := fun uw ul pl ur pr hl hr hS => rotT_hwp E uw ul pl ur pr hl hr hS
  polarizer_hwp := fun ul pl ur pr hl hr hS => polarizer_hwp E ul pl ur pr hl hr hS
  block_law := fun lk rk res ht ul ur u td lops rops prods _ hrw _ hlok hrok hne hrel hlr x hx =>
    block_law_list E (lenLaw E) lk rk res ht ul ur u td lops rops prods hlok hrok hne
      ((ProdRelL_iff E (listArithSem E) rfl (listArithSem_mem_iff E) lops rops prods).mp hrel)
      ((StructOKList_iff rops).mp hrw.structOK) hlr x hx

@[simp] theorem listRuleLaws_leafOK (E : Env) : (listRuleLaws E).leafOK = listLeafOK := rfl

theorem listContainerLaws (E : Env) : ContainerLaws (listArithSem E) (listRuleLaws E) where
  cont_congr := fun u u' k td ops ops' hk _ _ _ hok hrel x hx =>
    cont_congr_list E u u' k td ops ops' hk hok
      ((CongRelL_iff E (listArithSem E) rfl (listArithSem_mem_iff E) ops ops').mp hrel) x hx
  blockdiag_identities := fun u td ops _ _ hid x hx => blockdiag_identities_list E u td ops hid x hx
  index_noaxes := fun u p hp h0 => index_noaxes E u p hp.1 h0
  reshape_id := fun u c p hc _ hio => reshape_id E u c p hc hio

/-- **Soundness of `reduce()`, closed.**  For every environment `E` of the uninterpreted leaves, every amount of
fuel and every expression `o` whose leaves passed their constructors' validation (`listLeafOK`), whose wrappers
and containers are well formed and whose lazy inverses wrap invertible operands (`invertibleG E`): if
`reduce fuel o` returns `r`, then `r` is again such an expression, has the structures of `o`, and computes the
same vector as `o` on every vector of the input size.  No semantic hypothesis is left. -/
theorem reduce_sound_closed (E : Env) (fuel : Nat) (o r : Op)
    (hw : WTExpr (listArithSem E).invertible listLeafOK o) (h : reduce fuel o = .ok r) :
    WTExpr (listArithSem E).invertible listLeafOK r ∧ Op.inS r = Op.inS o ∧ Op.outS r = Op.outS o ∧
    ∀ x : List ℝ, x.length = (Op.inS o).size → den E r x = den E o x :=
  reduce_sound (listArithSem E) (listRuleLaws E) (listContainerLaws E) fuel o r hw h

/-- the same for the driver's entry point -/
theorem reduceTop_sound_closed (E : Env) (o r : Op)
    (hw : WTExpr (listArithSem E).invertible listLeafOK o) (h : reduceTop o = .ok r) :
    WTExpr (listArithSem E).invertible listLeafOK r ∧ Op.inS r = Op.inS o ∧ Op.outS r = Op.outS o ∧
    ∀ x : List ℝ, x.length = (Op.inS o).size → den E r x = den E o x :=
  reduceTop_sound (listArithSem E) (listRuleLaws E) (listContainerLaws E) o r hw h

/-! ### non-vacuity: well-formed expressions that `reduceTop` really rewrites

The model's `reduceTop` is computable, so the reduced forms are obtained by evaluation (`rfl`); the denotation is
not, and the equality of the denotations is an instance of `reduceTop_sound_closed`. -/

namespace Examples

def iqu : Struct := ⟨[.node "stokes:IQU" 3, .leaf, .leaf, .leaf], [⟨[2, 3], .f64⟩, ⟨[2, 3], .f64⟩, ⟨[2, 3], .f64⟩]⟩
def rotP : Params := { inS := iqu, outS := iqu, vals := ⟨[3], [0, 1 / 2, 1]⟩ }
def ex1 : Op := .comp 7 [.wrap 5 .qurotT (.leaf 3 .qurot rotP), .leaf 3 .qurot rotP]

theorem rotP_ok : stokesOK .qurot rotP := by
  refine ⟨⟨.IQU, rfl⟩, by decide, fun _ => ⟨rfl, by decide⟩, fun h => by cases h⟩

theorem ex1_wt (E : Env) : WTExpr (listArithSem E).invertible listLeafOK ex1 := by
  have hq : listLeafOK .qurot rotP := rotP_ok
  simp only [ex1, WTExpr, WTList, Chain, WrapOK, WrapCls.isLazy]
  refine ⟨by simp, ⟨⟨hq, fun _ => ⟨rfl, qurot_invertibleG E 3 rotP rotP_ok⟩, fun _ => rfl, by simp, by simp⟩, hq, trivial⟩,
    rfl, trivial⟩

theorem ex1_red : reduceTop ex1 = .ok (mkIdentity iqu) := by with_unfolding_all rfl

def idxP : Params := { inS := ⟨[.leaf], [⟨[3], .f64⟩]⟩, outS := ⟨[.leaf], [⟨[2], .f64⟩]⟩, idx := [.iarr [2] [1, 1]], flag := false }
def ex2 : Op := .comp 9 [.wrap 8 .transpose (.leaf 4 .index idxP), .leaf 4 .index idxP]

theorem idxP_ok : listLeafOK .index idxP := by
  refine ⟨⟨rfl, .cons ⟨[1, 1], by decide, by decide, fun h => by simp [idxP] at h, rfl⟩ .nil⟩, ?_, ?_⟩
  · intro sh vals h
    simp only [idxP, List.mem_singleton, IdxEntry.iarr.injEq] at h
    obtain ⟨rfl, rfl⟩ := h
    rfl
  · intro axis ha sh vals hget l hl n hn i hi
    have h0 : indexedAxes idxP.idx = [0] := by decide
    rw [h0, List.mem_singleton] at ha
    subst ha
    have h1 : pyGet? idxP.idx 0 = some (.iarr [2] [1, 1]) := by decide
    rw [h1] at hget
    simp only [Option.some.injEq, IdxEntry.iarr.injEq] at hget
    obtain ⟨rfl, rfl⟩ := hget
    simp only [idxP, List.mem_singleton] at hl
    subst hl
    have h2 : pyGet? [3] (0 : Int) = some 3 := by decide
    rw [h2] at hn
    cases hn
    simp only [List.mem_cons, List.not_mem_nil, or_false, or_self] at hi
    subst hi
    decide

theorem ex2_wt (E : Env) : WTExpr (listArithSem E).invertible listLeafOK ex2 := by
  simp only [ex2, WTExpr, WTList, Chain, WrapOK, WrapCls.isLazy]
  refine ⟨by simp, ⟨⟨idxP_ok, by simp, by simp, by simp, by simp⟩, idxP_ok, trivial⟩, rfl, trivial⟩

theorem ex2_red : reduceTop ex2 = .ok (.leaf 0 .diagonal
    { inS := idxP.inS, outS := idxP.inS, vals := ⟨[3], [0, 2, 0]⟩, ints := [[0]] }) := by rfl

def s1 : Struct := ⟨[.leaf], [⟨[2], .f64⟩]⟩
def s2 : Struct := ⟨[.leaf], [⟨[3], .f64⟩]⟩
def td2 : TreeDef := [.node "list" 2, .leaf, .leaf]
def opA : Op := .leaf 11 .opaque { inS := s1, outS := s2 }
def opB : Op := .leaf 12 .opaque { inS := s2, outS := s2 }
def opC : Op := .leaf 14 .opaque { inS := s1, outS := s1 }
def opD : Op := .leaf 15 .opaque { inS := s1, outS := s2 }
def ex3 : Op := .comp 20 [.cont 10 .blockRow td2 [opA, opB], .cont 13 .blockCol td2 [opC, opD]]

theorem ex3_wt (E : Env) : WTExpr (listArithSem E).invertible listLeafOK ex3 := by
  simp only [ex3, opA, opB, opC, opD, WTExpr, WTList, Chain, ContOK, listLeafOK]
  refine ⟨by simp, ⟨⟨by simp, ⟨trivial, trivial, trivial⟩, by decide, ?_⟩,
    ⟨by simp, ⟨trivial, trivial, trivial⟩, by decide, ?_⟩, trivial⟩, by decide, trivial⟩
  · intro o ho
    simp only [List.mem_cons, List.not_mem_nil, or_false] at ho
    rcases ho with rfl | rfl <;> rfl
  · intro o ho
    simp only [List.mem_cons, List.not_mem_nil, or_false] at ho
    rcases ho with rfl | rfl <;> rfl

theorem ex3_red : reduceTop ex3 = .ok (.cont 0 .add td2 [.comp 0 [opA, opC], .comp 0 [opB, opD]]) := by
  with_unfolding_all rfl

/-- the three rewrites are denotation preserving, by the closed theorem -/
theorem ex1_den (E : Env) (x : List ℝ) (hx : x.length = 18) : den E (mkIdentity iqu) x = den E ex1 x :=
  (reduceTop_sound_closed E ex1 _ (ex1_wt E) ex1_red).2.2.2 x hx

theorem ex2_den (E : Env) (x : List ℝ) (hx : x.length = 3) :
    den E (.leaf 0 .diagonal { inS := idxP.inS, outS := idxP.inS, vals := ⟨[3], [0, 2, 0]⟩, ints := [[0]] }) x
      = den E ex2 x :=
  (reduceTop_sound_closed E ex2 _ (ex2_wt E) ex2_red).2.2.2 x hx

theorem ex3_den (E : Env) (x : List ℝ) (hx : x.length = 2) :
    den E (.cont 0 .add td2 [.comp 0 [opA, opC], .comp 0 [opB, opD]]) x = den E ex3 x :=
  (reduceTop_sound_closed E ex3 _ (ex3_wt E) ex3_red).2.2.2 x hx

#print axioms ex1_den
#print axioms ex2_den
#print axioms ex3_den

end Examples

#print axioms reduce_sound_closed
#print axioms reduceTop_sound_closed
#print axioms listRuleLaws
#print axioms listContainerLaws

end ListSem
end Furax
