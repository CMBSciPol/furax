/-
Structural laws of the list denotation (FuraxProofs/Sem/ListSem.lean): what `den` / `denT` are node by node, that
they return vectors of the declared size, and an induction principle (`den_mem`): a class of maps closed under what
the nodes are built from contains every `den E o` and `denT E o` as soon as it contains the leaves; homogeneity is
its first use.  Then the lazy inverses, and the laws that the structures `OpSem` / `ArithSem`
(FuraxProofs/Lemmas/Nary.lean, ArithSound.lean) ask for, as standalone theorems (namespace `Laws`).
-/
import FuraxProofs.Sem.ListSemLaws
namespace Furax

namespace ListSem
open Op

@[simp] theorem fit_length (n : Nat) (x : V) : (fit n x).length = n := List.takeD_length n x 0

theorem fit_zero (x : V) : fit 0 x = [] := rfl

theorem fit_nil (n : Nat) : fit n [] = List.replicate n 0 := List.takeD_nil ..

theorem fit_succ_cons (n : Nat) (v : ℝ) (x : V) : fit (n + 1) (v :: x) = v :: fit n x := rfl

theorem fit_succ_nil (n : Nat) : fit (n + 1) [] = 0 :: fit n [] := rfl

theorem fit_eq_self {n : Nat} {x : V} (h : x.length = n) : fit n x = x := by
  subst h
  induction x with
  | nil => rfl
  | cons v x ih => rw [List.length_cons, fit_succ_cons, ih]

theorem fit_fit (n : Nat) (x : V) : fit n (fit n x) = fit n x := fit_eq_self (fit_length n x)

theorem fit_map (n : Nat) (a : ℝ) (x : V) :
    fit n (x.map fun v => a * v) = (fit n x).map fun v => a * v := by
  induction n generalizing x with
  | zero => rfl
  | succ n ih =>
    cases x with
    | nil => simp only [List.map_nil, fit_nil, List.map_replicate, mul_zero]
    | cons v x => simp only [List.map_cons, fit_succ_cons, ih]

@[simp] theorem vadd_nil_left (b : V) : vadd [] b = b := by
  cases b <;> rfl

@[simp] theorem vadd_nil_right (a : V) : vadd a [] = a := by
  cases a <;> rfl

theorem vadd_cons (x y : ℝ) (a b : V) : vadd (x :: a) (y :: b) = (x + y) :: vadd a b := rfl

theorem vadd_assoc (x y z : V) : vadd (vadd x y) z = vadd x (vadd y z) := by
  induction x generalizing y z with
  | nil => simp only [vadd_nil_left]
  | cons a x ih =>
    cases y with
    | nil => simp only [vadd_nil_left, vadd_nil_right]
    | cons b y =>
      cases z with
      | nil => simp only [vadd_nil_right]
      | cons c z => simp only [vadd_cons, ih, add_assoc]

theorem vadd_length (x y : V) : (vadd x y).length = max x.length y.length := by
  induction x generalizing y with
  | nil => rw [vadd_nil_left, List.length_nil, Nat.zero_max]
  | cons a x ih =>
    cases y with
    | nil => rw [vadd_nil_right, List.length_nil, Nat.max_zero]
    | cons b y => rw [vadd_cons, List.length_cons, List.length_cons, List.length_cons, ih, Nat.succ_max_succ]

theorem vadd_length_eq {n : Nat} {x y : V} (hx : x.length = n) (hy : y.length ≤ n) : (vadd x y).length = n := by
  rw [vadd_length, hx, Nat.max_eq_left hy]

theorem vadd_map (a : ℝ) (x y : V) :
    (vadd x y).map (fun v => a * v) = vadd (x.map fun v => a * v) (y.map fun v => a * v) := by
  induction x generalizing y with
  | nil => simp only [vadd_nil_left, List.map_nil]
  | cons b x ih =>
    cases y with
    | nil => simp only [vadd_nil_right, List.map_nil]
    | cons c y => simp only [vadd_cons, List.map_cons, ih, mul_add]

theorem vadd_comm (x y : V) : vadd x y = vadd y x := by
  induction x generalizing y with
  | nil => simp only [vadd_nil_left, vadd_nil_right]
  | cons a x ih =>
    cases y with
    | nil => simp only [vadd_nil_left, vadd_nil_right]
    | cons b y => simp only [vadd_cons, ih, add_comm]

theorem vsmul_eq_map (a : Rat) (x : V) : vsmul a x = x.map fun v => ((a : Rat) : ℝ) * v := rfl

@[simp] theorem vsmul_length (a : Rat) (x : V) : (vsmul a x).length = x.length := List.length_map ..

theorem vsmul_one (x : V) : vsmul 1 x = x := by
  simp [vsmul]

theorem vsmul_vsmul (a b : Rat) (x : V) : vsmul a (vsmul b x) = vsmul (a * b) x := by
  simp [vsmul, mul_assoc]

theorem vsmul_nil (a : Rat) : vsmul a [] = [] := rfl

theorem vsmul_vadd (a : Rat) (x y : V) : vsmul a (vadd x y) = vadd (vsmul a x) (vsmul a y) :=
  vadd_map _ x y

theorem fit_vsmul (n : Nat) (a : Rat) (x : V) : fit n (vsmul a x) = vsmul a (fit n x) := fit_map n _ x

theorem headChunk_eq_fit (n : Nat) (x : V) : headChunk n x = fit n x := by
  induction n generalizing x with
  | zero => rfl
  | succ n ih =>
    cases x with
    | nil => rfl
    | cons v x => exact congrArg (v :: ·) (ih x)

theorem fit_getD : ∀ (n : Nat) (x : V) (i : Nat), i < n → (fit n x).getD i 0 = x.getD i 0
  | _ + 1, [], 0, _ => rfl
  | _ + 1, _ :: _, 0, _ => rfl
  | n + 1, [], i + 1, h => fit_getD n [] i (Nat.lt_of_succ_lt_succ h)
  | n + 1, _ :: x, i + 1, h => fit_getD n x i (Nat.lt_of_succ_lt_succ h)

theorem drop_getD (n : Nat) (x : V) (i : Nat) : (x.drop n).getD i 0 = x.getD (n + i) 0 := by
  rw [List.getD_eq_getElem?_getD, List.getD_eq_getElem?_getD, List.getElem?_drop]

theorem headChunk_getD (n : Nat) (x : V) (i : Nat) (h : i < n) : (headChunk n x).getD i 0 = x.getD i 0 := by
  rw [headChunk_eq_fit, fit_getD n x i h]

@[simp] theorem headChunk_length (n : Nat) (x : V) : (headChunk n x).length = n := fit_length _ _

theorem headChunk_map (n : Nat) (a : ℝ) (x : V) :
    headChunk n (x.map fun v => a * v) = (headChunk n x).map fun v => a * v := by
  simp only [headChunk_eq_fit, fit_map]

theorem headChunk_append {n : Nat} {x : V} (y : V) (h : x.length = n) : headChunk n (x ++ y) = x := by
  rw [headChunk_eq_fit]
  exact List.takeD_left' h

theorem chunks_cons (n : Nat) (ns : List Nat) (x : V) :
    chunks (n :: ns) x = headChunk n x :: chunks ns (x.drop n) := rfl

@[simp] theorem chunks_length (ns : List Nat) (x : V) : (chunks ns x).length = ns.length := by
  induction ns generalizing x with
  | nil => rfl
  | cons n ns ih => simp only [chunks_cons, List.length_cons, ih]

theorem chunks_mem_length (ns : List Nat) (x : V) (i : Nat) (h : i < (chunks ns x).length) :
    ((chunks ns x)[i]).length = ns[i]'(by simpa using h) := by
  induction ns generalizing x i with
  | nil => exact absurd h (Nat.not_lt_zero i)
  | cons n ns ih =>
    cases i with
    | zero => exact headChunk_length n x
    | succ i => exact ih (x.drop n) i (Nat.lt_of_succ_lt_succ h)

theorem chunks_flatten (ns : List Nat) (x : V) (h : x.length = ns.sum) : (chunks ns x).flatten = x := by
  induction ns generalizing x with
  | nil =>
    rw [List.sum_nil, List.length_eq_zero_iff] at h
    subst h; rfl
  | cons n ns ih =>
    rw [List.sum_cons] at h
    have hn : (x.take n).length = n := List.length_take_of_le (h ▸ Nat.le_add_right n _)
    have hd : (x.drop n).length = ns.sum := by rw [List.length_drop, h, Nat.add_sub_cancel_left]
    rw [chunks_cons, List.flatten_cons, ih (x.drop n) hd, headChunk, fit_eq_self hn, List.take_append_drop]

theorem chunks_of_flatten (ns : List Nat) (xs : List V) (h : xs.map List.length = ns) :
    chunks ns xs.flatten = xs := by
  induction xs generalizing ns with
  | nil => subst h; rfl
  | cons x xs ih =>
    subst h
    simp only [List.map_cons, chunks_cons, List.flatten_cons]
    rw [headChunk_append _ rfl, List.drop_left, ih _ rfl]

theorem chunks_map (ns : List Nat) (a : ℝ) (x : V) :
    chunks ns (x.map fun v => a * v) = (chunks ns x).map fun c => c.map fun v => a * v := by
  induction ns generalizing x with
  | nil => rfl
  | cons n ns ih => simp only [chunks_cons, List.map_cons, headChunk_map, ← List.map_drop, ih]

theorem perLeaf_nil_left (f : LeafS → LeafS → V → V) (outs : List LeafS) (x : V) :
    perLeaf f [] outs x = [] := rfl

theorem perLeaf_nil_right (f : LeafS → LeafS → V → V) (ins : List LeafS) (x : V) :
    perLeaf f ins [] x = [] := by
  simp [perLeaf]

theorem perLeaf_cons (f : LeafS → LeafS → V → V) (i o : LeafS) (ins outs : List LeafS) (x : V) :
    perLeaf f (i :: ins) (o :: outs) x =
      fit o.size (f i o (headChunk i.size x)) ++ perLeaf f ins outs (x.drop i.size) := by
  simp [perLeaf, chunks_cons]

/-- one entry per element of the output leaves that have a matching input leaf -/
theorem perLeaf_length_gen (f : LeafS → LeafS → V → V) (ins outs : List LeafS) (x : V) :
    (perLeaf f ins outs x).length = ((outs.take ins.length).map LeafS.size).sum := by
  induction ins generalizing outs x with
  | nil => simp [perLeaf_nil_left]
  | cons i ins ih =>
    cases outs with
    | nil => simp [perLeaf_nil_right]
    | cons o outs =>
      rw [perLeaf_cons, List.length_append, fit_length, ih outs _]
      simp

theorem perLeaf_length (f : LeafS → LeafS → V → V) (ins outs : List LeafS) (x : V)
    (h : ins.length = outs.length) : (perLeaf f ins outs x).length = (outs.map LeafS.size).sum := by
  rw [perLeaf_length_gen, h, List.take_length]

theorem perLeaf_map (f : LeafS → LeafS → V → V) (a : ℝ)
    (hf : ∀ i o x, f i o (x.map fun v => a * v) = (f i o x).map fun v => a * v)
    (ins outs : List LeafS) (x : V) :
    perLeaf f ins outs (x.map fun v => a * v) = (perLeaf f ins outs x).map fun v => a * v := by
  induction ins generalizing outs x with
  | nil => rfl
  | cons i ins ih =>
    cases outs with
    | nil => simp [perLeaf_nil_right]
    | cons o outs =>
      simp only [perLeaf_cons, headChunk_map, hf, fit_map, ← List.map_drop, ih, List.map_append]

theorem nest_size (td : TreeDef) (ss : List Struct) :
    (Struct.nest td ss).size = (ss.map Struct.size).sum := by
  simp only [Struct.nest, Struct.size]
  induction ss with
  | nil => rfl
  | cons s rest ih =>
    simp only [List.map_cons, List.flatten_cons, List.map_append, List.sum_append, List.sum_cons, ih]
    rfl

theorem outSList_sizes (ops : List Op) : (outSList ops).map Struct.size = ops.map outSize := by
  induction ops with
  | nil => rfl
  | cons o os ih => simp only [outSList, List.map_cons, ih, outSize]

theorem inSList_sizes (ops : List Op) : (inSList ops).map Struct.size = ops.map inSize := by
  induction ops with
  | nil => rfl
  | cons o os ih => simp only [inSList, List.map_cons, ih, inSize]

theorem outSize_wrap (u : Nat) (k : WrapCls) (o : Op) : outSize (.wrap u k o) = inSize o :=
  congrArg Struct.size (outS_wrap u k o)

theorem inSize_wrap (u : Nat) (k : WrapCls) (o : Op) :
    inSize (.wrap u k o) = if k = .diagInv then inSize o else outSize o := by
  cases k <;> rfl

section equations
variable {E : Env} {u u' : Nat} {k : WrapCls} {o : Op} {p : Params} {td : TreeDef} {ops : List Op}

/-- `TransposeOperator` and its subclasses denote the other map of the operand -/
theorem den_wrap_T (hk : k ≠ .inverse) (hk' : k ≠ .diagInv) : den E (.wrap u k o) = denT E o :=
  den.eq_5 E u k o hk (fun _ _ h _ => hk' h) hk'

theorem denT_wrap_T (hk : k ≠ .inverse) (hk' : k ≠ .diagInv) : denT E (.wrap u k o) = den E o :=
  denT.eq_5 E u k o hk (fun _ _ h _ => hk' h) hk'

theorem den_inverse : den E (.wrap u .inverse o) = chooseInv (inSize o) (den E o) := rfl

theorem den_diagInv_leaf :
    den E (.wrap u .diagInv (.leaf u' .diagonal p)) = leafDen E u' .diagonal { p with vals := pinvT p.vals } := rfl

theorem denT_diagInv_leaf :
    denT E (.wrap u .diagInv (.leaf u' .diagonal p)) = leafDen E u' .diagonal { p with vals := pinvT p.vals } := rfl

theorem den_diagInv_of_not_leaf (h : ∀ u' p, o ≠ .leaf u' .diagonal p) :
    den E (.wrap u .diagInv o) = chooseInv (inSize o) (den E o) := den.eq_4 E u o h

theorem denT_diagInv_of_not_leaf (h : ∀ u' p, o ≠ .leaf u' .diagonal p) :
    denT E (.wrap u .diagInv o) = chooseInv (inSize o) (denT E o) := denT.eq_4 E u o h

theorem den_comp : den E (.comp u ops) = app E ops := rfl
theorem denT_comp : denT E (.comp u ops) = appT E ops := rfl
theorem den_cont_add : den E (.cont u .add td ops) = sumApp E ops := rfl
theorem denT_cont_add : denT E (.cont u .add td ops) = sumAppT E ops := rfl
theorem den_cont_blockRow : den E (.cont u .blockRow td ops) = rowApp E ops := rfl
theorem denT_cont_blockRow : denT E (.cont u .blockRow td ops) = colAppT E ops := rfl
theorem den_cont_blockDiag : den E (.cont u .blockDiag td ops) = diagApp E ops := rfl
theorem denT_cont_blockDiag : denT E (.cont u .blockDiag td ops) = diagAppT E ops := rfl
theorem den_cont_blockCol : den E (.cont u .blockCol td ops) = colApp E ops := rfl
theorem denT_cont_blockCol : denT E (.cont u .blockCol td ops) = rowAppT E ops := rfl

end equations

/-- the three denotations of a wrapper, whatever its Python identity `u`: the other map of the operand
(`TransposeOperator` and its subclasses); the chosen inverses of both maps (`InverseOperator`, and
`DiagonalInverseOperator` around anything but a `DiagonalOperator` leaf); the diagonal of the pseudo-inverse values,
which is its own transpose -/
theorem den_wrap_cases (E : Env) (k : WrapCls) (o : Op) :
    (k ≠ .inverse ∧ k ≠ .diagInv ∧
      ∀ u, den E (.wrap u k o) = denT E o ∧ denT E (.wrap u k o) = den E o) ∨
    ((k = .inverse ∨ k = .diagInv) ∧
      ∀ u, den E (.wrap u k o) = chooseInv (inSize o) (den E o) ∧
        denT E (.wrap u k o) = chooseInv (inSize o) (denT E o)) ∨
    (k = .diagInv ∧ ∃ u' p, o = .leaf u' .diagonal p ∧
      ∀ u, den E (.wrap u k o) = leafDen E u' .diagonal { p with vals := pinvT p.vals } ∧
        denT E (.wrap u k o) = leafDen E u' .diagonal { p with vals := pinvT p.vals }) := by
  by_cases hi : k = .inverse
  · subst hi
    exact .inr (.inl ⟨.inl rfl, fun _ => ⟨rfl, rfl⟩⟩)
  by_cases hd : k = .diagInv
  · subst hd
    by_cases hl : ∃ u' p, o = .leaf u' .diagonal p
    · obtain ⟨u', p, rfl⟩ := hl
      exact .inr (.inr ⟨rfl, u', p, rfl, fun _ => ⟨rfl, rfl⟩⟩)
    · have hl' : ∀ u' p, o ≠ .leaf u' .diagonal p := fun u' p h => hl ⟨u', p, h⟩
      exact .inr (.inl ⟨.inr rfl, fun _ => ⟨den_diagInv_of_not_leaf hl', denT_diagInv_of_not_leaf hl'⟩⟩)
  · exact .inl ⟨hi, hd, fun _ => ⟨den_wrap_T hi hd, denT_wrap_T hi hd⟩⟩

theorem den_wrap_uid (E : Env) (u : Nat) (k : WrapCls) (o : Op) :
    den E (.wrap u k o) = den E (.wrap 0 k o) := by
  rcases den_wrap_cases E k o with ⟨_, _, h⟩ | ⟨_, h⟩ | ⟨_, _, _, _, h⟩ <;> rw [(h u).1, (h 0).1]

theorem denT_wrap_uid (E : Env) (u : Nat) (k : WrapCls) (o : Op) :
    denT E (.wrap u k o) = denT E (.wrap 0 k o) := by
  rcases den_wrap_cases E k o with ⟨_, _, h⟩ | ⟨_, h⟩ | ⟨_, _, _, _, h⟩ <;> rw [(h u).2, (h 0).2]

theorem inS_wrap_uid (u : Nat) (k : WrapCls) (o : Op) : Op.inS (.wrap u k o) = Op.inS (.wrap 0 k o) := by
  rw [inS_wrap, inS_wrap]

theorem outS_wrap_uid (u : Nat) (k : WrapCls) (o : Op) : Op.outS (.wrap u k o) = Op.outS (.wrap 0 k o) := by
  rw [outS_wrap, outS_wrap]

/-- the kernel of a leaf: `leafDen` without the two length normalisations -/
noncomputable def leafKer (E : Env) (u : Nat) (c : LeafCls) (p : Params) (xi : V) : V :=
  let s := p.inS
  let t := if squareLeaf c then p.inS else p.outS
  match c with
  | .identity | .ravel | .reshape => xi
  | .homothety => vsmul (p.vals.data.headD 1) xi
  | .diagonal => perLeaf (diagLeaf true p.vals (p.ints.getD 0 [])) s.leaves t.leaves xi
  | .broadcastDiagonal => perLeaf (diagLeaf false p.vals (p.ints.getD 0 [])) s.leaves t.leaves xi
  | .index | .pack => perLeaf (gatherLeaf p.idx) s.leaves t.leaves xi
  | .moveAxis => perLeaf (moveLeaf (p.ints.getD 0 []) (p.ints.getD 1 [])) s.leaves t.leaves xi
  | .qurot =>
    match kindOf s.leaves.length with
    | some k => stokesMap k (s.leaves.headD default).size (rotG p.vals (s.leaves.headD default).shape) xi
    | none => xi
  | .hwp =>
    match kindOf s.leaves.length with
    | some k => stokesMap k (s.leaves.headD default).size (fun _ => SV.hwp) xi
    | none => xi
  | .polarizer =>
    match kindOf s.leaves.length with
    | some k => polMap k (s.leaves.headD default).size xi
    | none => xi
  | .toeplitz =>
    match toepK p.vals with
    | some K => perLeaf (toepLeaf K p.vals) s.leaves t.leaves xi
    | none => E.f u xi
  | .dense => if denseShared p then denseLeaf p xi else E.f u xi
  | .obsMatrix | .opaque => E.f u xi

noncomputable def leafKerT (E : Env) (u : Nat) (c : LeafCls) (p : Params) (yi : V) : V :=
  let s := p.inS
  let t := if squareLeaf c then p.inS else p.outS
  match c with
  | .identity | .ravel | .reshape => yi
  | .homothety => vsmul (p.vals.data.headD 1) yi
  | .diagonal => perLeaf (diagLeaf true p.vals (p.ints.getD 0 [])) s.leaves t.leaves yi
  | .broadcastDiagonal => yi
  | .index | .pack => perLeaf (scatterLeaf p.idx) t.leaves s.leaves yi
  | .moveAxis => perLeaf (moveLeaf (p.ints.getD 1 []) (p.ints.getD 0 [])) t.leaves s.leaves yi
  | .qurot =>
    match kindOf s.leaves.length with
    | some k => stokesMap k (s.leaves.headD default).size (rotTG p.vals (s.leaves.headD default).shape) yi
    | none => yi
  | .hwp =>
    match kindOf s.leaves.length with
    | some k => stokesMap k (s.leaves.headD default).size (fun _ => SV.hwp) yi
    | none => yi
  | .polarizer =>
    match kindOf s.leaves.length with
    | some k => polTMap k (s.leaves.headD default).size yi
    | none => yi
  | .toeplitz =>
    match toepK p.vals with
    | some K => perLeaf (toepLeaf K p.vals) s.leaves t.leaves yi
    | none => E.fT u yi
  | .dense => if denseShared p then denseLeafT p yi else E.fT u yi
  | .obsMatrix | .opaque => E.fT u yi

theorem leafDen_eq (E : Env) (u : Nat) (c : LeafCls) (p : Params) (x : V) :
    leafDen E u c p x = fit (outSize (.leaf u c p)) (leafKer E u c p (fit p.inS.size x)) := rfl

theorem leafDenT_eq (E : Env) (u : Nat) (c : LeafCls) (p : Params) (y : V) :
    leafDenT E u c p y = fit p.inS.size (leafKerT E u c p (fit (outSize (.leaf u c p)) y)) := rfl

/-- on an input of the declared size only the result is normalised; for a concrete class `leafKer E u c p x`
reduces to the kernel of that class by `rfl` -/
theorem leafDen_of_len {E : Env} {u : Nat} {c : LeafCls} {p : Params} {x : V} (hx : x.length = p.inS.size) :
    leafDen E u c p x = fit (outSize (.leaf u c p)) (leafKer E u c p x) := by
  rw [leafDen_eq, fit_eq_self hx]

theorem leafDenT_of_len {E : Env} {u : Nat} {c : LeafCls} {p : Params} {y : V}
    (hy : y.length = outSize (.leaf u c p)) :
    leafDenT E u c p y = fit p.inS.size (leafKerT E u c p y) := by
  rw [leafDenT_eq, fit_eq_self hy]

theorem leafDen_length (E : Env) (u : Nat) (c : LeafCls) (p : Params) (x : V) :
    (leafDen E u c p x).length = outSize (.leaf u c p) := fit_length _ _

theorem leafDenT_length (E : Env) (u : Nat) (c : LeafCls) (p : Params) (y : V) :
    (leafDenT E u c p y).length = inSize (.leaf u c p) := fit_length _ _

theorem chooseInv_length (n : Nat) (f : V → V) (x : V) : (chooseInv n f x).length = n := by
  unfold chooseInv
  split
  · exact fit_length _ _
  · exact List.length_replicate ..

theorem chooseInv_of_not_exists {n : Nat} {f : V → V} (h : ¬ ∃ g, IsInvOn n f g) :
    chooseInv n f = fun _ => List.replicate n 0 := dif_neg h

/-- the four `++` recursions (`diagApp`, `diagAppT`, `colApp`, `colAppT`) concatenate one vector per operand,
normalised to the length `sz o` and computed from its own part `b o` of the input -/
theorem appendRec_length {F : List Op → V → V} {h b : Op → V → V} {sz : Op → Nat} (hnil : ∀ x, F [] x = [])
    (hcons : ∀ o os x, F (o :: os) x = fit (sz o) (h o x) ++ F os (b o x)) (ops : List Op) (x : V) :
    (F ops x).length = (ops.map sz).sum := by
  induction ops generalizing x with
  | nil => rw [hnil]; rfl
  | cons o os ih => rw [hcons, List.length_append, fit_length, ih, List.map_cons, List.sum_cons]

theorem diagApp_length (E : Env) (ops : List Op) (x : V) : (diagApp E ops x).length = (ops.map outSize).sum :=
  appendRec_length (fun _ => rfl) (fun _ _ _ => rfl) ops x

/-- the four `vadd` recursions (`sumApp`, `sumAppT`, `rowApp`, `rowAppT`) add up one vector per operand, each
computed from its own part `b o` of the input; when all these vectors have length `n`, so has the sum of a
non-empty list -/
theorem vaddRec_length {F : List Op → V → V} {h b : Op → V → V} (n : Nat) (hnil : ∀ x, F [] x = [])
    (hcons : ∀ o os x, F (o :: os) x = vadd (h o x) (F os (b o x))) (ops : List Op) (hne : ops ≠ [])
    (hh : ∀ o ∈ ops, ∀ x, (h o x).length = n) (x : V) : (F ops x).length = n := by
  induction ops generalizing x with
  | nil => exact absurd rfl hne
  | cons o os ih =>
    rw [hcons]
    refine vadd_length_eq (hh o (List.mem_cons_self ..) x) ?_
    cases os with
    | nil => rw [hnil]; exact Nat.zero_le n
    | cons o' os' =>
      exact (ih (List.cons_ne_nil o' os') (fun o'' ho'' => hh o'' (List.mem_cons_of_mem _ ho'')) _).le

theorem app_length (E : Env) (ops : List Op) (hne : ops ≠ [])
    (h : ∀ o ∈ ops, ∀ x, (den E o x).length = outSize o) (x : V) :
    (app E ops x).length = (outSHead ops).size := by
  cases ops with
  | nil => exact absurd rfl hne
  | cons o os => exact h o (List.mem_cons_self ..) _

theorem appT_length (E : Env) (ops : List Op) (hne : ops ≠ [])
    (h : ∀ o ∈ ops, ∀ y, (denT E o y).length = inSize o) (y : V) :
    (appT E ops y).length = (inSLast ops).size := by
  induction ops generalizing y with
  | nil => exact absurd rfl hne
  | cons o os ih =>
    cases os with
    | nil => exact h o (List.mem_cons_self ..) _
    | cons b rest => exact ih (List.cons_ne_nil b rest) (fun o' ho' => h o' (List.mem_cons_of_mem _ ho')) _

def LenAt (E : Env) (o : Op) : Prop :=
  (∀ x, (den E o x).length = outSize o) ∧ (∀ y, (denT E o y).length = inSize o)

/-- the only structural fact used for wrappers: a lazy inverse wraps a square operand -/
theorem lenAt_wrap (E : Env) (u : Nat) (k : WrapCls) (o : Op) (hsq : k.isLazy → Op.inS o = Op.outS o)
    (ih : LenAt E o) : LenAt E (.wrap u k o) := by
  unfold LenAt
  rw [outSize_wrap, inSize_wrap]
  rcases den_wrap_cases E k o with ⟨_, hd, h⟩ | ⟨hk, h⟩ | ⟨hd, u', p, rfl, h⟩
  · rw [(h u).1, (h u).2, if_neg hd]
    exact ⟨ih.2, ih.1⟩
  · have hs : outSize o = inSize o := (congrArg Struct.size (hsq (hk.elim .inl fun hd => .inr (.inr hd)))).symm
    rw [(h u).1, (h u).2, hs, ite_self]
    exact ⟨chooseInv_length _ _, chooseInv_length _ _⟩
  · rw [(h u).1, (h u).2, if_pos hd]
    exact ⟨leafDen_length E u' _ _, leafDen_length E u' _ _⟩

theorem lenAt_cont (E : Env) (u : Nat) (k : ContCls) (td : TreeDef) (ops : List Op) (hne : ops ≠ [])
    (hc : ContOK k td ops) (ih : ∀ o ∈ ops, LenAt E o) : LenAt E (.cont u k td ops) := by
  obtain ⟨_, hc⟩ := hc
  have hdiagIn : (ops.map inSize).sum = inSize (.cont u .blockDiag td ops) := by
    rw [← inSList_sizes, ← nest_size td]; rfl
  have hdiagOut : (ops.map outSize).sum = outSize (.cont u .blockDiag td ops) := by
    rw [← outSList_sizes, ← nest_size td]; rfl
  cases k with
  | add =>
    exact ⟨vaddRec_length (F := sumApp E) (outSHead ops).size (fun _ => rfl) (fun _ _ _ => rfl) ops hne
        fun o ho x => ((ih o ho).1 x).trans (congrArg Struct.size (hc o ho).2),
      vaddRec_length (F := sumAppT E) (inSHead ops).size (fun _ => rfl) (fun _ _ _ => rfl) ops hne
        fun o ho y => ((ih o ho).2 y).trans (congrArg Struct.size (hc o ho).1)⟩
  | blockRow =>
    exact ⟨vaddRec_length (F := rowApp E) (outSHead ops).size (fun _ => rfl) (fun _ _ _ => rfl) ops hne
        fun o ho x => ((ih o ho).1 _).trans (congrArg Struct.size (hc o ho)),
      fun y => (appendRec_length (F := colAppT E) (fun _ => rfl) (fun _ _ _ => rfl) ops y).trans hdiagIn⟩
  | blockDiag =>
    exact ⟨fun x => (diagApp_length E ops x).trans hdiagOut,
      fun y => (appendRec_length (F := diagAppT E) (fun _ => rfl) (fun _ _ _ => rfl) ops y).trans hdiagIn⟩
  | blockCol =>
    exact ⟨fun x => (appendRec_length (F := colApp E) (fun _ => rfl) (fun _ _ _ => rfl) ops x).trans hdiagOut,
      vaddRec_length (F := rowAppT E) (inSHead ops).size (fun _ => rfl) (fun _ _ _ => rfl) ops hne
        fun o ho y => ((ih o ho).2 _).trans (congrArg Struct.size (hc o ho))⟩

theorem lenAt (E : Env) (o : Op) : StructOK o → LenAt E o := by
  induction o using Op.induction_mem with
  | leaf u c p => exact fun _ => ⟨leafDen_length E u c p, leafDenT_length E u c p⟩
  | wrap u k o ih =>
    intro h
    rw [StructOK_wrap_iff] at h
    exact lenAt_wrap E u k o (fun hk => (h.2.1 hk).1) (ih h.1)
  | comp u ops ih =>
    intro h
    rw [StructOK_comp_iff] at h
    exact ⟨app_length E ops h.1 fun o ho => (ih o ho (h.2.1 o ho)).1,
      appT_length E ops h.1 fun o ho => (ih o ho (h.2.1 o ho)).2⟩
  | cont u k td ops ih =>
    intro h
    rw [StructOK_cont_iff] at h
    exact lenAt_cont E u k td ops h.1 h.2.2 fun o ho => ih o ho (h.2.1 o ho)

theorem lenAtList (E : Env) : ∀ ops, WTList (fun _ => True) (fun _ _ => True) ops → ∀ o ∈ ops, LenAt E o :=
  fun ops h o ho => lenAt E o ((WTList_iff _ _ ops).1 h o ho)

/-- every structurally well-formed operator returns a vector of its declared output size, whatever the input (and
its transpose a vector of the declared input size) -/
theorem lenLaw (E : Env) : LenLaw E :=
  ⟨fun o h => (lenAt E o h).1, fun o h => (lenAt E o h).2⟩

theorem den_length (E : Env) (o : Op) (h : StructOK o) (x : V) : (den E o x).length = outSize o :=
  (lenAt E o h).1 x

theorem denT_length (E : Env) (o : Op) (h : StructOK o) (y : V) : (denT E o y).length = inSize o :=
  (lenAt E o h).2 y

/-- a class of maps on flat vectors that is closed under what `den` and `denT` build their nodes from:
composition, sums, splitting the input and concatenating normalised results, lazy inverses -/
structure MapClass (C : (V → V) → Prop) : Prop where
  id : C fun x => x
  zero : C fun _ => []
  comp {f g : V → V} : C f → C g → C fun x => f (g x)
  add {f g : V → V} : C f → C g → C fun x => vadd (f x) (g x)
  append {f g : V → V} (n : Nat) : C f → C g → C fun x => fit n (f x) ++ g x
  fit (n : Nat) : C (fit n)
  drop (n : Nat) : C (List.drop n)
  inv {f : V → V} (n : Nat) : C f → C (chooseInv n f)

theorem MapClass.headChunk {C : (V → V) → Prop} (hC : MapClass C) (n : Nat) : C (headChunk n) := by
  rw [show ListSem.headChunk n = ListSem.fit n from funext (headChunk_eq_fit n)]
  exact hC.fit n

theorem MapClass.perLeaf {C : (V → V) → Prop} (hC : MapClass C) {f : LeafS → LeafS → V → V}
    (hf : ∀ li lo, C (f li lo)) : ∀ ins outs : List LeafS, C (perLeaf f ins outs)
  | [], _ => hC.zero
  | i :: ins, [] => by
    rw [show ListSem.perLeaf f (i :: ins) [] = fun _ => [] from funext (perLeaf_nil_right f _)]
    exact hC.zero
  | i :: ins, o :: outs => by
    rw [show ListSem.perLeaf f (i :: ins) (o :: outs) = _ from funext (perLeaf_cons f i o ins outs)]
    exact hC.append _ (hC.comp (hf i o) (hC.headChunk _)) (hC.comp (hC.perLeaf hf ins outs) (hC.drop _))

/-- the ten list recursions of the denotation, over operands whose maps are in the class -/
theorem MapClass.lists {C : (V → V) → Prop} (hC : MapClass C) (E : Env) : ∀ ops : List Op,
    (∀ o ∈ ops, C (den E o) ∧ C (denT E o)) →
    (C (app E ops) ∧ C (appT E ops)) ∧ (C (sumApp E ops) ∧ C (sumAppT E ops)) ∧
    (C (rowApp E ops) ∧ C (rowAppT E ops)) ∧ (C (diagApp E ops) ∧ C (diagAppT E ops)) ∧
    (C (colApp E ops) ∧ C (colAppT E ops))
  | [], _ => ⟨⟨hC.id, hC.id⟩, ⟨hC.zero, hC.zero⟩, ⟨hC.zero, hC.zero⟩, ⟨hC.zero, hC.zero⟩, ⟨hC.zero, hC.zero⟩⟩
  | o :: os, h =>
    have ⟨hd, hdT⟩ := h o (List.mem_cons_self ..)
    have ⟨⟨a, aT⟩, ⟨s, sT⟩, ⟨r, rT⟩, ⟨d, dT⟩, ⟨c, cT⟩⟩ :=
      hC.lists E os fun o' ho' => h o' (List.mem_cons_of_mem _ ho')
    ⟨⟨(hC.comp hd a : C fun x => den E o (ListSem.app E os x)),
      (hC.comp aT hdT : C fun y => ListSem.appT E os (denT E o y))⟩,
     ⟨hC.add hd s, hC.add hdT sT⟩,
     ⟨hC.add (hC.comp hd (hC.headChunk _)) (hC.comp r (hC.drop _)),
      hC.add (hC.comp hdT (hC.headChunk _)) (hC.comp rT (hC.drop _))⟩,
     ⟨hC.append _ (hC.comp hd (hC.headChunk _)) (hC.comp d (hC.drop _)),
      hC.append _ (hC.comp hdT (hC.headChunk _)) (hC.comp dT (hC.drop _))⟩,
     ⟨hC.append _ hd c, hC.append _ hdT cT⟩⟩

/-- a class of maps closed under the node constructors contains the denotation of every operator and of its
transpose as soon as it contains those of the leaves — no well-formedness is needed, every node normalises the
lengths -/
theorem den_mem {C : (V → V) → Prop} (hC : MapClass C) (E : Env)
    (hl : ∀ u c p, C (leafDen E u c p) ∧ C (leafDenT E u c p)) (o : Op) : C (den E o) ∧ C (denT E o) := by
  induction o using Op.induction_mem with
  | leaf u c p => exact hl u c p
  | wrap u k o ih =>
    rcases den_wrap_cases E k o with ⟨_, _, h⟩ | ⟨_, h⟩ | ⟨_, u', p, _, h⟩ <;> rw [(h u).1, (h u).2]
    exacts [⟨ih.2, ih.1⟩, ⟨hC.inv _ ih.1, hC.inv _ ih.2⟩, ⟨(hl u' _ _).1, (hl u' _ _).1⟩]
  | comp u ops ih => exact (hC.lists E ops ih).1
  | cont u k td ops ih =>
    obtain ⟨-, s, r, d, c⟩ := hC.lists E ops ih
    cases k with
    | add => exact s
    | blockRow => exact ⟨r.1, c.2⟩
    | blockDiag => exact d
    | blockCol => exact ⟨c.1, r.2⟩

/-- `f` commutes with multiplication by a scalar, on ALL inputs -/
def Hom (f : V → V) : Prop := ∀ (a : ℝ) (x : V), f (x.map fun v => a * v) = (f x).map fun v => a * v

/-- a lazy inverse is homogeneous on inputs of any length, whatever `f` is: it first normalises the length -/
theorem chooseInv_hom (n : Nat) (f : V → V) : Hom (chooseInv n f) := by
  intro a x
  unfold chooseInv
  split
  · rename_i h
    show fit n (Classical.choose h (fit n (x.map fun v => a * v))) =
      (fit n (Classical.choose h (fit n x))).map fun v => a * v
    rw [fit_map, (Classical.choose_spec h).2 a (fit n x) (fit_length n x), fit_map]
  · simp only [List.map_replicate, mul_zero]

/-- the maps commuting with multiplication by ONE scalar `a` -/
theorem homClass (a : ℝ) : MapClass fun f => ∀ x : V, f (x.map fun v => a * v) = (f x).map fun v => a * v where
  id _ := rfl
  zero _ := rfl
  comp hf hg x := (congrArg _ (hg x)).trans (hf _)
  add hf hg x := by simp only [hf x, hg x, vadd_map]
  append n hf hg x := by simp only [hf x, hg x, fit_map, List.map_append]
  fit n := fit_map n a
  drop _ _ := List.map_drop.symm
  inv n _ := chooseInv_hom n _ a

def HomAt (E : Env) (o : Op) : Prop := Hom (den E o) ∧ Hom (denT E o)

theorem homAt (E : Env) (h : LeafHom E) (o : Op) : HomAt E o :=
  have := fun a => den_mem (homClass a) E (fun u c p => ⟨h.1 u c p a, h.2 u c p a⟩) o
  ⟨fun a => (this a).1, fun a => (this a).2⟩

theorem homAtList (E : Env) (h : LeafHom E) : ∀ ops : List Op, ∀ o ∈ ops, HomAt E o :=
  fun _ o _ => homAt E h o

/-- every operator commutes with multiplication by a scalar, on all inputs, given that the leaf kernels do (no
well-formedness is needed) -/
theorem homLaw (E : Env) (h : LeafHom E) : HomLaw E :=
  ⟨fun o => (homAt E h o).1, fun o => (homAt E h o).2⟩

theorem chooseInv_eq_choose (n : Nat) (f : V → V) (h : ∃ g, IsInvOn n f g) (x : V) (hx : x.length = n) :
    chooseInv n f x = Classical.choose h x := by
  unfold chooseInv
  rw [dif_pos h]
  show fit n (Classical.choose h (fit n x)) = _
  rw [fit_eq_self hx, fit_eq_self ((Classical.choose_spec h).1 x hx).1]

theorem isInvOn_unique (n : Nat) (f g g' : V → V) (hg : IsInvOn n f g) (hg' : IsInvOn n f g') (x : V)
    (hx : x.length = n) : g x = g' x := by
  have h1 := (hg.1 x hx)
  have h2 := hg'.1 (g x) h1.1
  rw [← h2.2.2, h1.2.1]

theorem chooseInv_eq (n : Nat) (f g : V → V) (hg : IsInvOn n f g) (x : V) (hx : x.length = n) :
    chooseInv n f x = g x := by
  rw [chooseInv_eq_choose n f ⟨g, hg⟩ x hx]
  exact isInvOn_unique n f _ g (Classical.choose_spec (⟨g, hg⟩ : ∃ g, IsInvOn n f g)) hg x hx

/-- **characterisation of `chooseInv`**: if `f` has an inverse on vectors of length `n` (and keeps that length —
without this `chooseInv n f (f x)` normalises `f x` first), `chooseInv n f` inverts `f` on those vectors -/
theorem chooseInv_spec (n : Nat) (f : V → V) (h : ∃ g, IsInvOn n f g)
    (hf : ∀ x, x.length = n → (f x).length = n) : IsInvOn n f (chooseInv n f) := by
  refine ⟨fun x hx => ⟨chooseInv_length n f x, ?_, ?_⟩, fun a x _ => chooseInv_hom n f a x⟩
  · rw [chooseInv_eq_choose n f h x hx]
    exact ((Classical.choose_spec h).1 x hx).2.1
  · rw [chooseInv_eq_choose n f h (f x) (hf x hx)]
    exact ((Classical.choose_spec h).1 x hx).2.2

/-- `den E (.wrap 0 k o)` is a two-sided inverse of `den E o` (on vectors of the declared input sizes).  The uid `0`
is arbitrary: the denotation of a wrapper does not depend on its uid (`den_wrap_uid`), see `invertibleK.left` -/
def invertibleK (E : Env) (k : WrapCls) (o : Op) : Prop :=
  (∀ x, x.length = inSize o → den E (.wrap 0 k o) (den E o x) = x) ∧
  (∀ x, x.length = inSize (.wrap 0 k o) → den E o (den E (.wrap 0 k o) x) = x)

theorem invertibleK.left {E : Env} {k : WrapCls} {o : Op} (h : invertibleK E k o) (u : Nat) (x : V)
    (hx : mem (Op.inS o) x) : den E (.wrap u k o) (den E o x) = x := by
  rw [den_wrap_uid]
  exact h.1 x hx

theorem invertibleK.right {E : Env} {k : WrapCls} {o : Op} (h : invertibleK E k o) (u : Nat) (x : V)
    (hx : mem (Op.inS (.wrap u k o)) x) : den E o (den E (.wrap u k o) x) = x := by
  rw [den_wrap_uid]
  rw [inS_wrap_uid] at hx
  exact h.2 x hx

/-- **the invertibility predicate in the shape `ArithSem.invertible` wants**: each of the three lazy-inverse
wrappers of `o` denotes a two-sided inverse of `den E o`.

NOTE: `ArithSem.inv_left/inv_right` quantify over the three classes independently of the operand, so this
predicate also speaks of `QURotationTransposeOperator(o)` (denoted by `denT E o`) for operands that are not
rotations: it forces `denT E o ∘ den E o = id`, which fails for `2 * I` (`not_invertible_homothety`).
`invertibleG` below is the predicate restricted to the wrappers the constructors can build. -/
def invertible (E : Env) (o : Op) : Prop := ∀ k : WrapCls, k.isLazy → invertibleK E k o

theorem inv_left (E : Env) (u : Nat) (k : WrapCls) (o : Op) (hi : invertible E o)
    (hk : k = .inverse ∨ k = .qurotT ∨ k = .diagInv) (x : V) (hx : mem (Op.inS o) x) :
    den E (.wrap u k o) (den E o x) = x := (hi k hk).left u x hx

theorem inv_right (E : Env) (u : Nat) (k : WrapCls) (o : Op) (hi : invertible E o)
    (hk : k = .inverse ∨ k = .qurotT ∨ k = .diagInv) (x : V) (hx : mem (Op.inS (.wrap u k o)) x) :
    den E o (den E (.wrap u k o) x) = x := (hi k hk).right u x hx

/-- the same, for the wrappers that pass their constructor (`WrapOK`: a `QURotationTransposeOperator` wraps a
`QURotationOperator`) -/
def invertibleG (E : Env) (o : Op) : Prop :=
  ∀ k : WrapCls, k.isLazy → (k = .qurotT → o.isQURot = true) → invertibleK E k o

theorem invertibleG_of_invertible (E : Env) (o : Op) (h : invertible E o) : invertibleG E o :=
  fun k hk _ => h k hk

theorem inv_leftG (E : Env) (u : Nat) (k : WrapCls) (o : Op) (hi : invertibleG E o)
    (hk : k = .inverse ∨ k = .qurotT ∨ k = .diagInv) (hq : k = .qurotT → o.isQURot = true)
    (x : V) (hx : mem (Op.inS o) x) : den E (.wrap u k o) (den E o x) = x := (hi k hk hq).left u x hx

theorem inv_rightG (E : Env) (u : Nat) (k : WrapCls) (o : Op) (hi : invertibleG E o)
    (hk : k = .inverse ∨ k = .qurotT ∨ k = .diagInv) (hq : k = .qurotT → o.isQURot = true)
    (x : V) (hx : mem (Op.inS (.wrap u k o)) x) : den E o (den E (.wrap u k o) x) = x :=
  (hi k hk hq).right u x hx

theorem invertibleK_of_chooseInv (E : Env) (k : WrapCls) (o : Op) (hs : StructOK o) (hsq : Op.inS o = Op.outS o)
    (h : ∃ g, IsInvOn (inSize o) (den E o) g) (hk : den E (.wrap 0 k o) = chooseInv (inSize o) (den E o)) :
    invertibleK E k o := by
  have hio : outSize o = inSize o := (congrArg Struct.size hsq).symm
  have hI := chooseInv_spec _ _ h fun x _ => (den_length E o hs x).trans hio
  unfold invertibleK
  rw [hk, inSize_wrap, hio, ite_self]
  exact ⟨fun x hx => (hI.1 x hx).2.2, fun x hx => (hI.1 x hx).2.1⟩

theorem invertibleK_inverse (E : Env) (o : Op) (hs : StructOK o) (hsq : Op.inS o = Op.outS o)
    (h : ∃ g, IsInvOn (inSize o) (den E o) g) : invertibleK E .inverse o :=
  invertibleK_of_chooseInv E .inverse o hs hsq h rfl

/-- sufficient condition for `invertibleG`: a square, structurally well-formed operand with an inverse;
when it is a rotation its transpose is that inverse, when it is a diagonal leaf the diagonal of the
pseudo-inverse values is (two leaf laws, discharged with the kernels) -/
theorem invertibleG_of (E : Env) (o : Op) (hs : StructOK o) (hsq : Op.inS o = Op.outS o)
    (h : ∃ g, IsInvOn (inSize o) (den E o) g)
    (hrot : o.isQURot = true → invertibleK E .qurotT o)
    (hdiag : ∀ u p, o = .leaf u .diagonal p → invertibleK E .diagInv o) : invertibleG E o := by
  intro k hk hq
  rcases hk with rfl | rfl | rfl
  · exact invertibleK_inverse E o hs hsq h
  · exact hrot (hq rfl)
  · by_cases hd : ∃ u p, o = .leaf u .diagonal p
    · obtain ⟨u, p, he⟩ := hd
      exact hdiag u p he
    · exact invertibleK_of_chooseInv E .diagInv o hs hsq h (den_diagInv_of_not_leaf fun u p he => hd ⟨u, p, he⟩)

/-! ### the laws, in the shape of `OpSem` / `ArithSem`

`mem s x := x.length = s.size`, `smul := vsmul`, `add := vadd`, `zero := []`. -/

namespace Laws

theorem honest (E : Env) (o : Op) (ho : StructOK o) (x : V) (_hx : mem (Op.inS o) x) :
    mem (Op.outS o) (den E o x) := den_length E o ho x

theorem honestT (E : Env) (o : Op) (ho : StructOK o) (y : V) (_hy : mem (Op.outS o) y) :
    mem (Op.inS o) (denT E o y) := denT_length E o ho y

theorem smul_one (x : V) : vsmul 1 x = x := vsmul_one x

theorem smul_smul (a b : Rat) (x : V) : vsmul a (vsmul b x) = vsmul (a * b) x := vsmul_vsmul a b x

theorem mem_smul (s : Struct) (a : Rat) (x : V) (h : mem s x) : mem s (vsmul a x) :=
  (vsmul_length a x).trans h

theorem identity_law (E : Env) (o : Op) (h : o.isIdentity = true) (x : V) (hx : mem (Op.inS o) x) :
    den E o x = x := by
  obtain ⟨u, p, rfl⟩ := isLeafCls_iff.1 h
  exact (leafDen_of_len hx).trans (fit_eq_self hx)

theorem homothety_law (E : Env) (o : Op) (h : o.isHomothety = true) (x : V) (hx : mem (Op.inS o) x) :
    den E o x = vsmul (homValue o) x := by
  obtain ⟨u, p, rfl⟩ := isLeafCls_iff.1 h
  exact (leafDen_of_len hx).trans (fit_eq_self ((vsmul_length _ x).trans hx))

theorem homogeneous (E : Env) (hE : LeafHom E) (o : Op) (a : Rat) (x : V) :
    den E o (vsmul a x) = vsmul a (den E o x) := (homLaw E hE).1 o (a : ℝ) x

theorem homogeneousT (E : Env) (hE : LeafHom E) (o : Op) (a : Rat) (y : V) :
    denT E o (vsmul a y) = vsmul a (denT E o y) := (homLaw E hE).2 o (a : ℝ) y

/-- `Sem.app` of the framework is the recursion `ListSem.app` -/
theorem comp_law_sem (E : Env) (sem : Sem Op V Struct) (hd : sem.den = den E) (u : Nat) (ops : List Op)
    (x : V) : den E (.comp u ops) x = sem.app ops x := by
  rw [den_comp]
  induction ops with
  | nil => rfl
  | cons o os ih => rw [Sem.app, app, ih, hd]

theorem add_law (E : Env) (u : Nat) (td : TreeDef) (ops : List Op) (x : V) :
    den E (.cont u .add td ops) x = (ops.map fun o => den E o x).foldr vadd [] := by
  rw [den_cont_add]
  induction ops with
  | nil => rfl
  | cons o os ih => rw [sumApp, ih]; rfl

theorem add_assoc (x y z : V) : vadd (vadd x y) z = vadd x (vadd y z) := vadd_assoc x y z

theorem zero_add (x : V) : vadd [] x = x := vadd_nil_left x

theorem add_zero (x : V) : vadd x [] = x := vadd_nil_right x

theorem smul_sum (a : Rat) (l : List V) : vsmul a (l.foldr vadd []) = (l.map (vsmul a)).foldr vadd [] := by
  induction l with
  | nil => rfl
  | cons v l ih => rw [List.foldr_cons, vsmul_vadd, ih]; rfl

end Laws

/-! ### `invertible` (all three wrapper classes at once) is too strong for a non-orthogonal operand -/

/-- one `float64` scalar leaf -/
def scalarStruct : Struct := ⟨[Tok.leaf], [⟨[], .f64⟩]⟩

/-- `2 * I` on one scalar: it has an inverse (`InverseOperator(2 I)` is fine), but `invertible` fails, because
`ArithSem.inv_left` also speaks of `QURotationTransposeOperator(2 I)` -/
theorem not_invertible_homothety (E : Env) :
    ¬ invertible E (mkHomothety 2 scalarStruct) := by
  intro h
  -- `invertible` makes the transpose a left inverse, but `(2 I)ᵀ (2 I) [1] = [4]`
  have h1 : denT E (mkHomothety 2 scalarStruct) (den E (mkHomothety 2 scalarStruct) [1]) = [1] :=
    (h .qurotT (.inr (.inl rfl))).1 [1] rfl
  have h2 : ((2 : ℚ) : ℝ) * (((2 : ℚ) : ℝ) * 1) = 1 := List.head_eq_of_cons_eq h1
  norm_num at h2

/-- … while `invertibleG` (and `invertibleK E .inverse`, `invertibleK E .diagInv`) hold for it -/
theorem invertibleG_homothety (E : Env) : invertibleG E (mkHomothety 2 scalarStruct) := by
  have hden : ∀ x : V, x.length = 1 → den E (mkHomothety 2 scalarStruct) x = vsmul 2 x :=
    fun x hx => Laws.homothety_law E _ rfl x hx
  have h2 : ∀ a b : ℚ, a * b = 1 → ∀ x : V, vsmul a (vsmul b x) = x :=
    fun a b hab x => by rw [vsmul_vsmul, hab, vsmul_one]
  refine invertibleG_of E _ (StructOK_leaf _ _ _) rfl ⟨vsmul (1 / 2), fun x hx => ⟨?_, ?_, ?_⟩, fun a x _ => ?_⟩
    (fun h => nomatch h) (fun u p h => nomatch h)
  · exact (vsmul_length _ x).trans hx
  · rw [hden _ ((vsmul_length _ x).trans hx)]
    exact h2 2 (1 / 2) (by norm_num) x
  · rw [hden x hx]
    exact h2 (1 / 2) 2 (by norm_num) x
  · simp only [vsmul_eq_map, List.map_map]
    exact List.map_congr_left fun v _ => mul_left_comm _ _ _

end ListSem
end Furax
