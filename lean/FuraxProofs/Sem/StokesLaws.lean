/-
Polarimetry laws of the list denotation (FuraxProofs/Sem/ListSem.lean): QU rotations, half-wave plate, linear
polariser.  The statements have the shape of the fields `qurot_inv`, `rot_rot`, `rot_rotT`, `rotT_rot`,
`rotT_rotT`, `rot_hwp`, `rotT_hwp`, `polarizer_hwp` of `RuleLaws` (FuraxProofs/Lemmas/RuleSound.lean), with
`A.den := den E`, `A.mem s x := x.length = s.size`, `leafOK := stokesOK`.
-/
import FuraxProofs.Sem.ListSemBasic
import FuraxProofs.Lemmas.DiagonalSpec
import FuraxProofs.Props.C15
import Mathlib.Analysis.SpecialFunctions.Trigonometric.Basic
import Mathlib.Tactic.Ring
import Mathlib.Tactic.Linarith
namespace Furax
namespace ListSem
open Op

def ncomp (k : StokesKind) : Nat := (SV.present k (default : SV ℝ)).length

theorem present_length (k : StokesKind) (v : SV ℝ) : (SV.present k v).length = ncomp k := by
  cases k <;> rfl

theorem kindOf_ncomp {m : Nat} {k : StokesKind} (h : kindOf m = some k) : m = ncomp k := by
  unfold kindOf at h
  split at h <;> simp at h <;> subst h <;> rfl

/-- the Stokes vector of sample `t` of a flat vector of `ncomp k` components of `n` samples -/
def svAt (k : StokesKind) (n : Nat) (x : V) (t : Nat) : SV ℝ :=
  SV.ofPresent k ((chunks (List.replicate (ncomp k) n) x).map fun c => c.getD t 0) 0

theorem stokesMap_eq (k : StokesKind) (n : Nat) (g : Nat → SV ℝ → SV ℝ) (x : V) :
    stokesMap k n g x = ((List.range (ncomp k)).map fun c => (List.range n).map fun t =>
      (SV.present k (g t (svAt k n x t))).getD c 0).flatten := rfl

theorem polMap_eq (k : StokesKind) (n : Nat) (x : V) :
    polMap k n x = (List.range n).map fun t => SV.pol (1 / 2 : ℝ) k (svAt k n x t) := rfl

theorem stokesMap_length (k : StokesKind) (n : Nat) (g : Nat → SV ℝ → SV ℝ) (x : V) :
    (stokesMap k n g x).length = ncomp k * n := by
  rw [stokesMap_eq, List.length_flatten]
  simp [Function.comp_def]

theorem polMap_length (k : StokesKind) (n : Nat) (x : V) : (polMap k n x).length = n := by
  simp [polMap_eq]

/-- `stokesMap` depends on the sample maps only through the present components, sample by sample -/
theorem stokesMap_congr (k : StokesKind) (n : Nat) (g g' : Nat → SV ℝ → SV ℝ) (x x' : V)
    (h : ∀ t, t < n → SV.present k (g t (svAt k n x t)) = SV.present k (g' t (svAt k n x' t))) :
    stokesMap k n g x = stokesMap k n g' x' := by
  rw [stokesMap_eq, stokesMap_eq]
  congr 1
  apply List.map_congr_left
  intro c _
  apply List.map_congr_left
  intro t ht
  rw [h t (List.mem_range.mp ht)]

theorem range_map_getD (l : List ℝ) : ((List.range l.length).map fun c => l.getD c 0) = l :=
  Axes.ma_map_getD_range l

theorem svAt_stokesMap (k : StokesKind) (n : Nat) (g : Nat → SV ℝ → SV ℝ) (x : V) (t : Nat) (ht : t < n) :
    svAt k n (stokesMap k n g x) t = SV.ofPresent k (SV.present k (g t (svAt k n x t))) 0 := by
  -- `stokesMap` concatenates `ncomp k` rows of length `n`, which `chunks` gives back; then read entry `t` of each
  conv_lhs => rw [svAt, stokesMap_eq, chunks_of_flatten _ _ (by
    rw [List.map_map]
    exact List.eq_replicate_iff.mpr ⟨by simp, fun _ h => by obtain ⟨_, -, rfl⟩ := List.mem_map.mp h; simp⟩),
    List.map_map]
  rw [← range_map_getD (SV.present k (g t (svAt k n x t))), present_length]
  exact congrArg (SV.ofPresent k · 0) (List.map_congr_left fun c _ => Axes.ma_getD_map_range n _ t ht)

theorem present_ofPresent (k : StokesKind) (l : List ℝ) (h : l.length = ncomp k) :
    SV.present k (SV.ofPresent k l 0) = l := by
  cases k
  · obtain ⟨a, rfl⟩ := List.length_eq_one_iff.mp h; rfl
  · obtain ⟨a, b, rfl⟩ := List.length_eq_two.mp h; rfl
  · obtain ⟨a, b, c, rfl⟩ := List.length_eq_three.mp h; rfl
  · match l, h with
    | [a, b, c, d], _ => rfl

/-- the present components of sample `t`: entry `t` of every component -/
theorem present_svAt (k : StokesKind) (n : Nat) (x : V) (t : Nat) :
    SV.present k (svAt k n x t) = (chunks (List.replicate (ncomp k) n) x).map fun c => c.getD t 0 :=
  present_ofPresent _ _ (by rw [List.length_map, chunks_length, List.length_replicate])

/-- vectors of `ncomp k` components of `n` samples are equal when their samples have the same present components -/
theorem stokes_ext (k : StokesKind) (n : Nat) (x y : V) (hx : x.length = ncomp k * n) (hy : y.length = ncomp k * n)
    (h : ∀ t, t < n → SV.present k (svAt k n x t) = SV.present k (svAt k n y t)) : x = y := by
  have hsum : (List.replicate (ncomp k) n).sum = ncomp k * n := by rw [List.sum_replicate, smul_eq_mul]
  rw [← chunks_flatten _ x (hx.trans hsum.symm), ← chunks_flatten _ y (hy.trans hsum.symm)]
  congr 1
  have hlen : ∀ z : V, ∀ c (hc : c < (chunks (List.replicate (ncomp k) n) z).length),
      ((chunks (List.replicate (ncomp k) n) z)[c]).length = n := by
    intro z c hc
    rw [chunks_mem_length, List.getElem_replicate]
  refine List.ext_getElem (by rw [chunks_length, chunks_length]) fun c h1 h2 => ?_
  refine List.ext_getElem (by rw [hlen x c h1, hlen y c h2]) fun t h3 h4 => ?_
  have ht := h t (hlen x c h1 ▸ h3)
  rw [present_svAt, present_svAt] at ht
  have := List.getElem_of_eq ht (by rwa [List.length_map])
  rwa [List.getElem_map, List.getElem_map, List.getD_eq_getElem _ _ h3, List.getD_eq_getElem _ _ h4] at this

theorem stokesMap_id (k : StokesKind) (n : Nat) (g : Nat → SV ℝ → SV ℝ) (x : V) (hx : x.length = ncomp k * n)
    (h : ∀ t, t < n → SV.present k (g t (svAt k n x t)) = SV.present k (svAt k n x t)) :
    stokesMap k n g x = x := by
  refine stokes_ext k n _ _ (stokesMap_length _ _ _ _) hx fun t ht => ?_
  rw [svAt_stokesMap _ _ _ _ _ ht, present_ofPresent _ _ (present_length _ _), h t ht]

/-! ### broadcasting to a shape of higher rank -/

open Furax.Axes Furax.Diagonal

/-- `s` broadcasts to `S` (NumPy, right-aligned): the rank of `s` is at most that of `S` and every dimension of
`s` is 1 or the dimension of `S` it is aligned with -/
def Bc (s S : List Nat) : Prop :=
  s.length ≤ S.length ∧
    ∀ j, j < s.length → s.getD j 0 = 1 ∨ s.getD j 0 = S.getD (j + (S.length - s.length)) 0

instance (s S : List Nat) : Decidable (Bc s S) := by unfold Bc; infer_instance

theorem bcastIndex_length' (s oi : List Nat) (h : s.length ≤ oi.length) :
    (bcastIndex s oi).length = s.length := by
  rw [bcastIndex_eq_map s oi h, List.length_map, List.length_range]

theorem bcastIndex_getD' (s oi : List Nat) (h : s.length ≤ oi.length) (j : Nat) (hj : j < s.length) :
    (bcastIndex s oi).getD j 0 = if s.getD j 0 = 1 then 0 else oi.getD (j + (oi.length - s.length)) 0 := by
  rw [bcastIndex_eq_map s oi h, ma_getD_map_range _ _ j hj, Nat.add_comm]

theorem bcastIndex_valid (s S oi : List Nat) (hb : Bc s S) (h : List.Forall₂ (· < ·) oi S) :
    List.Forall₂ (· < ·) (bcastIndex s oi) s := by
  rw [forall2_lt_iff] at h ⊢
  obtain ⟨h1, h2⟩ := h
  obtain ⟨b1, b2⟩ := hb
  refine ⟨bcastIndex_length' s oi (by omega), fun j hj => ?_⟩
  rw [bcastIndex_getD' s oi (by omega) j hj]
  have := h2 (j + (S.length - s.length)) (by omega)
  rcases b2 j hj with e | e
  · rw [if_pos e, e]; omega
  · split
    · omega
    · rw [h1, e]; exact this

/-- broadcasting in two steps reads the same entry as broadcasting at once -/
theorem bcastIndex_bcastIndex (p s oi : List Nat) (hps : Bc p s) (hs : s.length ≤ oi.length) :
    bcastIndex p (bcastIndex s oi) = bcastIndex p oi := by
  obtain ⟨b1, b2⟩ := hps
  have hl := bcastIndex_length' s oi hs
  have hp : p.length ≤ (bcastIndex s oi).length := hl ▸ b1
  have hpo : p.length ≤ oi.length := b1.trans hs
  apply ext_getD
  · rw [bcastIndex_length' _ _ hp, bcastIndex_length' _ _ hpo]
  · intro j h1
    have hj : j < p.length := bcastIndex_length' p _ hp ▸ h1
    rw [bcastIndex_getD' p _ hp j hj, bcastIndex_getD' p oi hpo j hj]
    split
    · rfl
    · next hne =>
      rw [hl, bcastIndex_getD' s oi hs _ (by omega), ← (b2 j hj).resolve_left hne, if_neg hne]
      congr 1; omega

theorem option_mapM_some {β γ : Type} (f : β → Option γ) (l : List β) (r : List γ) (h : l.mapM f = some r) :
    List.Forall₂ (fun b c => f b = some c) l r := by
  induction l generalizing r with
  | nil => cases h; exact .nil
  | cons b bs ih =>
    rw [List.mapM_cons] at h
    obtain ⟨c, hc, h⟩ := Option.bind_eq_some_iff.mp h
    obtain ⟨cs, hcs, h⟩ := Option.bind_eq_some_iff.mp h
    cases h
    exact .cons hc (ih cs hcs)

/-- a dimension of `a`, read in `a` padded with ones on the left to rank `n` -/
theorem padded_getD_add (a : List Nat) (n j : Nat) :
    (List.replicate (n - a.length) 1 ++ a).getD (j + (n - a.length)) 0 = a.getD j 0 := by
  rw [List.getD_append_right _ _ _ _ (by rw [List.length_replicate]; exact Nat.le_add_left _ _),
    List.length_replicate, Nat.add_sub_cancel]

/-- `a` broadcasts to `s` when, padded with ones to the rank of `s`, each of its dimensions is 1 or that of `s` -/
theorem Bc_of_padded {a s : List Nat} (hl : a.length ≤ s.length)
    (h : ∀ j, j < s.length → (List.replicate (s.length - a.length) 1 ++ a).getD j 0 = 1 ∨
      (List.replicate (s.length - a.length) 1 ++ a).getD j 0 = s.getD j 0) : Bc a s := by
  refine ⟨hl, fun j hj => ?_⟩
  have := h (j + (s.length - a.length)) (by omega)
  rwa [padded_getD_add] at this

/-- conversely, for `a` padded to any rank between its own and that of `S` -/
theorem padded_of_Bc {a S : List Nat} (ha : Bc a S) {n : Nat} (h1 : a.length ≤ n) (h2 : n ≤ S.length)
    (j : Nat) (hj : j < n) :
    (List.replicate (n - a.length) 1 ++ a).getD j 0 = 1 ∨
      (List.replicate (n - a.length) 1 ++ a).getD j 0 = S.getD (j + (S.length - n)) 0 := by
  by_cases hlt : j < n - a.length
  · left
    rw [List.getD_append _ _ _ _ (by rwa [List.length_replicate]), List.getD_replicate _ hlt]
  · obtain ⟨i, rfl⟩ := Nat.exists_eq_add_of_le' (Nat.le_of_not_lt hlt)
    rw [padded_getD_add]
    refine (ha.2 i (by omega)).imp_right fun e => ?_
    -- `S.length - a.length = (S.length - n) + (n - a.length)`
    rw [e, ← Nat.sub_add_sub_cancel h2 h1, Nat.add_left_comm, Nat.add_comm]

theorem bcastDim_some {x y z : Nat} (h : bcastDim (x, y) = some z) :
    (x = 1 ∨ x = z) ∧ (y = 1 ∨ y = z) ∧ (z = x ∨ z = y) := by
  by_cases hc : bcompat x y
  · rw [bcastDim_compat hc, Option.some.injEq] at h
    subst h
    unfold bcompat at hc
    unfold bdim
    split <;> omega
  · rw [bcastDim_incompat hc] at h
    cases h

/-- `broadcastShapes a b = some s`, dimension by dimension: with `a` and `b` padded with ones on the left to the
rank of `s`, both dimensions aligned with a dimension of `s` are 1 or equal to it, and it is one of them -/
theorem broadcastShapes_getD {a b s : List Nat} (h : broadcastShapes a b = some s) :
    s.length = max a.length b.length ∧ ∀ j, j < s.length →
      let x := (List.replicate (s.length - a.length) 1 ++ a).getD j 0
      let y := (List.replicate (s.length - b.length) 1 ++ b).getD j 0
      (x = 1 ∨ x = s.getD j 0) ∧ (y = 1 ∨ y = s.getD j 0) ∧ (s.getD j 0 = x ∨ s.getD j 0 = y) := by
  have hn := broadcastShapes_length a b s h
  unfold broadcastShapes at h
  obtain ⟨hlen, hget⟩ := List.forall₂_iff_get.mp (option_mapM_some _ _ _ h)
  refine ⟨hn, fun j hj => ?_⟩
  have hg := hget j (hlen ▸ hj) hj
  rw [List.get_eq_getElem, List.get_eq_getElem, List.getElem_zip] at hg
  rw [hn, List.getD_eq_getElem _ _ (by rw [List.length_append, List.length_replicate]; omega),
    List.getD_eq_getElem _ _ (by rw [List.length_append, List.length_replicate]; omega),
    List.getD_eq_getElem _ _ hj]
  exact bcastDim_some hg

theorem broadcastShapes_Bc (a b s S : List Nat) (h : broadcastShapes a b = some s) (ha : Bc a S) (hb : Bc b S) :
    Bc a s ∧ Bc b s ∧ Bc s S := by
  obtain ⟨hn, key⟩ := broadcastShapes_getD h
  have h1 : a.length ≤ s.length := hn ▸ Nat.le_max_left _ _
  have h2 : b.length ≤ s.length := hn ▸ Nat.le_max_right _ _
  have h3 : s.length ≤ S.length := hn ▸ Nat.max_le.mpr ⟨ha.1, hb.1⟩
  refine ⟨Bc_of_padded h1 fun j hj => (key j hj).1, Bc_of_padded h2 fun j hj => (key j hj).2.1, h3, fun j hj => ?_⟩
  rcases (key j hj).2.2 with e | e <;> rw [e]
  · exact padded_of_Bc ha h1 h3 j hj
  · exact padded_of_Bc hb h2 h3 j hj

/-- the flat position read in a tensor of shape `s` for the flat position `t` of the shape `S` it is broadcast to -/
def bIdx (s S : List Nat) (t : Nat) : Nat := ravelIdx s (bcastIndex s (unravel S t))

theorem bIdx_lt (s S : List Nat) (hb : Bc s S) (t : Nat) (ht : t < prodNat S) : bIdx s S t < prodNat s :=
  (ma_ravel_valid s _ (bcastIndex_valid s S _ hb (ma_unravel_valid S t ht).1)).1

theorem broadcastTo_getD {α : Type} [Inhabited α] (A : Tensor α) (S : List Nat) (t : Nat) (ht : t < prodNat S)
    (d : α) : (A.broadcastTo S).data.getD t d = A.data.getD (bIdx A.shape S t) default := by
  unfold Tensor.broadcastTo
  exact ma_getD_map_range _ _ t ht

/-- the entry of an element-wise image that a sample reads is the image of the entry it reads -/
theorem getD_bIdx_map {α β : Type} [Inhabited α] [Inhabited β] (f : α → β) (A : Tensor α) (S : List Nat) (t : Nat)
    (hw : A.wellFormed = true) (hb : Bc A.shape S) (ht : t < prodNat S) :
    (A.map f).data.getD (bIdx A.shape S t) default = f (A.data.getD (bIdx A.shape S t) default) := by
  have hlt : bIdx A.shape S t < A.data.length := by
    rw [show A.data.length = prodNat A.shape by simpa [Tensor.wellFormed] using hw]
    exact bIdx_lt _ _ hb t ht
  rw [Tensor.map, List.getD_eq_getElem _ _ (by rwa [List.length_map]), List.getD_eq_getElem _ _ hlt,
    List.getElem_map]

/-- the (rational) angle of sample `t` -/
def angleQ (A : Tensor Rat) (S : List Nat) (t : Nat) : Rat := A.data.getD (bIdx A.shape S t) default

theorem angleAt_eq (A : Tensor Rat) (S : List Nat) (t : Nat) (hw : A.wellFormed = true) (hb : Bc A.shape S)
    (ht : t < prodNat S) : angleAt A S t = ((angleQ A S t : Rat) : ℝ) := by
  unfold angleAt
  rw [broadcastTo_getD _ _ _ ht]
  exact getD_bIdx_map _ A S t hw hb ht

/-! ### validity of the polarimetry leaves -/

/-- the common shape of the Stokes components -/
def leafShape (p : Params) : List Nat := (p.inS.leaves.headD default).shape

/-- validity of the parameters of a `QURotationOperator` / `HWPOperator` / `LinearPolarizerOperator`: the input
structure is a Stokes pytree (1 to 4 leaves of one shape); the rotation angles are a well-formed array that
broadcasts to that shape; the polariser returns one leaf of that shape -/
def stokesOK (c : LeafCls) (p : Params) : Prop :=
  (∃ k, kindOf p.inS.leaves.length = some k) ∧
  (∀ l ∈ p.inS.leaves, l.shape = leafShape p) ∧
  (c = .qurot → p.vals.wellFormed = true ∧ Bc p.vals.shape (leafShape p)) ∧
  (c = .polarizer → ∃ l, p.outS.leaves = [l] ∧ l.shape = leafShape p)

/-- IQU maps of shape (2, 3), one angle per column -/
example : stokesOK .qurot
    { inS := ⟨[.node "stokes:IQU" 3, .leaf, .leaf, .leaf], [⟨[2, 3], .f64⟩, ⟨[2, 3], .f64⟩, ⟨[2, 3], .f64⟩]⟩,
      outS := ⟨[.node "stokes:IQU" 3, .leaf, .leaf, .leaf], [⟨[2, 3], .f64⟩, ⟨[2, 3], .f64⟩, ⟨[2, 3], .f64⟩]⟩,
      vals := ⟨[3], [0, 1 / 2, 1]⟩ } := by
  refine ⟨⟨.IQU, rfl⟩, by decide, fun _ => ⟨rfl, by decide⟩, fun h => by cases h⟩

example : stokesOK .polarizer
    { inS := ⟨[.node "stokes:IQU" 3, .leaf, .leaf, .leaf], [⟨[2, 3], .f64⟩, ⟨[2, 3], .f64⟩, ⟨[2, 3], .f64⟩]⟩,
      outS := ⟨[.leaf], [⟨[2, 3], .f64⟩]⟩ } := by
  refine ⟨⟨.IQU, rfl⟩, by decide, fun h => (by cases h), fun _ => ⟨_, rfl, rfl⟩⟩

theorem stokesOK_size {c : LeafCls} {p : Params} {k : StokesKind} (h : stokesOK c p)
    (hk : kindOf p.inS.leaves.length = some k) : p.inS.size = ncomp k * prodNat (leafShape p) := by
  unfold Struct.size
  have hsz : ∀ l ∈ p.inS.leaves, l.size = prodNat (leafShape p) := fun l hl => congrArg prodNat (h.2.1 l hl)
  rw [List.map_congr_left hsz, List.map_const', List.sum_replicate, smul_eq_mul, kindOf_ncomp hk]

theorem headD_size (p : Params) : (p.inS.leaves.headD default).size = prodNat (leafShape p) := rfl

section unfold
variable (E : Env) {p : Params} {k : StokesKind}

theorem den_qurot (u : Nat) (h : stokesOK .qurot p) (hk : kindOf p.inS.leaves.length = some k) (x : V)
    (hx : x.length = p.inS.size) :
    den E (.leaf u .qurot p) x =
      stokesMap k (prodNat (leafShape p)) (rotG p.vals (leafShape p)) x := by
  rw [den, leafDen_of_len hx]
  simp only [leafKer, hk]
  exact fit_eq_self ((stokesMap_length ..).trans (stokesOK_size h hk).symm)

theorem denT_qurot (u : Nat) (h : stokesOK .qurot p) (hk : kindOf p.inS.leaves.length = some k) (x : V)
    (hx : x.length = p.inS.size) :
    denT E (.leaf u .qurot p) x =
      stokesMap k (prodNat (leafShape p)) (rotTG p.vals (leafShape p)) x := by
  rw [denT, leafDenT_of_len (u := u) (c := .qurot) hx]
  simp only [leafKerT, hk]
  exact fit_eq_self ((stokesMap_length ..).trans (stokesOK_size h hk).symm)

theorem den_qurotT (uw u : Nat) (h : stokesOK .qurot p) (hk : kindOf p.inS.leaves.length = some k) (x : V)
    (hx : x.length = p.inS.size) :
    den E (.wrap uw .qurotT (.leaf u .qurot p)) x =
      stokesMap k (prodNat (leafShape p)) (rotTG p.vals (leafShape p)) x := by
  rw [den_wrap_T (k := .qurotT) nofun nofun]
  exact denT_qurot E u h hk x hx

theorem den_hwp (u : Nat) (h : stokesOK .hwp p) (hk : kindOf p.inS.leaves.length = some k) (x : V)
    (hx : x.length = p.inS.size) :
    den E (.leaf u .hwp p) x = stokesMap k (prodNat (leafShape p)) (fun _ => SV.hwp) x := by
  rw [den, leafDen_of_len hx]
  simp only [leafKer, hk]
  exact fit_eq_self ((stokesMap_length ..).trans (stokesOK_size h hk).symm)

theorem den_polarizer (u : Nat) (hk : kindOf p.inS.leaves.length = some k) (x : V)
    (hx : x.length = p.inS.size) :
    den E (.leaf u .polarizer p) x = fit p.outS.size (polMap k (prodNat (leafShape p)) x) := by
  rw [den, leafDen_of_len hx]
  simp only [leafKer, hk]
  rfl

end unfold

/-- a sample map that reads the present components only -/
def Resp (k : StokesKind) (g : Nat → SV ℝ → SV ℝ) : Prop :=
  ∀ t v w, SV.present k v = SV.present k w → SV.present k (g t v) = SV.present k (g t w)

theorem rotG_resp (k : StokesKind) (A : Tensor Rat) (S : List Nat) : Resp k (rotG A S) :=
  fun _ v w h => C15.present_rot k _ _ v w h

theorem rotTG_resp (k : StokesKind) (A : Tensor Rat) (S : List Nat) : Resp k (rotTG A S) :=
  fun _ v w h => C15.present_rotT k _ _ v w h

theorem hwp_resp (k : StokesKind) : Resp k (fun _ => SV.hwp) :=
  fun _ v w h => C15.present_hwp k v w h

theorem pol_resp (k : StokesKind) (half : ℝ) (v w : SV ℝ) (h : SV.present k v = SV.present k w) :
    SV.pol half k v = SV.pol half k w := by
  cases k <;> simp only [SV.present, List.cons.injEq, and_true] at h <;> simp only [SV.pol, h]

theorem stokesMap_comp (k : StokesKind) (n : Nat) (g h : Nat → SV ℝ → SV ℝ) (x : V) (hg : Resp k g) :
    stokesMap k n g (stokesMap k n h x) = stokesMap k n (fun t v => g t (h t v)) x := by
  apply stokesMap_congr
  intro t ht
  rw [svAt_stokesMap _ _ _ _ _ ht]
  exact hg t _ _ (present_ofPresent _ _ (present_length _ _))

theorem rotG_eq (A : Tensor Rat) (S : List Nat) (t : Nat) (v : SV ℝ) :
    rotG A S t v = C15.R (angleAt A S t) v := rfl

theorem rotTG_eq (A : Tensor Rat) (S : List Nat) (t : Nat) (v : SV ℝ) :
    rotTG A S t v = C15.RT (angleAt A S t) v := rfl

theorem R_RT_self (a : ℝ) (x : SV ℝ) : C15.R a (C15.RT a x) = x :=
  C15.rot_rotT _ _ (by rw [← sq, ← sq]; exact Real.cos_sq_add_sin_sq _) x

/-- broadcasting commutes with the element-wise operation: the angle of sample `t` of `tensorOp f A B` is
`f` of the angles of sample `t` of `A` and `B`, provided both broadcast to the leaf shape; the result is again
a well-formed array that broadcasts to the leaf shape -/
theorem angleAt_tensorOp (f : Rat → Rat → Rat) (F : ℝ → ℝ → ℝ) (hF : ∀ x y : Rat, ((f x y : Rat) : ℝ) = F x y)
    (A B a : Tensor Rat) (S : List Nat) (wA : A.wellFormed = true) (bA : Bc A.shape S)
    (wB : B.wellFormed = true) (bB : Bc B.shape S) (h : tensorOp f A B = .ok a) :
    a.wellFormed = true ∧ Bc a.shape S ∧
      ∀ t, t < prodNat S → angleAt a S t = F (angleAt A S t) (angleAt B S t) := by
  unfold tensorOp at h
  cases hs : broadcastShapes A.shape B.shape with
  | none => simp [Tensor.zipBroadcast, hs] at h
  | some s =>
    obtain ⟨y, hy, hsh, hlen, hval⟩ := zipBroadcast_spec f A B s hs
    rw [hy] at h
    cases h
    obtain ⟨bAs, bBs, bS⟩ := broadcastShapes_Bc A.shape B.shape s S hs bA bB
    have wa : a.wellFormed = true := by simp [Tensor.wellFormed, hlen, hsh]
    have ba : Bc a.shape S := hsh ▸ bS
    refine ⟨wa, ba, fun t ht => ?_⟩
    have hr := ma_ravel_valid s _ (bcastIndex_valid s S _ bS (ma_unravel_valid S t ht).1)
    have hul : s.length ≤ (unravel S t).length := (ma_unravel_length S t).symm ▸ bS.1
    rw [angleAt_eq a S t wa ba ht, angleAt_eq A S t wA bA ht, angleAt_eq B S t wB bB ht, ← hF]
    unfold angleQ
    rw [hsh, hval (bIdx s S t) hr.1]
    unfold bIdx
    rw [hr.2, bcastIndex_bcastIndex _ _ _ bAs hul, bcastIndex_bcastIndex _ _ _ bBs hul]

theorem angleAt_neg (A : Tensor Rat) (S : List Nat) (wA : A.wellFormed = true) (bA : Bc A.shape S) :
    (A.map (- ·)).wellFormed = true ∧ Bc (A.map (- ·)).shape S ∧
      ∀ t, t < prodNat S → angleAt (A.map (- ·)) S t = - angleAt A S t := by
  have w : (A.map (- ·)).wellFormed = true := by
    simpa [Tensor.map, Tensor.wellFormed] using wA
  refine ⟨w, bA, fun t ht => ?_⟩
  rw [angleAt_eq _ S t w bA ht, angleAt_eq A S t wA bA ht]
  exact (congrArg Rat.cast (getD_bIdx_map (- ·) A S t wA bA ht)).trans (Rat.cast_neg _)

section laws
variable (E : Env)

/-- `o` acts sample by sample: on vectors of `ncomp k` components of `n` samples it is `stokesMap k n g` -/
def SampleWise (k : StokesKind) (n : Nat) (o : Op) (g : Nat → SV ℝ → SV ℝ) : Prop :=
  ∀ x : V, x.length = ncomp k * n → den E o x = stokesMap k n g x

variable {E} in
theorem SampleWise.comp {k : StokesKind} {n : Nat} {o o' : Op} {g g' : Nat → SV ℝ → SV ℝ}
    (h : SampleWise E k n o g) (h' : SampleWise E k n o' g') (hg : Resp k g) (x : V)
    (hx : x.length = ncomp k * n) :
    den E o (den E o' x) = stokesMap k n (fun t v => g t (g' t v)) x := by
  rw [h' x hx, h _ (stokesMap_length _ _ _ _), stokesMap_comp _ _ _ _ _ hg]

variable {pl pr : Params} {k : StokesKind}

/-- a valid leaf on the input structure of `pr` has the kind, the leaf shape and the size of `pr` -/
theorem stokesOK_on {c : LeafCls} (hl : stokesOK c pl) (hS : pl.inS = pr.inS)
    (hk : kindOf pr.inS.leaves.length = some k) :
    kindOf pl.inS.leaves.length = some k ∧ leafShape pl = leafShape pr ∧
      pl.inS.size = ncomp k * prodNat (leafShape pr) := by
  have hsh : leafShape pl = leafShape pr := congrArg (fun s => (s.leaves.headD default).shape) hS
  have hkl : kindOf pl.inS.leaves.length = some k := hS ▸ hk
  exact ⟨hkl, hsh, hsh ▸ stokesOK_size hl hkl⟩

/-- and its angles broadcast to the leaf shape of `pr` -/
theorem angles_on (hl : stokesOK .qurot pl) (hS : pl.inS = pr.inS) :
    pl.vals.wellFormed = true ∧ Bc pl.vals.shape (leafShape pr) := by
  have hsh : leafShape pl = leafShape pr := congrArg (fun s => (s.leaves.headD default).shape) hS
  exact hsh ▸ hl.2.2.1 rfl

theorem sampleWise_qurot (hl : stokesOK .qurot pl) (hS : pl.inS = pr.inS)
    (hk : kindOf pr.inS.leaves.length = some k) (u : Nat) :
    SampleWise E k (prodNat (leafShape pr)) (.leaf u .qurot pl) (rotG pl.vals (leafShape pr)) ∧
    ∀ uw, SampleWise E k (prodNat (leafShape pr)) (.wrap uw .qurotT (.leaf u .qurot pl))
      (rotTG pl.vals (leafShape pr)) := by
  obtain ⟨hkl, hsh, hsz⟩ := stokesOK_on hl hS hk
  rw [← hsh] at hsz ⊢
  exact ⟨fun x hx => den_qurot E u hl hkl x (hx.trans hsz.symm),
    fun uw x hx => den_qurotT E uw u hl hkl x (hx.trans hsz.symm)⟩

theorem sampleWise_hwp (hr : stokesOK .hwp pr) (hk : kindOf pr.inS.leaves.length = some k) (u : Nat) :
    SampleWise E k (prodNat (leafShape pr)) (.leaf u .hwp pr) (fun _ => SV.hwp) :=
  fun x hx => den_hwp E u hr hk x (hx.trans (stokesOK_size hr hk).symm)

/-- the common part of the four cases of `QURotationRule`: the operands `L`, `R` act sample-wise by `gl`, `gr`; the
new angles are `f A B`, element-wise with broadcasting; and the rotation by `F θ φ` is `gl` after `gr` at a sample
where `A`, `B` have the angles `θ`, `φ`.  Then the new angles are valid and the new rotation denotes the
composition. -/
theorem rot_case {A B a : Tensor Rat} (hr : stokesOK .qurot pr) (hk : kindOf pr.inS.leaves.length = some k)
    (f : Rat → Rat → Rat) (F : ℝ → ℝ → ℝ) (hF : ∀ x y : Rat, ((f x y : Rat) : ℝ) = F x y)
    (hA : A.wellFormed = true ∧ Bc A.shape (leafShape pr)) (hB : B.wellFormed = true ∧ Bc B.shape (leafShape pr))
    (ha : tensorOp f A B = .ok a) {L R : Op} {gl gr : Nat → SV ℝ → SV ℝ}
    (hL : SampleWise E k (prodNat (leafShape pr)) L gl) (hR : SampleWise E k (prodNat (leafShape pr)) R gr)
    (hgl : Resp k gl)
    (hpt : ∀ t, t < prodNat (leafShape pr) → ∀ v,
      C15.R (F (angleAt A (leafShape pr) t) (angleAt B (leafShape pr) t)) v = gl t (gr t v)) :
    stokesOK .qurot { inS := pr.inS, outS := pr.inS, vals := a } ∧
    ∀ x, mem pr.inS x → den E (mkQURot a pr.inS) x = den E L (den E R x) := by
  obtain ⟨wa, ba, hang⟩ := angleAt_tensorOp f F hF A B a (leafShape pr) hA.1 hA.2 hB.1 hB.2 ha
  have hnew : stokesOK .qurot { inS := pr.inS, outS := pr.inS, vals := a } :=
    ⟨hr.1, hr.2.1, fun _ => ⟨wa, ba⟩, fun h => by cases h⟩
  refine ⟨hnew, fun x hx => ?_⟩
  rw [mkQURot, den_qurot E 0 hnew hk x hx, hL.comp hR hgl x (hx.trans (stokesOK_size hr hk))]
  refine stokesMap_congr _ _ _ _ _ _ fun t ht => congrArg _ ?_
  exact (congrArg (fun θ => C15.R θ _) (hang t ht)).trans (hpt t ht _)

/-- `QURotationRule`, R(a) R(b) = R(a + b) -/
theorem rot_rot (ul : Nat) (pl : Params) (ur : Nat) (pr : Params) (a : Tensor Rat)
    (hl : stokesOK .qurot pl) (hr : stokesOK .qurot pr) (hS : pl.inS = pr.inS)
    (ha : tensorOp (· + ·) pl.vals pr.vals = .ok a) :
    stokesOK .qurot { inS := pr.inS, outS := pr.inS, vals := a } ∧
    ∀ x, mem pr.inS x → den E (mkQURot a pr.inS) x =
      den E (.leaf ul .qurot pl) (den E (.leaf ur .qurot pr) x) := by
  obtain ⟨k, hk⟩ := hr.1
  exact rot_case E hr hk (· + ·) (· + ·) Rat.cast_add (angles_on hl hS) (hr.2.2.1 rfl) ha
    (sampleWise_qurot E hl hS hk ul).1 (sampleWise_qurot E hr rfl hk ur).1 (rotG_resp _ _ _)
    fun t _ v => by rw [rotG_eq, rotG_eq, C15.R_R]

/-- `QURotationRule`, R(a) R(b)ᵀ = R(a - b) -/
theorem rot_rotT (ul : Nat) (pl : Params) (uw ur : Nat) (pr : Params) (a : Tensor Rat)
    (hl : stokesOK .qurot pl) (hr : stokesOK .qurot pr) (hS : pl.inS = pr.inS)
    (ha : tensorOp (· - ·) pl.vals pr.vals = .ok a) :
    stokesOK .qurot { inS := pr.inS, outS := pr.inS, vals := a } ∧
    ∀ x, mem pr.inS x → den E (mkQURot a pr.inS) x =
      den E (.leaf ul .qurot pl) (den E (.wrap uw .qurotT (.leaf ur .qurot pr)) x) := by
  obtain ⟨k, hk⟩ := hr.1
  exact rot_case E hr hk (· - ·) (· - ·) Rat.cast_sub (angles_on hl hS) (hr.2.2.1 rfl) ha
    (sampleWise_qurot E hl hS hk ul).1 ((sampleWise_qurot E hr rfl hk ur).2 uw) (rotG_resp _ _ _)
    fun t _ v => by rw [rotG_eq, rotTG_eq, C15.R_RT]

/-- `QURotationRule`, R(a)ᵀ R(b) = R(b - a) -/
theorem rotT_rot (uw ul : Nat) (pl : Params) (ur : Nat) (pr : Params) (a : Tensor Rat)
    (hl : stokesOK .qurot pl) (hr : stokesOK .qurot pr) (hS : pl.inS = pr.inS)
    (ha : tensorOp (· - ·) pr.vals pl.vals = .ok a) :
    stokesOK .qurot { inS := pr.inS, outS := pr.inS, vals := a } ∧
    ∀ x, mem pr.inS x → den E (mkQURot a pr.inS) x =
      den E (.wrap uw .qurotT (.leaf ul .qurot pl)) (den E (.leaf ur .qurot pr) x) := by
  obtain ⟨k, hk⟩ := hr.1
  exact rot_case E hr hk (· - ·) (· - ·) Rat.cast_sub (hr.2.2.1 rfl) (angles_on hl hS) ha
    ((sampleWise_qurot E hl hS hk ul).2 uw) (sampleWise_qurot E hr rfl hk ur).1 (rotTG_resp _ _ _)
    fun t _ v => by rw [rotTG_eq, rotG_eq, C15.RT_R]

/-- `QURotationRule`, R(a)ᵀ R(b)ᵀ = R(-a - b) -/
theorem rotT_rotT (uw ul : Nat) (pl : Params) (uw' ur : Nat) (pr : Params) (a : Tensor Rat)
    (hl : stokesOK .qurot pl) (hr : stokesOK .qurot pr) (hS : pl.inS = pr.inS)
    (ha : tensorOp (· - ·) (pl.vals.map (- ·)) pr.vals = .ok a) :
    stokesOK .qurot { inS := pr.inS, outS := pr.inS, vals := a } ∧
    ∀ x, mem pr.inS x → den E (mkQURot a pr.inS) x =
      den E (.wrap uw .qurotT (.leaf ul .qurot pl)) (den E (.wrap uw' .qurotT (.leaf ur .qurot pr)) x) := by
  obtain ⟨k, hk⟩ := hr.1
  obtain ⟨wn, bn, hneg⟩ := angleAt_neg pl.vals (leafShape pr) (angles_on hl hS).1 (angles_on hl hS).2
  refine rot_case E hr hk (· - ·) (· - ·) Rat.cast_sub ⟨wn, bn⟩ (hr.2.2.1 rfl) ha
    ((sampleWise_qurot E hl hS hk ul).2 uw) ((sampleWise_qurot E hr rfl hk ur).2 uw') (rotTG_resp _ _ _)
    fun t ht v => ?_
  rw [rotTG_eq, rotTG_eq, C15.RT_RT, hneg t ht]

/-- `QURotationHWPRule`: H R(a)ᵀ = R(a) H -/
theorem rot_hwp (uw ul : Nat) (pl : Params) (ur : Nat) (pr : Params)
    (hl : stokesOK .qurot pl) (hr : stokesOK .hwp pr) (hS : pl.inS = pr.inS) :
    ∀ x, mem pr.inS x →
      den E (.leaf ur .hwp pr) (den E (.wrap uw .qurotT (.leaf ul .qurot pl)) x) =
      den E (.leaf ul .qurot pl) (den E (.leaf ur .hwp pr) x) := by
  obtain ⟨k, hk⟩ := hr.1
  intro x hx
  have hx' : x.length = ncomp k * prodNat (leafShape pr) := hx.trans (stokesOK_size hr hk)
  rw [(sampleWise_hwp E hr hk ur).comp ((sampleWise_qurot E hl hS hk ul).2 uw) (hwp_resp k) x hx',
    (sampleWise_qurot E hl hS hk ul).1.comp (sampleWise_hwp E hr hk ur) (rotG_resp _ _ _) x hx']
  exact stokesMap_congr _ _ _ _ _ _ fun t _ => congrArg _ (C15.rot_hwp _ _ _).symm

/-- `QURotationHWPRule`: H R(a) = R(a)ᵀ H -/
theorem rotT_hwp (uw ul : Nat) (pl : Params) (ur : Nat) (pr : Params)
    (hl : stokesOK .qurot pl) (hr : stokesOK .hwp pr) (hS : pl.inS = pr.inS) :
    ∀ x, mem pr.inS x →
      den E (.leaf ur .hwp pr) (den E (.leaf ul .qurot pl) x) =
      den E (.wrap uw .qurotT (.leaf ul .qurot pl)) (den E (.leaf ur .hwp pr) x) := by
  obtain ⟨k, hk⟩ := hr.1
  intro x hx
  have hx' : x.length = ncomp k * prodNat (leafShape pr) := hx.trans (stokesOK_size hr hk)
  rw [(sampleWise_hwp E hr hk ur).comp (sampleWise_qurot E hl hS hk ul).1 (hwp_resp k) x hx',
    ((sampleWise_qurot E hl hS hk ul).2 uw).comp (sampleWise_hwp E hr hk ur) (rotTG_resp _ _ _) x hx']
  exact stokesMap_congr _ _ _ _ _ _ fun t _ => congrArg _ (C15.rotT_hwp _ _ _).symm

/-- `LinearPolarizerHWPRule`: P H = P -/
theorem polarizer_hwp (ul : Nat) (pl : Params) (ur : Nat) (pr : Params)
    (hl : stokesOK .polarizer pl) (hr : stokesOK .hwp pr) (hS : pl.inS = pr.inS) :
    ∀ x, mem pr.inS x →
      den E (.leaf ul .polarizer pl) x = den E (.leaf ul .polarizer pl) (den E (.leaf ur .hwp pr) x) := by
  obtain ⟨k, hk⟩ := hr.1
  obtain ⟨hkl, hsh, hsz⟩ := stokesOK_on hl hS hk
  intro x hx
  have hx' : x.length = ncomp k * prodNat (leafShape pr) := hx.trans (stokesOK_size hr hk)
  rw [den_polarizer E ul hkl x (hx'.trans hsz.symm), sampleWise_hwp E hr hk ur x hx',
    den_polarizer E ul hkl _ ((stokesMap_length _ _ _ _).trans hsz.symm), hsh]
  rw [polMap_eq, polMap_eq]
  refine congrArg _ (List.map_congr_left fun t ht => ?_)
  rw [svAt_stokesMap _ _ _ _ _ (List.mem_range.mp ht),
    pol_resp k _ _ _ (present_ofPresent _ _ (present_length _ _))]
  exact (C15.pol_hwp _ k _).symm

/-- a rotation is orthogonal: its transpose is a two-sided inverse on the vectors of its structure
(`c² + s² = 1`), and both keep the length -/
theorem qurot_inv (u : Nat) (p : Params) (h : stokesOK .qurot p) :
    ∀ x, mem p.inS x →
      mem p.inS (den E (.leaf u .qurot p) x) ∧ mem p.inS (denT E (.leaf u .qurot p) x) ∧
      denT E (.leaf u .qurot p) (den E (.leaf u .qurot p) x) = x ∧
      den E (.leaf u .qurot p) (denT E (.leaf u .qurot p) x) = x := by
  obtain ⟨k, hk⟩ := h.1
  have hsz := stokesOK_size h hk
  intro x hx
  have hx' : x.length = ncomp k * prodNat (leafShape p) := by rw [← hsz]; exact hx
  rw [den_qurot E u h hk x hx, denT_qurot E u h hk x hx]
  refine ⟨by rw [mem, stokesMap_length, hsz], by rw [mem, stokesMap_length, hsz], ?_, ?_⟩
  · rw [denT_qurot E u h hk _ (by rw [stokesMap_length, hsz]), stokesMap_comp _ _ _ _ _ (rotTG_resp _ _ _)]
    apply stokesMap_id _ _ _ _ hx'
    intro t _
    rw [rotG_eq, rotTG_eq, C15.RT_R_self]
  · rw [den_qurot E u h hk _ (by rw [stokesMap_length, hsz]), stokesMap_comp _ _ _ _ _ (rotG_resp _ _ _)]
    apply stokesMap_id _ _ _ _ hx'
    intro t _
    rw [rotG_eq, rotTG_eq, R_RT_self]

/-- the same with the transpose written as the operator `QURotationTransposeOperator(o)` -/
theorem qurot_inv_wrap (uw u : Nat) (p : Params) (h : stokesOK .qurot p) :
    ∀ x, mem p.inS x →
      den E (.wrap uw .qurotT (.leaf u .qurot p)) (den E (.leaf u .qurot p) x) = x ∧
      den E (.leaf u .qurot p) (den E (.wrap uw .qurotT (.leaf u .qurot p)) x) = x := by
  intro x hx
  rw [den_wrap_T (k := .qurotT) nofun nofun]
  exact ⟨(qurot_inv E u p h x hx).2.2.1, (qurot_inv E u p h x hx).2.2.2⟩

end laws

/-- broadcasting commutes with the element-wise sum, in the form the rule uses it: the angle of sample `t` of
`left.angles + right.angles` is the sum of the operands' angles of sample `t` -/
theorem angleAt_add {pl pr : Params} {a : Tensor Rat} (hl : stokesOK .qurot pl) (hr : stokesOK .qurot pr)
    (hS : pl.inS = pr.inS) (ha : tensorOp (· + ·) pl.vals pr.vals = .ok a) (t : Nat)
    (ht : t < prodNat (leafShape pr)) :
    angleAt a (leafShape pr) t = angleAt pl.vals (leafShape pr) t + angleAt pr.vals (leafShape pr) t :=
  (angleAt_tensorOp (· + ·) (· + ·) Rat.cast_add pl.vals pr.vals a (leafShape pr) (angles_on hl hS).1
    (angles_on hl hS).2 (hr.2.2.1 rfl).1 (hr.2.2.1 rfl).2 ha).2.2 t ht

/-- the side condition is needed: with angles of shape (2, 1) on leaves of shape (2,) (rank of the angles larger
than the rank of the leaves — in furax such an operator returns leaves of shape (2, 2), not its declared output
structure) the sum of shape (2, 2) is read at entry 1 for sample 1, which comes from entry 0 of the left angles,
whereas the left operator itself reads its entry 1 for sample 1 -/
example : bIdx [2, 2] [2] 1 = 1 ∧ bIdx [2, 1] [2, 2] 1 = 0 ∧ bIdx [2, 1] [2] 1 = 1 ∧ ¬ Bc [2, 1] [2] := by decide

/-- with homogeneous leaf kernels (`LeafHom`, FuraxProofs/Sem/LeafHom.lean) the transpose is the inverse in the sense of
`IsInvOn`, the predicate `chooseInv` looks for -/
theorem qurot_isInvOn (E : Env) (hh : LeafHom E) (u : Nat) (p : Params) (h : stokesOK .qurot p) :
    IsInvOn p.inS.size (den E (.leaf u .qurot p)) (denT E (.leaf u .qurot p)) := by
  refine ⟨fun x hx => ?_, fun a x _ => ?_⟩
  · obtain ⟨-, h2, h3, h4⟩ := qurot_inv E u p h x hx
    exact ⟨h2, h4, h3⟩
  · simp only [denT]
    exact hh.2 u .qurot p a x

end ListSem
end Furax
