/-
The algebraic tags, in the closed list denotation (FuraxProofs/Sem/ListSem.lean), for FuraxProofs/Props/C08Closed.lean:
`Op.clsName`, the Python class of an expression, with the names of FuraxModel/Codec.lean (the ones the harness encodes
with), which are pairwise distinct; what a tag MEANS for an expression (`SemSymmetric`, `SemDiagonal`,
`SemOrthogonal`), down to the dense matrix; and the tagged classes one by one, each under the WEAKEST hypothesis on
its parameters.
-/
import FuraxModel.Codec
import FuraxProofs.Sem.LinearList
import FuraxProofs.Sem.InverseList
import FuraxProofs.Sem.ToeplitzList
import Mathlib.LinearAlgebra.Matrix.Symmetric
namespace Furax
open Op

/-- the Python class of an operator expression: the names of FuraxModel/Codec.lean (mirrored by harness/encode.py) -/
def Op.clsName : Op → String
  | .leaf _ c _ => c.name
  | .wrap _ k _ => k.name
  | .comp _ _ => "CompositionOperator"
  | .cont _ k _ _ => k.name

/-- the class names of the model, all kinds of node together -/
def classNames : List String :=
  LeafCls.all.map LeafCls.name ++ (WrapCls.all.map WrapCls.name ++ (ContCls.all.map ContCls.name ++
    ["CompositionOperator"]))

theorem classNames_nodup : classNames.Nodup := by decide +kernel

theorem LeafCls.mem_all (c : LeafCls) : c ∈ LeafCls.all := by cases c <;> decide +kernel
theorem WrapCls.mem_all (k : WrapCls) : k ∈ WrapCls.all := by cases k <;> decide +kernel
theorem ContCls.mem_all (k : ContCls) : k ∈ ContCls.all := by cases k <;> decide +kernel

theorem Op.clsName_mem (o : Op) : o.clsName ∈ classNames := by
  cases o with
  | leaf u c p => exact List.mem_append_left _ (List.mem_map_of_mem c.mem_all)
  | wrap u k o => exact List.mem_append_right _ (List.mem_append_left _ (List.mem_map_of_mem k.mem_all))
  | comp u ops =>
    exact List.mem_append_right _ (List.mem_append_right _ (List.mem_append_right _ (List.mem_singleton_self _)))
  | cont u k td ops =>
    exact List.mem_append_right _ (List.mem_append_right _ (List.mem_append_left _ (List.mem_map_of_mem k.mem_all)))

theorem Op.clsName_eq_leaf {o : Op} {c : LeafCls} (h : o.clsName = c.name) : ∃ u p, o = .leaf u c p := by
  obtain ⟨hL, -, hLR⟩ := List.nodup_append.mp classNames_nodup
  have hc := fun hb => hLR _ (List.mem_map_of_mem c.mem_all) _ hb h.symm
  cases o with
  | leaf u c' p => exact ⟨u, p, by rw [List.inj_on_of_nodup_map hL c'.mem_all c.mem_all h]⟩
  | wrap u k o => exact (hc (List.mem_append_left _ (List.mem_map_of_mem k.mem_all))).elim
  | comp u ops => exact (hc (List.mem_append_right _ (List.mem_append_right _ (List.mem_singleton_self _)))).elim
  | cont u k td ops =>
    exact (hc (List.mem_append_right _ (List.mem_append_left _ (List.mem_map_of_mem k.mem_all)))).elim

theorem Op.clsName_eq_wrap {o : Op} {k : WrapCls} (h : o.clsName = k.name) : ∃ u o', o = .wrap u k o' := by
  obtain ⟨-, hR, hLR⟩ := List.nodup_append.mp classNames_nodup
  obtain ⟨hW, -, hWR⟩ := List.nodup_append.mp hR
  have hk := List.mem_map_of_mem (f := WrapCls.name) k.mem_all
  cases o with
  | leaf u c p => exact (hLR _ (List.mem_map_of_mem c.mem_all) _ (List.mem_append_left _ hk) h).elim
  | wrap u k' o => exact ⟨u, o, by rw [List.inj_on_of_nodup_map hW k'.mem_all k.mem_all h]⟩
  | comp u ops => exact (hWR _ hk _ (List.mem_append_right _ (List.mem_singleton_self _)) h.symm).elim
  | cont u k' td ops => exact (hWR _ hk _ (List.mem_append_left _ (List.mem_map_of_mem k'.mem_all)) h.symm).elim

namespace ListSem
open Matrix

/-- **symmetric**: equal structures, `op.T` is `op` (the form), the transpose map is the map, the map is self-adjoint
for the Euclidean pairing, and the dense matrix is symmetric -/
structure SemSymmetric (E : Env) (o : Op) : Prop where
  square : Op.outS o = Op.inS o
  transpose_self : transposeOp o = .ok o
  denT_eq : ∀ x : V, x.length = inSize o → denT E o x = den E o x
  selfAdjoint : ∀ x y : V, x.length = inSize o → y.length = inSize o → dot (den E o x) y = dot x (den E o y)
  matrix : ∀ hE : EnvAdd E, (asMatrix E hE o (inSize o) (inSize o)).IsSymm

/-- **diagonal**: equal structures, the map is the entry-wise product with ONE vector `d`, the dense matrix is
`Matrix.diagonal d`; all its off-diagonal entries vanish -/
structure SemDiagonal (E : Env) (o : Op) : Prop where
  square : Op.outS o = Op.inS o
  diag : ∃ d : V, d.length = inSize o ∧
    (∀ x : V, x.length = inSize o → den E o x = List.zipWith (· * ·) d x) ∧
    ∀ hE : EnvAdd E, asMatrix E hE o (inSize o) (inSize o) = Matrix.diagonal (toFn (inSize o) d)
  offdiag : ∀ (hE : EnvAdd E) (i j : Fin (inSize o)), i ≠ j → asMatrix E hE o (inSize o) (inSize o) i j = 0

/-- **orthogonal** (`inverse = transpose`): `op.I` is the form `op.T`, the transpose map is a two-sided inverse of
the map on the vectors of the declared sizes, and the dense matrix `M` satisfies `Mᵀ M = 1` and `M Mᵀ = 1` -/
structure SemOrthogonal (E : Env) (o : Op) : Prop where
  inverse_is_transpose : inverseOp o = transposeOp o
  left : ∀ x : V, x.length = inSize o → denT E o (den E o x) = x
  right : ∀ y : V, y.length = outSize o → den E o (denT E o y) = y
  gram : ∀ hE : EnvAdd E, (asMatrix E hE o (inSize o) (outSize o))ᵀ * asMatrix E hE o (inSize o) (outSize o) = 1
  gram' : ∀ hE : EnvAdd E, asMatrix E hE o (inSize o) (outSize o) * (asMatrix E hE o (inSize o) (outSize o))ᵀ = 1

theorem asMatrix_isSymm_of_selfAdjoint (E : Env) (hE : EnvAdd E) (o : Op) (n : Nat)
    (h : ∀ x y : V, x.length = n → y.length = n → dot (den E o x) y = dot x (den E o y)) :
    (asMatrix E hE o n n).IsSymm :=
  (asMatrix_of_adjoint E hE o o n n fun v w => h _ _ (by simp) (by simp)).symm

theorem zipWith_replicate_mul (a : ℝ) (x : V) :
    List.zipWith (· * ·) (List.replicate x.length a) x = x.map fun v => a * v := by
  induction x with
  | nil => rfl
  | cons v x ih => simp [List.replicate_succ, ih]

theorem asMatrix_of_zipWith (E : Env) (hE : EnvAdd E) (o : Op) (n : Nat) (d : V)
    (h : ∀ x : V, x.length = n → den E o x = List.zipWith (· * ·) d x) :
    asMatrix E hE o n n = Matrix.diagonal (toFn n d) := by
  ext i j
  rw [asMatrix_apply, h _ (unitVec_length n j), getD_zipWith_mul, unitVec_getD n j i i.2, Matrix.diagonal_apply,
    mul_ite, mul_one, mul_zero]
  exact if_congr Fin.val_inj rfl rfl

theorem SemDiagonal.of_zipWith (E : Env) (o : Op) (hsq : Op.outS o = Op.inS o) (d : V) (hd : d.length = inSize o)
    (h : ∀ x : V, x.length = inSize o → den E o x = List.zipWith (· * ·) d x) : SemDiagonal E o where
  square := hsq
  diag := ⟨d, hd, h, fun hE => asMatrix_of_zipWith E hE o _ d h⟩
  offdiag := fun hE i j hij => by
    rw [asMatrix_of_zipWith E hE o _ d h, Matrix.diagonal_apply_ne _ hij]

theorem SemSymmetric.of_adjoint (E : Env) (o : Op) (hsq : Op.outS o = Op.inS o) (hT : transposeOp o = .ok o)
    (hden : ∀ x : V, x.length = inSize o → denT E o x = den E o x)
    (hadj : ∀ x y : V, x.length = inSize o → y.length = outSize o → dot (den E o x) y = dot x (denT E o y)) :
    SemSymmetric E o := by
  have hio : outSize o = inSize o := by unfold inSize outSize; rw [hsq]
  have hsa : ∀ x y : V, x.length = inSize o → y.length = inSize o → dot (den E o x) y = dot x (den E o y) :=
    fun x y hx hy => by rw [hadj x y hx (hy.trans hio.symm), hden y hy]
  exact ⟨hsq, hT, hden, hsa, fun hE => asMatrix_isSymm_of_selfAdjoint E hE o _ hsa⟩

/-- the matrix statements follow from the inverse pair and adjointness -/
theorem SemOrthogonal.of_inverse (E : Env) (o : Op) (hA : EnvAdjOn E o) (hv : Valid o)
    (hIT : inverseOp o = transposeOp o)
    (hl : ∀ x : V, x.length = inSize o → denT E o (den E o x) = x)
    (hr : ∀ y : V, y.length = outSize o → den E o (denT E o y) = y) : SemOrthogonal E o where
  inverse_is_transpose := hIT
  left := hl
  right := hr
  gram := fun hE => by
    rw [← asMatrixT_transpose E hE o hA hv]
    exact toMatrix'_mul_eq_one _ _ fun v => by
      rw [toLinearMapTN_apply, toLinearMapN_apply, ofFn_toFn _ _ (den_length E o hv.structOK _), hl _ (by simp),
        toFn_ofFn]
  gram' := fun hE => by
    rw [← asMatrixT_transpose E hE o hA hv]
    exact toMatrix'_mul_eq_one _ _ fun v => by
      rw [toLinearMapTN_apply, toLinearMapN_apply, ofFn_toFn _ _ (denT_length E o hv.structOK _), hr _ (by simp),
        toFn_ofFn]

/-- for the classes decorated `@symmetric` / `@diagonal` that the denotation interprets by a kernel of its own, the
transpose map IS the map — as functions, on all inputs, without any hypothesis -/
theorem denT_eq_den_leaf (E : Env) (u : Nat) (c : LeafCls) (p : Params)
    (hc : c = .identity ∨ c = .homothety ∨ c = .diagonal ∨ c = .hwp) :
    denT E (.leaf u c p) = den E (.leaf u c p) := by
  rcases hc with rfl | rfl | rfl | rfl <;> rfl

/-- `DiagonalInverseOperator(DiagonalOperator)`: the transpose map IS the map, as functions -/
theorem denT_eq_den_diagInv (E : Env) (w u : Nat) (p : Params) :
    denT E (.wrap w .diagInv (.leaf u .diagonal p)) = den E (.wrap w .diagInv (.leaf u .diagonal p)) := rfl

theorem squareLeaf_of_symmetric {c : LeafCls} (h : isSymmetricLeaf c = true) : squareLeaf c = true := by
  cases c with
  | identity | homothety | diagonal | hwp | toeplitz => rfl
  | _ => cases h

/-- a leaf of a class whose `transpose` is `lambda self: self`, when the two kernels of the denotation agree and are
adjoint -/
theorem semSymmetric_leaf (E : Env) (u : Nat) (c : LeafCls) (p : Params) (hc : isSymmetricLeaf c = true)
    (hT : ∀ x : V, x.length = p.inS.size → leafDenT E u c p x = leafDen E u c p x)
    (hA : LeafAdjAt E u c p) : SemSymmetric E (.leaf u c p) :=
  SemSymmetric.of_adjoint E _ (by rw [Op.outS, squareLeaf_of_symmetric hc]; rfl) (transpose_symmetric_leaf u c p hc)
    hT hA

/-- the same when the denotation interprets the leaf by a kernel: the two kernels are the same function -/
theorem semSymmetric_kernel_leaf (E : Env) (u : Nat) {c : LeafCls} (p : Params) (hc : isSymmetricLeaf c = true)
    (hK : c = .toeplitz → toepK p.vals ≠ none) (hA : LeafAdjAt E u c p) : SemSymmetric E (.leaf u c p) :=
  semSymmetric_leaf E u c p hc (fun x _ => congrFun (leafDenT_eq_leafDen_of_symmetric E u p hc hK) x) hA

/-- **`IdentityOperator` is symmetric** — no hypothesis -/
theorem identity_symmetric (E : Env) (u : Nat) (p : Params) : SemSymmetric E (.leaf u .identity p) :=
  semSymmetric_kernel_leaf E u p rfl nofun (identity_leaf_adjoint E u p)

/-- **`HomothetyOperator` is symmetric** — no hypothesis -/
theorem homothety_symmetric (E : Env) (u : Nat) (p : Params) : SemSymmetric E (.leaf u .homothety p) :=
  semSymmetric_kernel_leaf E u p rfl nofun (homothety_leaf_adjoint E u p)

/-- **`DiagonalOperator` is symmetric** — no hypothesis (a strict broadcasting product that is refused is the zero
map) -/
theorem diagonal_symmetric (E : Env) (u : Nat) (p : Params) : SemSymmetric E (.leaf u .diagonal p) :=
  semSymmetric_kernel_leaf E u p rfl nofun (diagonal_leaf_adjoint E u p)

/-- **`HWPOperator` is symmetric**, under `stokesOK .hwp p` (a Stokes pytree of leaves of one shape) -/
theorem hwp_symmetric (E : Env) (u : Nat) (p : Params) (h : stokesOK .hwp p) : SemSymmetric E (.leaf u .hwp p) :=
  semSymmetric_kernel_leaf E u p rfl nofun (stokes_leaf_adjoint E u (.inr rfl) p h)

/-- **`SymmetricBandToeplitzOperator` is symmetric**: a THEOREM, for every band array with a last axis (batched or
not: the denotation interprets the leaf by the kernel of C09, row by row), every method and every input structure;
a band array of rank 0 (which Python refuses) leaves the leaf to the environment, and the statement then needs (and
only needs) that the two maps of the environment agree (`LeafSymAt`) and are adjoint (`LeafAdjAt`) -/
theorem toeplitz_symmetric (E : Env) (u : Nat) (p : Params)
    (hS : toepK p.vals = none → LeafSymAt E u p) (hA : toepK p.vals = none → LeafAdjAt E u .toeplitz p) :
    SemSymmetric E (.leaf u .toeplitz p) := by
  by_cases hK : toepK p.vals = none
  · exact semSymmetric_leaf E u _ p rfl (fun x hx => (hS hK x hx).symm) (hA hK)
  · exact semSymmetric_kernel_leaf E u p rfl (fun _ => hK) (toeplitz_leaf_adjoint E u p hK)

/-- a band array with a last axis: no hypothesis at all -/
theorem toeplitz_symmetric_unbatched (E : Env) (u : Nat) (p : Params) (hK : toepK p.vals ≠ none) :
    SemSymmetric E (.leaf u .toeplitz p) :=
  toeplitz_symmetric E u p (fun h => absurd h hK) (fun h => absurd h hK)

/-- **`DiagonalInverseOperator(DiagonalOperator)` is symmetric** — no hypothesis -/
theorem diagInv_symmetric (E : Env) (w u : Nat) (p : Params) :
    SemSymmetric E (.wrap w .diagInv (.leaf u .diagonal p)) :=
  SemSymmetric.of_adjoint E _ rfl (transpose_diagInv w _) (fun _ _ => rfl)
    (diagonal_leaf_adjoint E u { p with vals := pinvT p.vals })

theorem zipWith_replicate_one (x : V) (n : Nat) (hx : x.length = n) :
    List.zipWith (· * ·) (List.replicate n (1 : ℝ)) x = x := by
  subst hx
  rw [zipWith_replicate_mul]
  simp

/-- **`IdentityOperator` is diagonal**: the diagonal of ones -/
theorem identity_diagonal (E : Env) (u : Nat) (p : Params) : SemDiagonal E (.leaf u .identity p) :=
  SemDiagonal.of_zipWith E _ rfl (List.replicate p.inS.size 1) (by simp [inSize, Op.inS]) fun x hx => by
    have hx' : x.length = p.inS.size := hx
    rw [den_identity E u p x hx', zipWith_replicate_one x _ hx']

/-- **`HomothetyOperator` is diagonal**: the constant diagonal `value` -/
theorem homothety_diagonal (E : Env) (u : Nat) (p : Params) : SemDiagonal E (.leaf u .homothety p) :=
  SemDiagonal.of_zipWith E _ rfl (List.replicate p.inS.size ((p.vals.data.headD 1 : Rat) : ℝ))
    (by simp [inSize, Op.inS]) fun x hx => by
    have hx' : x.length = p.inS.size := hx
    rw [den_homothety E u p x hx', ← hx', zipWith_replicate_mul]
    rfl

/-- **`DiagonalOperator` is diagonal**: the diagonal is `diagVec p`, the values broadcast to every leaf -/
theorem diagonal_diagonal (E : Env) (u : Nat) (p : Params) (h : diagonalOK p) :
    SemDiagonal E (.leaf u .diagonal p) :=
  SemDiagonal.of_zipWith E _ rfl (diagVec p) (diagVec_length p h) fun x hx => den_diagonal E u p h x hx

/-- **`DiagonalInverseOperator(DiagonalOperator)` is diagonal**: the diagonal is the pseudo-inverse of `diagVec p` -/
theorem diagInv_diagonal (E : Env) (w u : Nat) (p : Params) (h : diagonalOK p) :
    SemDiagonal E (.wrap w .diagInv (.leaf u .diagonal p)) :=
  SemDiagonal.of_zipWith E _ rfl ((diagVec p).map pinvR) (by rw [List.length_map]; exact diagVec_length p h)
    fun x hx => den_diagInv E w u p h x hx

/-- the Mueller matrix of an ideal half-wave plate, as a Stokes sample: `diag(1, 1, −1, −1)` -/
def hwpSample : SV ℝ := ⟨1, 1, -1, -1⟩

/-- **the diagonal of `HWPOperator`** on `ncomp k` components of `n` samples: `+1` on I and Q, `−1` on U and V -/
def hwpDiag (k : StokesKind) (n : Nat) : V := ofSamples k n fun _ => hwpSample

theorem hwpDiag_length (k : StokesKind) (n : Nat) : (hwpDiag k n).length = ncomp k * n :=
  stokesMap_length k n (fun _ _ => hwpSample) []

theorem stokesMap_hwp (k : StokesKind) (n : Nat) (x : V) (hx : x.length = ncomp k * n) :
    stokesMap k n (fun _ => SV.hwp) x = List.zipWith (· * ·) (hwpDiag k n) x := by
  conv => rhs; rw [self_eq_ofSamples k n x hx]
  rw [hwpDiag, zipWith_ofSamples, stokesMap_eq_ofSamples]
  congr 1
  funext t
  simp [svMul, hwpSample, SV.hwp]

/-- **`HWPOperator` is diagonal**, under `stokesOK .hwp p` -/
theorem hwp_diagonal (E : Env) (u : Nat) (p : Params) (h : stokesOK .hwp p) : SemDiagonal E (.leaf u .hwp p) := by
  obtain ⟨k, hk⟩ := h.1
  have hsz := stokesOK_size h hk
  refine SemDiagonal.of_zipWith E _ rfl (hwpDiag k (prodNat (leafShape p))) ?_ fun x hx => ?_
  · rw [hwpDiag_length]; exact hsz.symm
  · have hx' : x.length = p.inS.size := hx
    rw [den_hwp E u h hk x hx', stokesMap_hwp k _ x (hx'.trans hsz)]

/-- **`IdentityOperator` is orthogonal** — no hypothesis -/
theorem identity_orthogonal (E : Env) (u : Nat) (p : Params) : SemOrthogonal E (.leaf u .identity p) := by
  refine SemOrthogonal.of_inverse E _ (envAdjOn_of_noEnvLeaf E _ rfl) ?_ ?_ (fun x hx => ?_) (fun y hy => ?_)
  · exact ⟨trivial, nofun⟩
  · simp [inverseOp, transposeOp, isSymmetricLeaf]
  · have hx' : x.length = p.inS.size := hx
    rw [denT_eq_den_leaf E u _ p (.inl rfl), den_identity E u p x hx', den_identity E u p x hx']
  · have hy' : y.length = p.inS.size := hy
    rw [denT_eq_den_leaf E u _ p (.inl rfl), den_identity E u p y hy', den_identity E u p y hy']

/-- **`QURotationOperator` is orthogonal**, under `stokesOK .qurot p` -/
theorem qurot_orthogonal (E : Env) (u : Nat) (p : Params) (h : stokesOK .qurot p) :
    SemOrthogonal E (.leaf u .qurot p) := by
  refine SemOrthogonal.of_inverse E _ (envAdjOn_of_noEnvLeaf E _ rfl) ?_ ?_ (fun x hx => ?_) (fun y hy => ?_)
  · exact ⟨h, nofun⟩
  · simp [inverseOp, transposeOp, isSymmetricLeaf]
  · exact (qurot_inv E u p h x hx).2.2.1
  · exact (qurot_inv E u p h y hy).2.2.2

/-- **`QURotationTransposeOperator(QURotationOperator)` is orthogonal**, under `stokesOK .qurot p` -/
theorem qurotT_orthogonal (E : Env) (w u : Nat) (p : Params) (h : stokesOK .qurot p) :
    SemOrthogonal E (.wrap w .qurotT (.leaf u .qurot p)) := by
  refine SemOrthogonal.of_inverse E _ (envAdjOn_of_noEnvLeaf E _ rfl) ?_ ?_ (fun x hx => ?_) (fun y hy => ?_)
  · exact ⟨⟨h, nofun⟩, fun _ => ⟨rfl, trivial⟩, fun _ => rfl, nofun, nofun⟩
  · simp [inverseOp, transposeOp]
  · exact (qurot_inv E u p h x hx).2.2.2
  · exact (qurot_inv E u p h y hy).2.2.1

theorem denT_moveAxis (E : Env) (u : Nat) (p : Params) :
    denT E (.leaf u .moveAxis p) = den E (.leaf 0 .moveAxis (swapMoveAxis p)) := by
  funext y
  rw [den, denT]
  simp only [leafDen, leafDenT, squareLeaf, Bool.false_eq_true, if_false, swapMoveAxis, List.getD_cons_zero,
    List.getD_cons_succ]

/-- **`MoveAxisOperator` has `inverse = transpose`** (set by the class itself; a permutation of the elements between
two DIFFERENT structures), under `moveAxisOK p` -/
theorem moveAxis_orthogonal (E : Env) (u : Nat) (p : Params) (h : moveAxisOK p) :
    SemOrthogonal E (.leaf u .moveAxis p) := by
  obtain ⟨hi, hinv⟩ := moveAxis_inverts E u p h
  refine SemOrthogonal.of_inverse E _ (envAdjOn_of_noEnvLeaf E _ rfl) ?_ ?_ (fun x hx => ?_) (fun y hy => ?_)
  · exact ⟨h, nofun⟩
  · rw [hi]
    simp [transposeOp, isSymmetricLeaf, swapMoveAxis]
  · rw [denT_moveAxis]
    exact hinv.left x hx
  · rw [denT_moveAxis]
    exact hinv.right y hy

end ListSem
end Furax
