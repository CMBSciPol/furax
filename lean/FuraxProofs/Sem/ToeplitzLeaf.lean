/-
The Toeplitz leaf kernel of the list denotation (`toepLeaf`, FuraxProofs/Sem/ListSem.lean): the algebra of the
specification `Toeplitz.toep` over `ℝ` (a linear form of the first `l` entries of the signal that reads only the band
values `band 0 … band h`, symmetric), and the entries of `toepLeaf`: at the flat position `b*l + i`, `i < l`, it is
`toep (K−1) l (band row of b) (row b) i`, the band row being `toepBand vals` on every row when the band array is
un-batched.
Linearity (`toepLeaf_lin`) is in LeafHom.lean, adjointness (`toepLeaf_adjoint`) in AdjointList.lean.
-/
import FuraxProofs.Sem.ListSemLaws
import FuraxProofs.Lemmas.ToeplitzSums
import FuraxProofs.Lemmas.AxesBasic
import Mathlib.Data.List.GetD
namespace Furax
namespace ListSem
open Op Toeplitz Finset

theorem toep_smul (h l : Nat) (band x : Nat → ℝ) (a : ℝ) (i : Nat) :
    toep h l band (fun j => a * x j) i = a * toep h l band x i := by
  unfold toep
  rw [sumRange_eq, sumRange_eq, mul_sum]
  exact sum_congr rfl fun j _ => by ring

theorem toep_add (h l : Nat) (band x y : Nat → ℝ) (i : Nat) :
    toep h l band (fun j => x j + y j) i = toep h l band x i + toep h l band y i := by
  unfold toep
  rw [sumRange_eq, sumRange_eq, sumRange_eq, ← sum_add_distrib]
  exact sum_congr rfl fun j _ => by ring

/-- only the first `l` entries of the signal matter -/
theorem toep_congr (h l : Nat) (band x y : Nat → ℝ) (i : Nat) (hxy : ∀ j, j < l → x j = y j) :
    toep h l band x i = toep h l band y i := by
  unfold toep
  rw [sumRange_eq, sumRange_eq]
  exact sum_congr rfl fun j hj => by rw [hxy j (mem_range.mp hj)]

theorem toep_zero (h l : Nat) (band : Nat → ℝ) (i : Nat) : toep h l band (fun _ => 0) i = 0 := by
  unfold toep
  rw [sumRange_eq]
  exact sum_eq_zero fun j _ => by ring

/-- **the banded product is symmetric**: `⟨T x, y⟩ = ⟨x, T y⟩` on one row, for every band array, every half band
width (also `h ≥ l`) and every length -/
theorem toep_symm (h l : Nat) (band x y : Nat → ℝ) :
    ∑ i ∈ range l, toep h l band x i * y i = ∑ i ∈ range l, x i * toep h l band y i :=
  toep_adjoint h l band x y

/-- only the band values `band 0 … band h` matter -/
theorem toep_band_congr (h l : Nat) (band band' x : Nat → ℝ) (i : Nat) (hb : ∀ k, k ≤ h → band k = band' k) :
    toep h l band x i = toep h l band' x i := by
  unfold toep
  rw [sumRange_eq, sumRange_eq]
  refine sum_congr rfl fun j _ => ?_
  split
  · next hd => rw [hb _ hd]
  · rfl

/-- an un-batched band array has one band row: every batch row reads row `0` -/
theorem bandRow_unbatched (K : Nat) (dshape : List Nat) (b : Nat) : bandRow [K] dshape b = 0 := by
  simp [bandRow, bcastIndex, ravelIdx]

/-- **the un-batched case**: the band row of every batch row is the band array itself -/
theorem toepBandAt_unbatched (K : Nat) (vals : Tensor Rat) (hs : vals.shape = [K]) (shape : List Nat) (b : Nat) :
    toepBandAt K vals shape b = toepBand vals := by
  funext k
  simp [toepBandAt, hs, bandRow_unbatched]

theorem getD_map_mul (a : ℝ) (x : V) (i : Nat) : (x.map fun v => a * v).getD i 0 = a * x.getD i 0 := by
  simp only [List.getD_eq_getElem?_getD, List.getElem?_map]
  cases x[i]? <;> simp

@[simp] theorem toepLeaf_length (K : Nat) (vals : Tensor Rat) (li lo : LeafS) (x : V) :
    (toepLeaf K vals li lo x).length = li.size := by
  simp [toepLeaf]

/-- entry `q` of the output: the banded product of row `q / l` of the input, at position `q % l` -/
theorem toepLeaf_getD (K : Nat) (vals : Tensor Rat) (li lo : LeafS) (x : V) (q : Nat) (hq : q < li.size) :
    (toepLeaf K vals li lo x).getD q 0 =
      toep (K - 1) (li.shape.getLastD 1) (toepBandAt K vals li.shape (q / li.shape.getLastD 1))
        (rowOf (li.shape.getLastD 1) x (q / li.shape.getLastD 1)) (q % li.shape.getLastD 1) := by
  unfold toepLeaf
  rw [List.getD_eq_getElem _ _ (by simpa using hq), List.getElem_map, List.getElem_range]

/-- **the statement of the kernel**: at the flat position `b*l + i` (`i < l`) the output is
`toep (K−1) l (band row of b) (row b of the input) i` -/
theorem toepLeaf_getD_row (K : Nat) (vals : Tensor Rat) (li lo : LeafS) (x : V) (b i : Nat)
    (hi : i < li.shape.getLastD 1) (hq : b * li.shape.getLastD 1 + i < li.size) :
    (toepLeaf K vals li lo x).getD (b * li.shape.getLastD 1 + i) 0 =
      toep (K - 1) (li.shape.getLastD 1) (toepBandAt K vals li.shape b) (rowOf (li.shape.getLastD 1) x b) i := by
  rw [toepLeaf_getD K vals li lo x _ hq, flat_div b hi, flat_mod b hi]

/-- the same for an un-batched band array (`vals.shape = [K]`): the band is `toepBand vals` on every row -/
theorem toepLeaf_getD_row_unbatched (K : Nat) (vals : Tensor Rat) (hs : vals.shape = [K]) (li lo : LeafS) (x : V)
    (b i : Nat) (hi : i < li.shape.getLastD 1) (hq : b * li.shape.getLastD 1 + i < li.size) :
    (toepLeaf K vals li lo x).getD (b * li.shape.getLastD 1 + i) 0 =
      toep (K - 1) (li.shape.getLastD 1) (toepBand vals) (rowOf (li.shape.getLastD 1) x b) i := by
  rw [toepLeaf_getD_row K vals li lo x b i hi hq, toepBandAt_unbatched K vals hs]

/-- the Toeplitz kernel commutes with multiplication by a scalar, for every input list -/
theorem toepLeaf_smul (K : Nat) (vals : Tensor Rat) (li lo : LeafS) (a : ℝ) (x : V) :
    toepLeaf K vals li lo (x.map fun v => a * v) = (toepLeaf K vals li lo x).map fun v => a * v := by
  unfold toepLeaf
  simp only [List.map_map]
  apply List.map_congr_left
  intro q _
  simp only [Function.comp]
  rw [← toep_smul]
  exact toep_congr _ _ _ _ _ _ fun j _ => getD_map_mul a x _

theorem leaf_size_concat {li : LeafS} {s : List Nat} {l : Nat} (h : li.shape = s ++ [l]) :
    li.size = prodNat s * l := by
  unfold LeafS.size
  rw [h, prodNat_append, prodNat_singleton]

/-- the size of a leaf of rank `≥ 1` is a multiple of the length of its last axis -/
theorem leaf_size_eq (li : LeafS) (h : li.shape ≠ []) :
    li.size = prodNat li.shape.dropLast * li.shape.getLastD 1 := by
  obtain ⟨s, l, hs⟩ : ∃ s l, li.shape = s ++ [l] := ⟨_, _, (List.dropLast_append_getLast h).symm⟩
  rw [leaf_size_concat hs, hs, List.dropLast_concat, List.getLastD_concat]

end ListSem
end Furax
