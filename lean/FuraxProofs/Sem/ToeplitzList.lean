/-
The `SymmetricBandToeplitzOperator` leaf in the list denotation (FuraxProofs/Sem/ListSem.lean); the closed statements
of C09 built on this file are in Props/C09Closed.lean.
The band array may be un-batched (`p.vals.shape = [K]`) or BATCHED (`p.vals.shape = bs ++ [K]`, in practice
`[ndet, K]`: one band row per detector): batch row `b` of a leaf of shape `ds ++ [l]` uses the band row
`toepBandAt K p.vals (ds ++ [l]) b`, obtained by NumPy broadcasting of the batch axes `bs` against `ds`
(`jnp.vectorize(signature='(n),(k)->(n)')`).

The encoder stores `p.vals` = the band values (shape `bs ++ [K]`), `p.str` = the method, `p.ints = [[fft_size or -1]]`.

A leaf with `toepK p.vals = some K` denotes `toepLeaf K p.vals` applied leaf by leaf.
-/
import FuraxProofs.Sem.AdjointList
import FuraxProofs.Props.C09
namespace Furax
namespace ListSem
open Op Toeplitz

/-- the band row of batch row `b` is the position `Tensor.broadcastTo` reads (`bIdx`, StokesLaws.lean) when the batch
axes `bs` of the band array are broadcast to the leading axes `ds` of the leaf -/
theorem bandRow_eq_bIdx (bs ds : List Nat) (K l b : Nat) : bandRow (bs ++ [K]) (ds ++ [l]) b = bIdx bs ds b := by
  simp [bandRow, bIdx]

/-- when the batch axes broadcast to the leading axes of the leaf, the band row of a batch row exists -/
theorem bandRow_lt (bs ds : List Nat) (K l b : Nat) (hbc : Bc bs ds) (hb : b < prodNat ds) :
    bandRow (bs ++ [K]) (ds ++ [l]) b < prodNat bs := by
  rw [bandRow_eq_bIdx]
  exact bIdx_lt bs ds hbc b hb

/-- **one band row per batch row** (`band_values.shape = ds ++ [K]` on data of shape `ds ++ [l]`, e.g. `(ndet, K)` on
`(ndet, nsamp)`): row `b` uses band row `b` -/
theorem bandRow_same (ds : List Nat) (K l b : Nat) (hb : b < prodNat ds) : bandRow (ds ++ [K]) (ds ++ [l]) b = b := by
  rw [bandRow_eq_bIdx]
  unfold bIdx
  have h := Axes.ma_unravel_valid ds b hb
  rw [Diagonal.bcastIndex_self _ _ h.1, h.2]

theorem prodNat_ones (bs : List Nat) (h1 : ∀ d ∈ bs, d = 1) : prodNat bs = 1 := by
  induction bs with
  | nil => rfl
  | cons d bs ih =>
    rw [prodNat_cons, h1 d (by simp), ih (fun e he => h1 e (by simp [he]))]

/-- **batch axes of length 1** (`band_values.shape = [1, …, 1, K]`): every row uses band row `0` -/
theorem bandRow_ones (bs ds : List Nat) (K l b : Nat) (h1 : ∀ d ∈ bs, d = 1) (hlen : bs.length ≤ ds.length)
    (hb : b < prodNat ds) : bandRow (bs ++ [K]) (ds ++ [l]) b = 0 := by
  have hbc : Bc bs ds := ⟨hlen, fun j hj => Or.inl (by
    rw [List.getD_eq_getElem _ _ hj]; exact h1 _ (List.getElem_mem hj))⟩
  have := bandRow_lt bs ds K l b hbc hb
  rw [prodNat_ones bs h1] at this
  omega

theorem bcastIndex_concat (s U : List Nat) (K v : Nat) (h : s.length ≤ U.length) :
    bcastIndex (s ++ [K]) (U ++ [v]) = bcastIndex s U ++ [if K = 1 then 0 else v] := by
  simp only [bcastIndex]
  rw [List.length_append, List.length_append, List.length_singleton, List.length_singleton, Nat.add_sub_add_right,
    List.drop_append_of_le_length (Nat.sub_le _ _), List.zip_append (by rw [List.length_drop]; omega), List.map_append]
  simp

/-- the position read in the band array of shape `bs ++ [K]` broadcast to `ds ++ [K]`: band row of `b`, band `k` -/
theorem bIdx_concat (bs ds : List Nat) (K b k : Nat) (hlen : bs.length ≤ ds.length) (hk : k < K) :
    bIdx (bs ++ [K]) (ds ++ [K]) (b * K + k) = bIdx bs ds b * K + k := by
  unfold bIdx
  have hu : unravel [K] (b * K + k) = [k] := by
    rw [Axes.ma_unravel_cons, Axes.ma_unravel_nil, prodNat_nil, Nat.div_one, flat_mod b hk]
  rw [unravel_append, prodNat_singleton, flat_div b hk, hu,
    bcastIndex_concat _ _ _ _ (by rw [Axes.ma_unravel_length]; exact hlen),
    ravelIdx_append _ _ _ _ (by rw [bcastIndex_length' _ _ (by rw [Axes.ma_unravel_length]; exact hlen)]) (by simp),
    prodNat_singleton]
  congr 1
  split
  · next h1 => subst h1; simp [ravelIdx]; omega
  · simp [ravelIdx]

/-- on a valid leaf no default value is read: the band of row `b` is the stored value at `band row · K + k` -/
theorem toepBandAt_eq_getElem (K : Nat) (vals : Tensor Rat) (bs ds : List Nat) (l b k : Nat)
    (hs : vals.shape = bs ++ [K]) (hd : vals.data.length = prodNat bs * K) (hbc : Bc bs ds) (hb : b < prodNat ds)
    (hk : k < K) :
    ∃ h : bandRow vals.shape (ds ++ [l]) b * K + k < vals.data.length,
      toepBandAt K vals (ds ++ [l]) b k = ((vals.data[bandRow vals.shape (ds ++ [l]) b * K + k] : Rat) : ℝ) := by
  have hlt : bandRow vals.shape (ds ++ [l]) b * K + k < vals.data.length := by
    rw [hd, hs]
    exact flat_lt (bandRow_lt bs ds K l b hbc hb) hk
  exact ⟨hlt, by unfold toepBandAt toepBand; rw [List.getD_eq_getElem _ _ hlt]⟩

/-! ### the denotation of a Toeplitz leaf (band array with a last axis: `toepK p.vals = some K`) -/

theorem leafDen_toeplitz (E : Env) (u : Nat) (p : Params) (K : Nat) (hK : toepK p.vals = some K) (x : V) :
    leafDen E u .toeplitz p x =
      fit p.inS.size (perLeaf (toepLeaf K p.vals) p.inS.leaves p.inS.leaves (fit p.inS.size x)) := by
  simp only [leafDen, squareLeaf, if_true, hK]

theorem leafDenT_toeplitz (E : Env) (u : Nat) (p : Params) (K : Nat) (hK : toepK p.vals = some K) (y : V) :
    leafDenT E u .toeplitz p y =
      fit p.inS.size (perLeaf (toepLeaf K p.vals) p.inS.leaves p.inS.leaves (fit p.inS.size y)) := by
  simp only [leafDenT, squareLeaf, if_true, hK]

/-- the operator is `@symmetric`: `op.T.mv` is `op.mv`, on EVERY input -/
theorem denT_toeplitz_eq_den (E : Env) (u : Nat) (p : Params) (hK : toepK p.vals ≠ none) :
    denT E (.leaf u .toeplitz p) = den E (.leaf u .toeplitz p) := by
  obtain ⟨K, hK⟩ := Option.ne_none_iff_exists'.mp hK
  funext y
  rw [den, denT, leafDen_toeplitz E u p K hK, leafDenT_toeplitz E u p K hK]

/-- the entries of a leaf-wise map on the leaf `li` that sits after the leaves `pre` -/
theorem perLeaf_getD_at (f : LeafS → LeafS → V → V) (pre : List LeafS) (li : LeafS) (post : List LeafS) (x : V)
    (q : Nat) (hq : q < li.size) :
    (perLeaf f (pre ++ li :: post) (pre ++ li :: post) x).getD ((pre.map LeafS.size).sum + q) 0 =
      (f li li (headChunk li.size (x.drop (pre.map LeafS.size).sum))).getD q 0 := by
  induction pre generalizing x with
  | nil =>
    simp only [List.nil_append, List.map_nil, List.sum_nil, Nat.zero_add, List.drop_zero]
    rw [perLeaf_cons, List.getD_append _ _ _ _ (by rw [fit_length]; exact hq), fit_getD _ _ _ hq]
  | cons a pre ih =>
    simp only [List.cons_append, List.map_cons, List.sum_cons]
    rw [perLeaf_cons, List.getD_append_right _ _ _ _ (by rw [fit_length]; omega), fit_length]
    have e : a.size + (pre.map LeafS.size).sum + q - a.size = (pre.map LeafS.size).sum + q := by omega
    rw [e, ih (x.drop a.size), List.drop_drop]

/-- the structure size bounds the offsets of its leaves -/
theorem struct_size_split (s : Struct) (pre : List LeafS) (li : LeafS) (post : List LeafS)
    (h : s.leaves = pre ++ li :: post) :
    s.size = (pre.map LeafS.size).sum + li.size + (post.map LeafS.size).sum := by
  unfold Struct.size
  rw [h]
  simp [Nat.add_assoc]

/-- the part of the input a leaf-wise map hands to the leaf `li` that sits after the leaves `pre` -/
theorem leafInput_getD (s : Struct) (pre : List LeafS) (li : LeafS) (post : List LeafS)
    (h : s.leaves = pre ++ li :: post) (x : V) (q : Nat) (hq : q < li.size) :
    (headChunk li.size ((fit s.size x).drop (pre.map LeafS.size).sum)).getD q 0 =
      x.getD ((pre.map LeafS.size).sum + q) 0 := by
  have := struct_size_split s pre li post h
  rw [headChunk_getD _ _ _ hq, drop_getD, fit_getD _ _ _ (by omega)]

/-- the entries of a square leaf-wise operator (`squareLeaf`) on that leaf -/
theorem squareLeaf_getD (f : LeafS → LeafS → V → V) (s : Struct) (pre : List LeafS) (li : LeafS) (post : List LeafS)
    (h : s.leaves = pre ++ li :: post) (x : V) (q : Nat) (hq : q < li.size) :
    (fit s.size (perLeaf f s.leaves s.leaves (fit s.size x))).getD ((pre.map LeafS.size).sum + q) 0 =
      (f li li (headChunk li.size ((fit s.size x).drop (pre.map LeafS.size).sum))).getD q 0 := by
  have := struct_size_split s pre li post h
  rw [fit_getD _ _ _ (by omega), h, perLeaf_getD_at _ pre li post _ q hq]

theorem toepK_of_unbatched {vals : Tensor Rat} {K : Nat} (hs : vals.shape = [K]) : toepK vals = some K := by
  simp [toepK, hs]

/-- the evaluation function `SymmetricBandToeplitzOperator.mv` dispatches to, by method (the dispatch of the
compiled driver, FuraxModel/Driver.lean `handleToeplitz`); `F` is only read by `overlap_save` -/
noncomputable def evalMethod (method : String) (F h l : Nat) (band x : Nat → ℝ) : Option (Nat → ℝ) :=
  if method = "dense" then some (applyDense h l band x)
  else if method = "direct" then some (applyDirect h l band x)
  else if method = "fft" then some (applyFft h l band x)
  else if method = "overlap_save" then some (applyOverlapSave F h l band x)
  else none

/-- the `fft_size` argument as the encoder stores it: `p.ints = [[f]]`, a negative `f` (`-1`) standing for `None` -/
def fftArg (p : Params) : Option Nat :=
  match p.ints with
  | [[f]] => if f < 0 then none else some f.toNat
  | _ => none

/-- **whatever the constructor accepts computes the banded product**: if `toeplitzCtor method K fft` returns
`.ok r` (`r` = the FFT size the operator keeps, `none` for the methods that have none), the evaluation function of
`method` exists and returns `toep (K−1) l band x` on `[0, l)` -/
theorem ctor_evalMethod (method : String) (K : Nat) (hK1 : 1 ≤ K) (fft r : Option Nat)
    (hc : toeplitzCtor method K fft = .ok r) (l : Nat) (band x : Nat → ℝ) :
    ∃ y, evalMethod method (r.getD 0) (K - 1) l band x = some y ∧
      ∀ i, i < l → y i = toep (K - 1) l band x i := by
  unfold evalMethod
  by_cases h1 : method = "dense"
  · exact ⟨_, if_pos h1, fun i hi => C09.dense_correct _ _ _ _ i hi⟩
  by_cases h2 : method = "direct"
  · exact ⟨_, by rw [if_neg h1, if_pos h2], fun i hi => C09.direct_correct _ _ _ _ i hi⟩
  by_cases h3 : method = "fft"
  · exact ⟨_, by rw [if_neg h1, if_neg h2, if_pos h3], fun i hi => C09.fft_correct _ _ _ _ i hi⟩
  by_cases h4 : method = "overlap_save"
  · subst h4
    obtain ⟨F, rfl, hF⟩ := C09.ctor_overlap_save_ok K fft r hc
    exact ⟨_, by rw [if_neg h1, if_neg h2, if_neg h3, if_pos rfl]; rfl,
      fun i hi => C09.overlapSave_correct F _ _ _ _ (by omega) i hi⟩
  · exfalso
    unfold toeplitzCtor at hc
    simp [h1, h2, h3, h4] at hc

/-- **a Toeplitz leaf (band array `bs ++ [K]`, batched or not) is self-adjoint in the list denotation**:
`⟨T x, y⟩ = ⟨x, T y⟩` for all `x`, `y` of the size of the structure — and `T.T` is `T` (`denT_toeplitz_eq_den`) -/
theorem toeplitz_den_self_adjoint (E : Env) (u : Nat) (p : Params) (hK : toepK p.vals ≠ none) (x y : V)
    (hx : x.length = p.inS.size) (hy : y.length = p.inS.size) :
    dot (den E (.leaf u .toeplitz p) x) y = dot x (den E (.leaf u .toeplitz p) y) :=
  (toeplitz_leaf_adjoint E u p hK x y hx hy).trans (congrArg (dot x) (congrFun (denT_toeplitz_eq_den E u p hK) y))

/-- the same from the validity of the leaf -/
theorem toeplitzOK_self_adjoint (E : Env) (u : Nat) (p : Params) (h : toeplitzOK p) (x y : V)
    (hx : x.length = p.inS.size) (hy : y.length = p.inS.size) :
    dot (den E (.leaf u .toeplitz p) x) y = dot x (den E (.leaf u .toeplitz p) y) := by
  obtain ⟨K, _, hK⟩ := h.toepK
  exact toeplitz_den_self_adjoint E u p (by rw [hK]; simp) x y hx hy

/-- an expression made of a valid Toeplitz leaf only needs NO assumption on the environment for the closed
adjointness theorem -/
theorem toeplitz_envAdjOn (E : Env) (u : Nat) (p : Params) (hK : toepK p.vals ≠ none) :
    EnvAdjOn E (.leaf u .toeplitz p) ∧ EnvSymOn E (.leaf u .toeplitz p) := by
  constructor
  · simp only [EnvAdjOn, AllLeaves]
    exact fun _ => toeplitz_leaf_adjoint E u p hK
  · simp only [EnvSymOn, AllLeaves]
    exact fun _ hn => absurd hn hK

/-! ### concrete leaves -/

namespace ToeplitzExample

/-! two rows of length 3, four bands (`K = 4 > l = 3`), un-batched -/

def sT : Struct := ⟨[.leaf], [⟨[2, 3], .f64⟩]⟩
def tP : Params := { inS := sT, outS := sT, vals := ⟨[4], [4, 1, 2, 7]⟩, str := "overlap_save", ints := [[8]] }

theorem tP_unbatched_ok : toeplitzUnbatchedOK tP := by
  refine ⟨⟨4, by decide, rfl, rfl⟩, ?_⟩
  intro l hl
  simp only [tP, sT, List.mem_singleton] at hl
  subst hl
  simp

theorem tP_ok : toeplitzOK tP := toeplitzOK_of_unbatched tP_unbatched_ok

theorem tP_ctor : toeplitzCtor tP.str 4 (fftArg tP) = .ok (some 8) := by decide

/-! **a batched band**: one band row per row, `band_values.shape = (2, 2)` on data of shape `(2, 3)` — the docstring
example of the Python class with other values: row 0 uses the band `[4, 1]`, row 1 the band `[2, 7]` -/

def tB : Params := { inS := sT, outS := sT, vals := ⟨[2, 2], [4, 1, 2, 7]⟩, str := "fft", ints := [[-1]] }

theorem tB_ok : toeplitzOK tB := by
  refine ⟨[2], 2, by decide, rfl, rfl, ?_⟩
  intro l hl
  simp only [tB, sT, List.mem_singleton] at hl
  subst hl
  exact ⟨by simp, by decide⟩

theorem tB_K : toepK tB.vals = some 2 := rfl

theorem tB_ctor : toeplitzCtor tB.str 2 (fftArg tB) = .ok none := by decide

/-- not an un-batched leaf -/
example : ¬ toeplitzUnbatchedOK tB := by
  rintro ⟨⟨K, _, hs, _⟩, _⟩
  simp [tB] at hs

/-- the band rows of `tB` through the general lemma: `bs = ds = [2]` -/
example (b : Nat) (hb : b < 2) : bandRow tB.vals.shape ([2] ++ [3]) b = b :=
  bandRow_same [2] 2 3 b (by simpa [prodNat] using hb)

/-! **broadcast batch axes**: `band_values.shape = (1, 2)` on data `(2, 3)` (every row uses the only band row), and
`band_values.shape = (2, 1, 2)` on data `(2, 2, 3)` (rows `(a, ·)` use band row `a`) -/

def tB1 : Params := { inS := sT, outS := sT, vals := ⟨[1, 2], [4, 1]⟩, str := "dense", ints := [[-1]] }

theorem tB1_ok : toeplitzOK tB1 := by
  refine ⟨[1], 2, by decide, rfl, rfl, ?_⟩
  intro l hl
  simp only [tB1, sT, List.mem_singleton] at hl
  subst hl
  exact ⟨by simp, by decide⟩

def sT3 : Struct := ⟨[.leaf], [⟨[2, 2, 3], .f64⟩]⟩
def tB3 : Params := { inS := sT3, outS := sT3, vals := ⟨[2, 1, 2], [4, 1, 2, 7]⟩, str := "direct", ints := [[-1]] }

theorem tB3_ok : toeplitzOK tB3 := by
  refine ⟨[2, 1], 2, by decide, rfl, rfl, ?_⟩
  intro l hl
  simp only [tB3, sT3, List.mem_singleton] at hl
  subst hl
  exact ⟨by simp, by decide⟩

/-! **outside `toeplitzOK`**: `band_values.shape = (2, 2)` on data of shape `(3,)` — the batch axes broadcast WITH the
(empty) leading axes of the data but not TO them.  The Python constructor accepts it, `mv` then returns an array of
shape `(2, 3)` although `in_structure() = out_structure()` has shape `(3,)` (finding F18, DESIGN.md §10.3, repaired in furax since); the denotation (which always
returns a vector of the size of the leaf) does not describe that leaf, and `toeplitzOK` excludes it. -/

def sT1 : Struct := ⟨[.leaf], [⟨[3], .f64⟩]⟩
def tBad : Params := { inS := sT1, outS := sT1, vals := ⟨[2, 2], [4, 1, 2, 7]⟩, str := "dense", ints := [[-1]] }

example : ¬ toeplitzOK tBad := by
  rintro ⟨bs, K, _, hs, _, hr⟩
  have hbs : bs = [2] := by
    have := congrArg List.dropLast hs
    simpa [tBad] using this.symm
  subst hbs
  have := (hr ⟨[3], .f64⟩ (by simp [tBad, sT1])).2
  revert this
  decide

/-- the batched leaf is self-adjoint and its own transpose, for every environment -/
example (E : Env) (x y : V) (hx : x.length = 6) (hy : y.length = 6) :
    dot (den E (.leaf 1 .toeplitz tB) x) y = dot x (den E (.leaf 1 .toeplitz tB) y) :=
  toeplitzOK_self_adjoint E 1 tB tB_ok x y hx hy

/-! non-vacuity of the closed adjoint theorem WITHOUT any assumption on the environment: `Index ∘ Toeplitz` -/

open Examples in
/-- a Toeplitz leaf on the input structure of the index operator `idxP` (one leaf of shape `[3]`), two bands -/
def tQ : Params := { inS := idxP.inS, outS := idxP.inS, vals := ⟨[2], [2, 1]⟩, str := "fft", ints := [[-1]] }

theorem tQ_ok : toeplitzOK tQ := by
  refine toeplitzOK_of_unbatched ⟨⟨2, by decide, rfl, rfl⟩, ?_⟩
  intro l hl
  simp only [tQ, Examples.idxP, List.mem_singleton] at hl
  subst hl
  simp

theorem tQ_ctor : toeplitzCtor tQ.str 2 (fftArg tQ) = .ok none := by decide

open Examples in
/-- `IndexOperator ∘ SymmetricBandToeplitzOperator`, from vectors of length 3 to vectors of length 2 -/
def exT : Op := .comp 1 [.leaf 4 .index idxP, .leaf 6 .toeplitz tQ]

open Examples in
/-- its transpose as `transposeOp` computes it: the Toeplitz leaf returns itself -/
def exTT : Op := .comp 0 [.leaf 6 .toeplitz tQ, .wrap 0 .transpose (.leaf 4 .index idxP)]

theorem exT_validT : ValidT exT := by
  have hi : adjLeafOK .index Examples.idxP := ⟨Examples.idxP_ok, by simp⟩
  have ht : adjLeafOK .toeplitz tQ := ⟨listLeafOK_toeplitz tQ_ok, by simp⟩
  refine ⟨?_, by simp [exT, TFormOK, TFormOKList]⟩
  simp only [Valid, exT, WTExpr, WTList, Chain]
  exact ⟨by simp, ⟨hi, ht, trivial⟩, rfl, trivial⟩

theorem exT_wft : exT.WFT := by
  simp [exT, Op.WFT, Op.WFTList, isSymmetricLeaf, tQ]

theorem exT_T : transposeOp exT = .ok exTT := by
  simp [exT, exTT, transposeOp, transposeList, isSymmetricLeaf]

theorem exT_env (E : Env) : EnvAdjOn E exT ∧ EnvSymOn E exT := by
  simp only [EnvAdjOn, EnvSymOn, exT, AllLeaves, AllLeavesList, isEnvLeaf, Bool.false_eq_true, false_imp_iff,
    true_and, and_true]
  have hK : toepK tQ.vals ≠ none := by decide
  exact ⟨fun _ => toeplitz_leaf_adjoint E 6 tQ hK, by simp, fun _ hn => absurd hn hK⟩

/-- **the closed C03 on an expression with a Toeplitz leaf, for EVERY environment, no hypothesis left**:
`⟨(Index ∘ Toeplitz) x, y⟩ = ⟨x, (Toeplitz ∘ Indexᵀ) y⟩` -/
theorem exT_adjoint (E : Env) (x y : V) (hx : x.length = 3) (hy : y.length = 2) :
    dot (den E exT x) y = dot x (den E exTT y) :=
  transpose_is_adjoint_closed_on E exT exTT (exT_env E).1 (exT_env E).2 exT_validT exT_wft exT_T x y hx hy

end ToeplitzExample


end ListSem
end Furax
