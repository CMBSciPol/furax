/-
The executable validity check (FuraxModel/Valid.lean) DECIDES the hypotheses of the closed theorems.

* `leafOKb_iff c p : leafOKb c p = true ↔ listLeafOK c p`, one lemma per leaf class: soundness AND completeness, every
  clause of `listLeafOK` is decidable from the encoded data (for the dense einsum leaves with a shared block array:
  `ListSem.denseCheck_iff`, FuraxProofs/Sem/DenseLeaf.lean — the witnesses of `LeafFits` are determined by the shapes);
* `validWith_iff`: the only part of `WTExpr` that is not decided is the invertibility of the operands of the lazy
  inverses, kept as an explicit hypothesis; `validb_iff` is the instance `leafOK := listLeafOK`;
* `validTb_iff`: the hypotheses of `transpose_is_adjoint_closed` ask no invertibility and are fully decided;
* `invalidReason_none_iff`: the diagnostic is `none` exactly when the check passes.
-/
import FuraxModel.Valid
import FuraxProofs.Sem.ListModel
import FuraxProofs.Sem.AdjointList
import FuraxProofs.Sem.InverseList
namespace Furax
namespace Valid
open Op ListSem

theorem and_rotate {a b c d : Prop} : a ∧ (b ∧ d) ∧ c ↔ ((a ∧ b) ∧ c) ∧ d :=
  ⟨fun ⟨ha, ⟨hb, hd⟩, hc⟩ => ⟨⟨⟨ha, hb⟩, hc⟩, hd⟩, fun ⟨⟨⟨ha, hb⟩, hc⟩, hd⟩ => ⟨ha, ⟨hb, hd⟩, hc⟩⟩

theorem allb_nil : allb [] = true := rfl

theorem allb_cons (t : String) (b : Bool) (cs : List Clause) : allb ((t, b) :: cs) = (b && allb cs) := by
  simp [allb]

theorem allb_append (a b : List Clause) : allb (a ++ b) = (allb a && allb b) := by
  simp [allb]

theorem firstFail_none_iff (cs : List Clause) : firstFail cs = none ↔ allb cs = true := by
  induction cs with
  | nil => simp [firstFail, allb]
  | cons c cs ih =>
    obtain ⟨t, b⟩ := c
    cases b <;> simp [firstFail, allb_cons, ih]

theorem forall2b_iff {α β : Type} (r : α → β → Bool) (R : α → β → Prop) (h : ∀ a b, r a b = true ↔ R a b) :
    ∀ (as : List α) (bs : List β), forall2b r as bs = true ↔ List.Forall₂ R as bs
  | [], [] => by simp [forall2b]
  | [], _ :: _ => by simp [forall2b]
  | _ :: _, [] => by simp [forall2b]
  | a :: as, b :: bs => by
    simp only [forall2b, Bool.and_eq_true, List.forall₂_cons, h, forall2b_iff r R h as bs]

theorem bcb_iff (s S : List Nat) : bcb s S = true ↔ Bc s S := by
  simp only [bcb, Bc, Bool.and_eq_true, decide_eq_true_eq, List.all_eq_true, List.mem_range, Bool.or_eq_true,
    beq_iff_eq]

theorem nodupb_iff : ∀ l : List Nat, nodupb l = true ↔ l.Nodup
  | [] => by simp [nodupb]
  | a :: as => by
    simp only [nodupb, Bool.and_eq_true, Bool.not_eq_true', List.nodup_cons, nodupb_iff as]
    simp

/-- `c != k || b`, the Boolean form of `c = k → b` -/
theorem ne_or_iff {α : Type} [DecidableEq α] (c k : α) (b : Bool) : ((c != k) || b) = true ↔ (c = k → b = true) := by
  by_cases h : c = k <;> simp [h]

theorem not_or_iff (a b : Bool) : (!a || b) = true ↔ (a = true → b = true) := by
  cases a <;> simp

/-- a chain of refusals `if c₁ then some t₁ else if c₂ then … else none` accepts when no condition holds -/
theorem ite_some_isNone {α : Type} (c : Prop) [Decidable c] (t : α) (r : Option α) :
    (if c then some t else r).isNone = true ↔ ¬ c ∧ r.isNone = true := by
  by_cases h : c <;> simp [h]

theorem toeplitzLeafb_iff (bs : List Nat) (l : LeafS) :
    toeplitzLeafb bs l = true ↔ l.shape ≠ [] ∧ Bc bs l.shape.dropLast := by
  simp [toeplitzLeafb, bcb_iff]

theorem toeplitz_iff (p : Params) : allb (toeplitzClauses p) = true ↔ listLeafOK .toeplitz p := by
  unfold toeplitzClauses
  simp only [listLeafOK, toepK]
  cases hK : p.vals.shape.getLast? with
  | none => simp [allb]
  | some K =>
    have hsh : p.vals.shape = p.vals.shape.dropLast ++ [K] :=
      (List.dropLast_append_getLast? K (by simp [hK])).symm
    simp only [allb_cons, allb_nil, Bool.and_true, Bool.and_eq_true, decide_eq_true_eq, beq_iff_eq,
      List.all_eq_true, toeplitzLeafb_iff, ne_eq, reduceCtorEq, not_false_eq_true, forall_const, bne_iff_ne]
    constructor
    · rintro ⟨h1, h2, _, h4⟩
      exact ⟨_, K, h1, hsh, h2, h4⟩
    · rintro ⟨bs, K', h1, h2, h3, h4⟩
      have he : p.vals.shape.dropLast ++ [K] = bs ++ [K'] := hsh ▸ h2
      obtain ⟨hb, hk⟩ := List.append_inj' he rfl
      have hk' : K = K' := by simpa using hk
      subst hk'
      rw [hb]
      exact ⟨h1, h3, fun l hl => (h4 l hl).1, h4⟩

theorem moveAxisLeafb_iff (src dst : List Int) (li lo : LeafS) :
    moveAxisLeafb src dst li lo = true ↔ ∃ order, Axes.moveaxisOrder li.shape.length src dst = .ok order ∧
      lo.shape = Axes.transposeShape li.shape order ∧ lo.dtype = li.dtype := by
  unfold moveAxisLeafb
  cases h : Axes.moveaxisOrder li.shape.length src dst with
  | error e => simp
  | ok order => simp

theorem moveAxis_iff (p : Params) : allb (moveAxisClauses p) = true ↔ listLeafOK .moveAxis p := by
  simp only [moveAxisClauses, allb_cons, allb_nil, Bool.and_true, Bool.and_eq_true, beq_iff_eq, listLeafOK,
    moveAxisOK, forall2b_iff _ _ (moveAxisLeafb_iff _ _)]

theorem reshape_iff (p : Params) : allb (reshapeClauses p) = true ↔ reshapeOK p := by
  simp only [reshapeClauses, allb_cons, allb_nil, Bool.and_true, Bool.and_eq_true, beq_iff_eq, reshapeOK,
    forall2b_iff _ (fun li lo : LeafS => lo.size = li.size) (fun _ _ => beq_iff_eq)]

theorem indexLeafb_iff (idx : List IdxEntry) (uniq : Bool) (P : Prop) (hP : P ↔ uniq = true) (li lo : LeafS) :
    indexLeafb idx uniq li lo = true ↔ indexLeafOK idx P li lo := by
  unfold indexLeafb indexLeafReason indexLeafOK
  cases h : Index.indexPositions li.shape idx with
  | error e => simp
  | ok r =>
    obtain ⟨sh, pos⟩ := r
    simp only [ite_some_isNone, Option.isNone_none, and_true, bne_iff_ne, ne_eq, not_not, Bool.not_eq_true',
      Bool.not_eq_false, Bool.and_eq_true, not_and, List.all_eq_true, decide_eq_true_eq, nodupb_iff,
      Except.ok.injEq, Prod.mk.injEq, hP]
    constructor
    · rintro ⟨h1, h2, h3, h4⟩
      exact ⟨pos, ⟨h1, rfl⟩, h2, h3, h4⟩
    · rintro ⟨pos', ⟨h1, rfl⟩, h2, h3, h4⟩
      exact ⟨h1, h2, h3, h4⟩

theorem idxWellFormedb_iff (idx : List IdxEntry) :
    idxWellFormedb idx = true ↔ ∀ sh vals, IdxEntry.iarr sh vals ∈ idx → vals.length = prodNat sh := by
  unfold idxWellFormedb
  rw [List.all_eq_true]
  constructor
  · intro h sh vals hm
    simpa using h _ hm
  · intro h e he
    cases e with
    | iarr sh vals => simpa using h sh vals he
    | _ => rfl

theorem idxInBoundsb_iff (idx : List IdxEntry) (leaves : List LeafS) :
    idxInBoundsb idx leaves = true ↔
      ∀ axis ∈ indexedAxes idx, ∀ sh vals, pyGet? idx axis = some (.iarr sh vals) →
        ∀ l ∈ leaves, ∀ n, pyGet? l.shape axis = some n → ∀ i ∈ vals, -(n : Int) ≤ i ∧ i < n := by
  unfold idxInBoundsb
  rw [List.all_eq_true]
  refine forall_congr' fun axis => forall_congr' fun _ => ?_
  split
  · rename_i sh vals hg
    rw [hg, List.all_eq_true]
    constructor
    · intro h _ _ e l hl n hn
      cases e
      have := h l hl
      simpa only [hn, List.all_eq_true, Bool.and_eq_true, decide_eq_true_eq] using this
    · intro h l hl
      split
      · rename_i n hn
        simpa only [List.all_eq_true, Bool.and_eq_true, decide_eq_true_eq] using h sh vals rfl l hl n hn
      · rfl
  · rename_i h
    exact iff_of_true rfl fun sh vals e => absurd e (h sh vals)

theorem index_iff (p : Params) : allb (indexClauses p) = true ↔ listLeafOK .index p := by
  simp only [indexClauses, allb_cons, allb_nil, Bool.and_true, Bool.and_eq_true, beq_iff_eq, listLeafOK, indexOK,
    indexArraysOK, idxWellFormedb_iff, idxInBoundsb_iff,
    forall2b_iff _ _ (indexLeafb_iff p.idx p.flag (p.flag = true) Iff.rfl)]
  constructor
  · rintro ⟨h1, _, h3, h4, h5⟩
    exact ⟨⟨h1, h3⟩, h4, h5⟩
  · rintro ⟨⟨h1, h3⟩, h4, h5⟩
    exact ⟨h1, h3.length_eq, h3, h4, h5⟩

theorem pack_iff (p : Params) : allb (packClauses p) = true ↔ listLeafOK .pack p := by
  simp only [packClauses, allb_cons, allb_nil, Bool.and_true, Bool.and_eq_true, beq_iff_eq, listLeafOK, packOK,
    forall2b_iff _ _ (indexLeafb_iff p.idx true True (by simp))]
  constructor
  · rintro ⟨h1, _, h3⟩
    exact ⟨h1, h3⟩
  · rintro ⟨h1, h3⟩
    exact ⟨h1, h3.length_eq, h3⟩

theorem kindOf_isSome_iff (n : Nat) : (∃ k, kindOf n = some k) ↔ 1 ≤ n ∧ n ≤ 4 := by
  match n with
  | 0 | n + 5 => exact iff_of_false (fun ⟨_, h⟩ => nomatch h) (by omega)
  | 1 | 2 | 3 | 4 => exact iff_of_true ⟨_, rfl⟩ (by omega)

theorem leafShape_eq (p : Params) : Valid.leafShape p = ListSem.leafShape p := rfl

theorem stokes_iff (c : LeafCls) (p : Params) : allb (stokesClauses c p) = true ↔ stokesOK c p := by
  simp only [stokesClauses, allb_cons, allb_nil, Bool.and_true, Bool.and_eq_true, decide_eq_true_eq, beq_iff_eq,
    List.all_eq_true, ne_or_iff, bcb_iff, stokesOK, kindOf_isSome_iff, leafShape_eq]
  constructor
  · rintro ⟨h1, h2, h3, h4, h5⟩
    refine ⟨h1, h2, fun hc => ⟨h3 hc, h4 hc⟩, fun hc => ?_⟩
    have := h5 hc
    split at this
    · rename_i l hl
      exact ⟨l, hl, by simpa using this⟩
    · cases this
  · rintro ⟨h1, h2, h3, h4⟩
    refine ⟨h1, h2, fun hc => (h3 hc).1, fun hc => (h3 hc).2, fun hc => ?_⟩
    obtain ⟨l, hl, hs⟩ := h4 hc
    rw [hl]
    simpa using hs

def shapeOf {α : Type} (r : Except PyErr (Tensor α)) : Except PyErr (List Nat) :=
  match r with
  | .ok y => .ok y.shape
  | .error e => .error e

section diagonal
variable {α : Type} [Inhabited α] [Mul α]

omit [Mul α] in
theorem reshapeDiagonal_shape (values : Tensor α) (axes : List Int) (ndim : Nat) :
    shapeOf (Diagonal.reshapeDiagonal values axes ndim) = reshapeDiagonalShape values.shape axes ndim := by
  unfold shapeOf
  unfold Diagonal.reshapeDiagonal reshapeDiagonalShape Axes.moveaxis
  simp only [bind, Except.bind, pure, Except.pure]
  cases h : Axes.moveaxisOrder (values.shape ++ List.replicate
        ((Diagonal.leftDims axes : Int) + Diagonal.rightDims axes ndim + ndim - values.shape.length).toNat 1).length
      ((List.range axes.length).map fun (k : Nat) => Int.ofNat k)
      (axes.map (· + (Diagonal.leftDims axes : Int))) <;> rfl

/-- **success / failure of `Diagonal.apply` and the shape of its result depend on the shapes only** -/
theorem apply_shape (strict : Bool) (values : Tensor α) (spec : Diagonal.AxisSpec) (x : Tensor α) :
    shapeOf (Diagonal.apply strict values spec x) = applyShape strict values.shape spec x.shape := by
  unfold shapeOf
  unfold Diagonal.apply applyShape
  by_cases h0 : (values.shape.length == 0) = true
  · simp [h0]
  · simp only [h0, if_false, bind, Except.bind, Bool.false_eq_true]
    cases hax : Diagonal.normalizeAxes (Diagonal.normalizeSpec values.shape.length spec) x.shape.length with
    | error e => simp
    | ok axes =>
      simp only
      have hr := reshapeDiagonal_shape values axes x.shape.length
      cases hd : Diagonal.reshapeDiagonal values axes x.shape.length with
      | error e =>
        rw [hd] at hr
        simp only [← hr, shapeOf]
      | ok d =>
        rw [hd] at hr
        simp only [← hr, shapeOf]
        unfold Tensor.zipBroadcast Diagonal.reshapeLeaf
        cases hb : broadcastShapes d.shape (x.shape ++ List.replicate (Diagonal.rightDims axes x.shape.length) 1) with
        | none => simp [bind, Option.bind]
        | some y =>
          simp only [bind, Option.bind]
          by_cases hs : (strict && y != x.shape) = true
          · simp [hs]
          · simp [hs]

end diagonal

theorem diagonalLeafb_iff (p : Params) (l : LeafS) :
    diagonalLeafb p l = true ↔ ∀ c : V, ∃ y,
      Diagonal.apply true (castT p.vals) (.seq (p.ints.getD 0 [])) (⟨l.shape, c⟩ : Tensor ℝ) = .ok y ∧
      y.shape = l.shape := by
  have key : ∀ c : V, shapeOf (Diagonal.apply true (castT p.vals) (.seq (p.ints.getD 0 [])) (⟨l.shape, c⟩ : Tensor ℝ))
      = applyShape true p.vals.shape (.seq (p.ints.getD 0 [])) l.shape :=
    fun c => apply_shape true (castT p.vals) (.seq (p.ints.getD 0 [])) ⟨l.shape, c⟩
  unfold diagonalLeafb
  cases ha : applyShape true p.vals.shape (.seq (p.ints.getD 0 [])) l.shape with
  | error e =>
    refine iff_of_false Bool.false_ne_true fun h => ?_
    obtain ⟨y, hy, _⟩ := h []
    have := key []
    rw [hy, ha] at this
    cases this
  | ok s =>
    refine iff_of_true rfl fun c => ?_
    cases hy : Diagonal.apply true (castT p.vals) (.seq (p.ints.getD 0 [])) (⟨l.shape, c⟩ : Tensor ℝ) with
    | error e =>
      have := key c
      rw [hy, ha] at this
      cases this
    | ok y => exact ⟨y, rfl, Diagonal.apply_strict_shape _ _ _ _ hy⟩

theorem diagonal_iff (p : Params) : allb (diagonalClauses p) = true ↔ diagonalOK p := by
  simp only [diagonalClauses, allb_cons, allb_nil, Bool.and_true, List.all_eq_true, diagonalLeafb_iff, diagonalOK]

/-! ### dense einsum blocks -/

/-- a dense leaf with a shared block array passes `Einsum.denseCheck` exactly when it is `denseOK`
(`ListSem.denseCheck_iff`: the executable check is sound and complete); one with a block array per leaf is not
constrained -/
theorem dense_iff (p : Params) : allb (denseClauses p) = true ↔ listLeafOK .dense p := by
  simp only [denseClauses, allb_cons, allb_nil, Bool.and_true, Bool.or_eq_true, Bool.not_eq_true', listLeafOK,
    denseSharedb_eq, denseCheck_iff]
  cases denseShared p <;> simp

/-- the dense clause once the split of the subscripts is known: `Einsum.parseSubscripts` (`String.splitOn`) does not
reduce in the Lean kernel, `Einsum.denseCheckTerms` does; `ListSem.parseSubscripts_readback` gives the split -/
theorem leafOKb_dense_eq_terms (p : Params) (l r o : String) (hp : Einsum.parseSubscripts p.str = .ok (l, r, o)) :
    leafOKb .dense p = (!Einsum.denseSharedb p || Einsum.denseCheckTerms l.toList r.toList o.toList p) := by
  simp only [leafOKb, leafClauses, denseClauses, allb_cons, allb_nil, Bool.and_true, denseCheck_eq_terms p l r o hp]

theorem leafReason_dense_eq_terms (p : Params) (l r o : String) (hp : Einsum.parseSubscripts p.str = .ok (l, r, o)) :
    leafReason .dense p = if !Einsum.denseSharedb p || Einsum.denseCheckTerms l.toList r.toList o.toList p then none
      else some ("dense:" ++ (Einsum.denseReasonTerms l.toList r.toList o.toList p).getD "") := by
  simp only [leafReason, leafClauses, denseClauses, firstFail, denseCheck_eq_terms p l r o hp,
    denseReason_eq_terms p l r o hp]

/-- **the Boolean leaf check decides `listLeafOK`** -/
theorem leafOKb_iff (c : LeafCls) (p : Params) : leafOKb c p = true ↔ listLeafOK c p := by
  unfold leafOKb
  cases c
  case toeplitz => exact toeplitz_iff p
  case moveAxis => exact moveAxis_iff p
  case ravel => exact reshape_iff p
  case reshape => exact reshape_iff p
  case index => exact index_iff p
  case pack => exact pack_iff p
  case qurot => exact stokes_iff .qurot p
  case hwp => exact stokes_iff .hwp p
  case polarizer => exact stokes_iff .polarizer p
  case diagonal => exact diagonal_iff p
  case dense => exact dense_iff p
  all_goals simp [leafClauses, allb, listLeafOK]

theorem leafOKb_sound (c : LeafCls) (p : Params) : leafOKb c p = true → listLeafOK c p := (leafOKb_iff c p).mp

/-- completeness: a `false` answer really means "outside the domain of the theorems" -/
theorem leafOKb_complete (c : LeafCls) (p : Params) : listLeafOK c p → leafOKb c p = true := (leafOKb_iff c p).mpr

instance (c : LeafCls) (p : Params) : Decidable (listLeafOK c p) := decidable_of_iff _ (leafOKb_iff c p)

theorem leafReason_none_iff (c : LeafCls) (p : Params) : leafReason c p = none ↔ leafOKb c p = true :=
  firstFail_none_iff _

theorem isLazyb_iff (k : WrapCls) : isLazyb k = true ↔ k.isLazy := by
  cases k <;> simp [isLazyb, WrapCls.isLazy]

/-- `WrapOK` = its structural part (decided) + the invertibility of the operand of a lazy inverse (not decided) -/
theorem wrapOK_iff (inv : Op → Prop) (k : WrapCls) (o : Op) :
    WrapOK inv k o ↔ allb (wrapClauses k o) = true ∧ (isLazyb k = true → inv o) := by
  simp only [WrapOK, wrapClauses, allb_cons, allb_nil, Bool.and_true, Bool.and_eq_true, ne_or_iff, not_or_iff,
    decide_eq_true_eq, ← isLazyb_iff]
  constructor
  · rintro ⟨h1, h⟩
    exact ⟨⟨fun hk => (h1 hk).1, h⟩, fun hk => (h1 hk).2⟩
  · rintro ⟨⟨h1, h⟩, h2⟩
    exact ⟨fun hk => ⟨h1 hk, h2 hk⟩, h⟩

theorem chainb_iff : ∀ ops : List Op, chainb ops = true ↔ Chain ops
  | [] => by simp [chainb, Chain]
  | [_] => by simp [chainb, Chain]
  | a :: b :: rest => by
    simp only [chainb, Chain, Bool.and_eq_true, decide_eq_true_eq, chainb_iff (b :: rest)]

theorem contOK_iff (k : ContCls) (td : TreeDef) (ops : List Op) :
    allb (contClauses k td ops) = true ↔ ContOK k td ops := by
  cases k <;>
    simp only [contClauses, ContOK, allb_cons, allb_nil, Bool.and_true, and_true, Bool.and_eq_true, beq_iff_eq, List.all_eq_true,
      decide_eq_true_eq]

theorem isEmpty_not_iff (ops : List Op) : (!ops.isEmpty) = true ↔ ops ≠ [] := by
  cases ops <;> simp

/-- what `lazyOperands` of a wrapper adds to those of its operand -/
theorem forall_mem_lazy (P : Op → Prop) (b : Bool) (o : Op) (l : List Op) :
    (∀ a ∈ (if b = true then [o] else []) ++ l, P a) ↔ (b = true → P o) ∧ ∀ a ∈ l, P a := by
  rw [List.forall_mem_append]
  cases b <;> simp

section expr
variable (leafb : LeafCls → Params → Bool) (leafOK : LeafCls → Params → Prop)
  (hleaf : ∀ c p, leafb c p = true ↔ leafOK c p) (inv : Op → Prop)
include hleaf

theorem validWith_both :
    (∀ o : Op, WTExpr inv leafOK o ↔ validWith leafb o = true ∧ ∀ a ∈ lazyOperands o, inv a) ∧
    ∀ ops : List Op, WTList inv leafOK ops ↔ validWithList leafb ops = true ∧ ∀ a ∈ lazyOperandsList ops, inv a := by
  refine Op.induction_both (fun _ c p => ?_) (fun _ k o ih => ?_) (fun _ ops ih => ?_) (fun _ k td ops ih => ?_) ?_
    (fun o os ih ihs => ?_)
  · simp only [WTExpr, validWith, lazyOperands, List.not_mem_nil, false_imp_iff, implies_true, and_true, hleaf]
  · simp only [WTExpr, validWith, lazyOperands, Bool.and_eq_true, ih, wrapOK_iff, forall_mem_lazy]
    constructor
    · rintro ⟨⟨h1, h2⟩, h3, h4⟩
      exact ⟨⟨h1, h3⟩, h4, h2⟩
    · rintro ⟨⟨h1, h3⟩, h4, h2⟩
      exact ⟨⟨h1, h2⟩, h3, h4⟩
  · simp only [WTExpr, validWith, lazyOperands, Bool.and_eq_true, ih, chainb_iff, isEmpty_not_iff]
    exact and_rotate
  · simp only [WTExpr, validWith, lazyOperands, Bool.and_eq_true, ih, contOK_iff, isEmpty_not_iff]
    exact and_rotate
  · simp [WTList, validWithList, lazyOperandsList]
  · simp only [WTList, validWithList, lazyOperandsList, Bool.and_eq_true, ih, ihs, List.forall_mem_append]
    exact and_and_and_comm

/-- **`WTExpr` = the Boolean check (decided) + the invertibility of the operands of the lazy inverses** -/
theorem validWith_iff : ∀ o : Op,
    WTExpr inv leafOK o ↔ validWith leafb o = true ∧ ∀ a ∈ lazyOperands o, inv a :=
  (validWith_both leafb leafOK hleaf inv).1

theorem validWithList_iff : ∀ ops : List Op,
    WTList inv leafOK ops ↔ validWithList leafb ops = true ∧ ∀ a ∈ lazyOperandsList ops, inv a :=
  (validWith_both leafb leafOK hleaf inv).2

end expr

/-- the operands of the lazy inverses of a valid expression are valid -/
theorem lazyOperands_valid_both (leafb : LeafCls → Params → Bool) :
    (∀ o : Op, validWith leafb o = true → ∀ a ∈ lazyOperands o, validWith leafb a = true) ∧
    ∀ ops : List Op, validWithList leafb ops = true → ∀ a ∈ lazyOperandsList ops, validWith leafb a = true := by
  refine Op.induction_both (fun _ _ _ _ => ?_) (fun _ k o ih h => ?_) (fun _ ops ih h => ?_) (fun _ _ _ ops ih h => ?_)
    (fun _ => ?_) (fun o os ih ihs h => ?_)
  · simp [lazyOperands]
  · simp only [validWith, Bool.and_eq_true] at h
    rw [lazyOperands, forall_mem_lazy]
    exact ⟨fun _ => h.1, ih h.1⟩
  · simp only [validWith, Bool.and_eq_true] at h
    exact ih h.1.2
  · simp only [validWith, Bool.and_eq_true] at h
    exact ih h.1.2
  · simp [lazyOperandsList]
  · simp only [validWithList, Bool.and_eq_true] at h
    rw [lazyOperandsList, List.forall_mem_append]
    exact ⟨ih h.1, ihs h.2⟩

theorem lazyOperandsList_valid (leafb : LeafCls → Params → Bool) : ∀ ops : List Op, validWithList leafb ops = true →
    ∀ a ∈ lazyOperandsList ops, validWith leafb a = true :=
  (lazyOperands_valid_both leafb).2

/-! ### the diagnostic agrees with the check -/

theorem invalidReasonWith_none_both (leafb : LeafCls → Params → Bool) (leafR : LeafCls → Params → Option String)
    (h : ∀ c p, leafR c p = none ↔ leafb c p = true) :
    (∀ o : Op, invalidReasonWith leafR o = none ↔ validWith leafb o = true) ∧
    ∀ ops : List Op, invalidReasonWithList leafR ops = none ↔ validWithList leafb ops = true := by
  refine Op.induction_both (fun _ c p => ?_) (fun _ k o ih => ?_) (fun _ ops ih => ?_) (fun _ k td ops ih => ?_) ?_
    (fun o os ih ihs => ?_)
  · simp only [invalidReasonWith, validWith, h]
  · simp only [invalidReasonWith, validWith, Bool.and_eq_true, ← ih, ← firstFail_none_iff]
    cases invalidReasonWith leafR o <;> simp
  · simp only [invalidReasonWith, validWith, Bool.and_eq_true, ← ih]
    cases ops.isEmpty <;> cases invalidReasonWithList leafR ops <;> cases chainb ops <;> simp
  · simp only [invalidReasonWith, validWith, Bool.and_eq_true, ← ih, ← firstFail_none_iff]
    cases ops.isEmpty <;> cases invalidReasonWithList leafR ops <;> simp
  · simp [invalidReasonWithList, validWithList]
  · simp only [invalidReasonWithList, validWithList, Bool.and_eq_true, ← ih, ← ihs]
    cases invalidReasonWith leafR o <;> simp

theorem invalidReasonWith_none_iff (leafb : LeafCls → Params → Bool) (leafR : LeafCls → Params → Option String)
    (h : ∀ c p, leafR c p = none ↔ leafb c p = true) : ∀ o : Op,
    invalidReasonWith leafR o = none ↔ validWith leafb o = true :=
  (invalidReasonWith_none_both leafb leafR h).1

theorem invalidReasonWithList_none_iff (leafb : LeafCls → Params → Bool) (leafR : LeafCls → Params → Option String)
    (h : ∀ c p, leafR c p = none ↔ leafb c p = true) : ∀ ops : List Op,
    invalidReasonWithList leafR ops = none ↔ validWithList leafb ops = true :=
  (invalidReasonWith_none_both leafb leafR h).2

/-- the diagnostic is `none` exactly when the check passes -/
theorem invalidReason_none_iff (o : Op) : invalidReason o = none ↔ validb o = true :=
  invalidReasonWith_none_iff leafOKb leafReason leafReason_none_iff o

/-! ### the hypothesis of `reduce_sound_closed` -/

/-- **`WTExpr inv listLeafOK o` is `validb o` (decided) plus the invertibility of the operands of the lazy inverses
(the one promise the check cannot decide)** -/
theorem validb_iff (inv : Op → Prop) (o : Op) :
    WTExpr inv listLeafOK o ↔ validb o = true ∧ ∀ a ∈ lazyOperands o, inv a :=
  validWith_iff leafOKb listLeafOK leafOKb_iff inv o

/-- **soundness**: `WrapOK inv k a` asks `inv a` of the OPERAND `a` of every lazy inverse `.wrap u k a`
(`k ∈ {inverse, qurotT, diagInv}`); these operands are `lazyOperands o` -/
theorem validb_sound (inv : Op → Prop) (o : Op) (h : validb o = true) (hinv : ∀ a ∈ lazyOperands o, inv a) :
    WTExpr inv listLeafOK o := (validb_iff inv o).mpr ⟨h, hinv⟩

/-- **completeness**: an expression in the domain of the theorems passes the check -/
theorem validb_complete (inv : Op → Prop) (o : Op) (h : WTExpr inv listLeafOK o) : validb o = true :=
  ((validb_iff inv o).mp h).1

/-- without its invertibility part (the form `tags_truthful_closed` and the adjointness theorems use) the
well-formedness predicate is decided -/
theorem validb_iff_noInv (o : Op) : WTExpr (fun _ => True) listLeafOK o ↔ validb o = true := by
  simpa using validb_iff (fun _ => True) o

instance (o : Op) : Decidable (WTExpr (fun _ => True) listLeafOK o) := decidable_of_iff _ (validb_iff_noInv o).symm

/-- structural well-formedness is decided (no invertibility is asked) -/
theorem structOK_iff (o : Op) : StructOK o ↔ validWith (fun _ _ => true) o = true := by
  have := validWith_iff (fun _ _ => true) (fun _ _ => True) (fun _ _ => by simp) (fun _ => True) o
  simpa [StructOK] using this

instance (o : Op) : Decidable (StructOK o) := decidable_of_iff _ (structOK_iff o).symm

/-- a valid diagonal without zero entry is invertible (`ListSem.diagonal_inverts` in the shape `WrapOK` asks) -/
theorem diagonal_invertibleG (E : Env) (u : Nat) (p : Params) (h : diagonalOK p) (hw : p.vals.wellFormed = true)
    (hnz : ∀ v ∈ p.vals.data, v ≠ 0) : invertibleG E (.leaf u .diagonal p) := by
  have I := diagonal_inverts E 0 u p h hw hnz
  refine invertibleG_of E _ (StructOK_leaf _ _ _) rfl
    ⟨den E (.wrap 0 .diagInv (.leaf u .diagonal p)), fun x hx => ⟨I.len' x hx, I.right x hx, I.left x hx⟩,
      fun a x _ => (homLaw E (leafHom E)).1 _ a x⟩
    (fun hq => by simp [Op.isQURot, Op.isLeafCls] at hq) (fun u' p' he => ?_)
  cases he
  exact ⟨I.left, fun x hx => I.right x hx⟩

/-- **the operands `invDecidedb` accepts are invertible**: rotations and diagonals without zero entry -/
theorem invDecided_invertibleG (E : Env) (a : Op) (hv : validb a = true) (hd : invDecidedb a = true) :
    invertibleG E a := by
  unfold invDecidedb at hd
  split at hd
  · exact qurot_invertibleG E _ _ ((leafOKb_iff _ _).mp hv)
  · rw [Bool.and_eq_true, List.all_eq_true] at hd
    exact diagonal_invertibleG E _ _ ((leafOKb_iff _ _).mp hv) hd.1 fun v hv' => bne_iff_ne.mp (hd.2 v hv')
  · cases hd

/-- for the list denotation only the operands of the lazy inverses that are neither rotations nor diagonals without
zero entry (`promises o`) are left to promise -/
theorem validb_sound_list (E : Env) (o : Op) (h : validb o = true)
    (hinv : ∀ a ∈ promises o, invertibleG E a) :
    WTExpr (listArithSem E).invertible listLeafOK o := by
  refine validb_sound _ o h fun a ha => ?_
  cases hd : invDecidedb a with
  | false => exact hinv a (by simp [promises, ha, hd])
  | true => exact invDecided_invertibleG E a ((lazyOperands_valid_both leafOKb).1 o h a ha) hd

theorem promises_nil_iff (o : Op) : promises o = [] ↔ noPromiseb o = true := by
  simp [promises, noPromiseb, List.filter_eq_nil_iff]

/-! ### the hypotheses of `transpose_is_adjoint_closed` -/

theorem adjLeafOKb_iff (c : LeafCls) (p : Params) : adjLeafOKb c p = true ↔ adjLeafOK c p := by
  have := leafOKb_iff c p
  unfold leafOKb at this
  simp only [adjLeafOKb, adjLeafClauses, allb_append, allb_cons, allb_nil, Bool.and_true, Bool.and_eq_true, this,
    adjLeafOK, bne_iff_ne]

theorem adjLeafOKb_eq (c : LeafCls) (p : Params) : adjLeafOKb c p = (leafOKb c p && c != .broadcastDiagonal) := by
  simp only [adjLeafOKb, adjLeafClauses, leafOKb, allb_append, allb_cons, allb_nil, Bool.and_true]

theorem adjLeafReason_none_iff (c : LeafCls) (p : Params) : adjLeafReason c p = none ↔ adjLeafOKb c p = true :=
  firstFail_none_iff _

theorem isDiagonalLeaf_iff (o : Op) : isDiagonalLeaf o = true ↔ ∃ u p, o = .leaf u .diagonal p := by
  unfold isDiagonalLeaf
  split
  · exact iff_of_true rfl ⟨_, _, rfl⟩
  · rename_i h
    exact iff_of_false Bool.false_ne_true fun ⟨u, p, e⟩ => h u p e

theorem tformb_both : (∀ o : Op, tformb o = true ↔ TFormOK o) ∧ ∀ ops : List Op, tformListb ops = true ↔ TFormOKList ops := by
  refine Op.induction_both (fun _ c p => ?_) (fun _ k o _ => ?_) (fun _ ops ih => ?_) (fun _ _ _ ops ih => ?_) ?_
    (fun o os ih ihs => ?_)
  · simp only [tformb, TFormOK, denseSharedb_eq, ne_or_iff]
  · simp only [tformb, TFormOK, ne_or_iff, isDiagonalLeaf_iff]
  · simp only [tformb, TFormOK, ih]
  · simp only [tformb, TFormOK, ih]
  · simp [tformListb, TFormOKList]
  · simp only [tformListb, TFormOKList, Bool.and_eq_true, ih, ihs]

theorem tformb_iff : ∀ o : Op, tformb o = true ↔ TFormOK o := tformb_both.1

theorem tformListb_iff : ∀ ops : List Op, tformListb ops = true ↔ TFormOKList ops := tformb_both.2

theorem wftb_both : (∀ o : Op, wftb o = true ↔ o.WFT) ∧ ∀ ops : List Op, wftListb ops = true ↔ Op.WFTList ops := by
  refine Op.induction_both (fun _ c p => ?_) (fun _ _ _ _ => ?_) (fun _ ops ih => ?_) (fun _ _ _ ops ih => ?_) ?_
    (fun o os ih ihs => ?_)
  · simp only [wftb, Op.WFT, not_or_iff, decide_eq_true_eq]
  · simp [wftb, Op.WFT]
  · simp only [wftb, Op.WFT, ih]
  · simp only [wftb, Op.WFT, ih]
  · simp [wftListb, Op.WFTList]
  · simp only [wftListb, Op.WFTList, Bool.and_eq_true, ih, ihs]

theorem wftListb_iff : ∀ ops : List Op, wftListb ops = true ↔ Op.WFTList ops := wftb_both.2

/-- **the hypotheses of `transpose_is_adjoint_closed` are decided** (no invertibility is asked there) -/
theorem validTb_iff (o : Op) : validTb o = true ↔ ValidT o ∧ o.WFT := by
  have h := validWith_iff adjLeafOKb adjLeafOK adjLeafOKb_iff (fun _ => True) o
  simp only [implies_true, and_true] at h
  simp only [validTb, Bool.and_eq_true, ← h, tformb_iff, wftb_both.1, ValidT, ListSem.Valid]

theorem invalidReasonT_none_iff (o : Op) : invalidReasonT o = none ↔ validTb o = true := by
  unfold invalidReasonT validTb
  rw [Bool.and_eq_true, Bool.and_eq_true, ← invalidReasonWith_none_iff adjLeafOKb adjLeafReason adjLeafReason_none_iff o]
  cases invalidReasonWith adjLeafReason o <;> cases tformb o <;> cases wftb o <;> simp

instance (o : Op) : Decidable (ValidT o ∧ o.WFT) := decidable_of_iff _ (validTb_iff o)

#print axioms leafOKb_iff
#print axioms validb_iff
#print axioms validb_sound
#print axioms validb_complete
#print axioms validb_sound_list
#print axioms invDecided_invertibleG
#print axioms validTb_iff
#print axioms invalidReason_none_iff
#print axioms invalidReasonT_none_iff

end Valid
end Furax
